import QV.C30.Props
set_option linter.unusedSimpArgs false
namespace QV.C30.Trial
open QV QV.C30
variable {K : Type}

theorem hasType_iff' (Γ : Decls) (n : String) (p : ScalarType → Bool) :
    hasType Γ n p = true ↔ ∃ t, Γ.get n = some t ∧ p t = true := by
  unfold hasType
  cases Γ.get n <;> simp

theorem sameType_iff' (Γ : Decls) (a b : String) (p : ScalarType → Bool) :
    sameType Γ a b p = true ↔ ∃ t, Γ.get a = some t ∧ Γ.get b = some t ∧ p t = true := by
  unfold sameType
  cases Γ.get a <;> cases Γ.get b <;> simp
  intro _; exact eq_comm

theorem types (t : ScalarType) :
    (notReal t = true ↔ t ≠ .real) ∧ (isReal t = true ↔ t = .real) ∧ (isInteger t = true ↔ t = .integer) ∧
    (isBit t = true ↔ t = .bit) ∧ (isNumeric t = true ↔ t.numeric) := by
  cases t <;> simp [notReal, isReal, isInteger, isBit, isNumeric, ScalarType.numeric]

theorem wellTypedB_iff (isRealLit : K → Bool) (Γ : Decls) (i : Instr K) :
    wellTypedB isRealLit Γ i = true ↔ WellTyped isRealLit Γ i := by
  constructor
  · intro h
    -- every shape of instruction has one rule; the checker's conjuncts are its premises
    rcases i with ⟨k, e⟩ | ⟨d, _ | _ | s⟩ | ⟨d, l, _ | _ | r⟩ | ⟨d, _ | s⟩ | ⟨_ | _, x⟩ | ⟨d, _ | _ | s⟩ | ⟨l, r⟩ |
        ⟨d, s, o⟩ | ⟨d, o, _ | _ | s⟩ | _ <;>
      simp only [wellTypedB, Bool.and_eq_true, hasType_iff', sameType_iff', (types _).1, (types _).2.1,
        (types _).2.2.1, (types _).2.2.2.1, (types _).2.2.2.2, C30_realExprB_iff] at h
    all_goals first
      | exact .other
      | exact .realArg h
      | (obtain ⟨t, h1, rfl⟩ := h; constructor <;> assumption)
      | (obtain ⟨t, h1, h2⟩ := h; constructor <;> assumption)
      | (obtain ⟨t, h1, h2, h3⟩ := h; constructor <;> assumption)
      | (obtain ⟨⟨t, h1, rfl⟩, t', h2, rfl⟩ := h; constructor <;> assumption)
      | (obtain ⟨⟨t, h1, rfl⟩, t', h2, h3⟩ := h; constructor <;> assumption)
      | (obtain ⟨⟨t, h1, h2⟩, t', h3, rfl⟩ := h; constructor <;> assumption)
      | (obtain ⟨⟨t, h1, h2⟩, t', h3, h4⟩ := h; constructor <;> assumption)
      | (obtain ⟨⟨t, h1, rfl⟩, t', h2, h3, h4⟩ := h; constructor <;> assumption)
      | (obtain ⟨⟨t, h1, h2, h3⟩, t', h4, rfl⟩ := h; constructor <;> assumption)
  · intro h
    cases h <;> simp_all [wellTypedB, hasType, sameType, notReal, isReal, isInteger, isBit, C30_realExprB_iff]
    all_goals (rename_i t _ <;> cases t <;> simp_all [isNumeric, ScalarType.numeric])

end QV.C30.Trial
