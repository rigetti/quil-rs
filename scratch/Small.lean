import QV.C20.Props
import QV.C34.Lemmas
namespace QV.C20.Trial
open QV.C20
variable {K : Type}

theorem errAt_bad' {defs : List (Def K)} {sel : String → Bool} {stack : List String} {src : List (Instr K)}
    {e : Err} (h : ErrAt defs sel stack src e) : Bad defs sel stack src :=
  misuseAt_bad (errAt_misuseAt h)

theorem binds_of_nodup' {V : Type} (formals : List String) (actuals : List V) (hn : formals.Nodup)
    (i : Nat) (v : String) (a : V) (hv : formals[i]? = some v) (ha : actuals[i]? = some a) :
    Binds formals actuals v a :=
  ⟨i, hv, ha, fun j hj hc =>
    Nat.ne_of_lt hj ((List.getElem?_inj (List.getElem?_eq_some_iff.1 hv).1 hn).1 (hv.trans hc.symm))⟩

/-- fuel above the number of definitions is irrelevant, for every outcome -/
theorem expandFuel_eq_expand (defs : List (Def K)) (sel : String → Bool) (fuel : Nat) (src : List (Instr K))
    (h : defs.length < fuel) : expandFuel defs sel fuel [] src = expand defs sel src := by
  have hf := Nat.lt_of_lt_of_le (remaining_nil_lt defs) h
  cases he : expand defs sel src with
  | ok out => exact (expandFuel_ok_iff defs sel fuel [] hf src out).2 ((C20_expand_ok_iff defs sel src out).1 he)
  | err e => exact (expandFuel_err_iff defs sel fuel [] hf src e).2 ((C20_expand_err_iff defs sel src e).1 he)
  | outOfFuel => exact absurd he (C20_terminates defs sel src)

end QV.C20.Trial

namespace QV.C34.Trial
open QV.C34

/-- the label table always exists; one entry per placeholder, labels unused and pairwise distinct -/
theorem assignLabels_spec' : ∀ (ps : List (Nat × String)) (used : List String),
    ∃ r, assignLabels ps used = some r ∧
      r.map Prod.fst = ps.map Prod.fst ∧ (∀ kv ∈ r, kv.2 ∉ used) ∧ r.Pairwise (fun a b => a.2 ≠ b.2)
  | [], used => ⟨[], rfl, rfl, nofun, .nil⟩
  | (k, base) :: rest, used => by
    cases hf : freshLabel base used (labelFuel used) 0 with
    | none => exact absurd hf (freshLabel_total base used _ 0 (by simp [labelFuel]) (by simp [labelFuel]))
    | some l =>
      obtain ⟨r, hr, h1, h2, h3⟩ := assignLabels_spec' rest (l :: used)
      refine ⟨(k, l) :: r, by simp [assignLabels, hf, hr], by simp [h1], ?_, List.pairwise_cons.2 ⟨?_, h3⟩⟩
      · exact List.forall_mem_cons.2 ⟨(freshLabel_sound base used _ _ _ hf).1,
          fun kv hkv hm => h2 kv hkv (List.mem_cons_of_mem _ hm)⟩
      · exact fun kv hkv e => h2 kv hkv (e ▸ List.mem_cons_self)

end QV.C34.Trial
