import QV.C34.Props
namespace QV.C34.Trial
open QV.C34

/-- One resolution table read through `ph` (which placeholder a slot holds, if any) and `fx` (the slot holding a
value): defined, injective and fresh on the placeholders of `l`. -/
theorem resolved_of_table {α V : Type} (ph : α → Option Nat) (fx : V → α) (r : Nat → Option V) (f : α → α)
    (l : List α)
    (hf : ∀ a k v, ph a = some k → r k = some v → f a = fx v)
    (hfx : ∀ v v', fx v = fx v' → v = v')
    (hcov : ∀ a ∈ l, ∀ k, ph a = some k → ∃ v, r k = some v)
    (hinj : ∀ a ∈ l, ∀ a' ∈ l, ∀ k k' v, ph a = some k → ph a' = some k' → r k = some v → r k' = some v → k = k')
    (hfresh : ∀ a ∈ l, ∀ k v, ph a = some k → r k = some v → fx v ∉ l) :
    (∀ a ∈ l, ∀ k, ph a = some k → ∃ v, f a = fx v) ∧
    (∀ a ∈ l, ∀ a' ∈ l, ∀ k k', ph a = some k → ph a' = some k' → (k = k' ↔ f a = f a')) ∧
    (∀ a ∈ l, ∀ k, ph a = some k → f a ∉ l) := by
  refine ⟨fun a ha k hk => ?_, fun a ha a' ha' k k' hk hk' => ?_, fun a ha k hk => ?_⟩
  · obtain ⟨v, hv⟩ := hcov a ha k hk
    exact ⟨v, hf a k v hk hv⟩
  · obtain ⟨v, hv⟩ := hcov a ha k hk
    obtain ⟨v', hv'⟩ := hcov a' ha' k' hk'
    rw [hf a k v hk hv, hf a' k' v' hk' hv']
    constructor
    · rintro rfl; rw [Option.some.inj (hv.symm.trans hv')]
    · intro e; cases hfx _ _ e; exact hinj a ha a' ha' k k' v hk hk' hv hv'
  · obtain ⟨v, hv⟩ := hcov a ha k hk
    rw [hf a k v hk hv]
    exact hfresh a ha k v hk hv

def qph : Qubit → Option Nat
  | .placeholder k => some k
  | _ => none

def tph : Target → Option Nat
  | .placeholder k _ => some k
  | _ => none

theorem mem_qpairs_resolve' (tr : Nat → Option String) (qr : Nat → Option Nat) {body : List Instr} {p : Qubit × Qubit}
    (h : p ∈ qpairs Instr.getQubits body (resolveWith tr qr body)) :
    ∃ q ∈ body.flatMap Instr.getQubits, (q, q.resolve qr) = p := by
  sorry
theorem mem_tpairs_resolve' (tr : Nat → Option String) (qr : Nat → Option Nat) {body : List Instr} {p : Target × Target}
    (h : p ∈ tpairs body (resolveWith tr qr body)) : ∃ t ∈ getTargets body, (t, t.resolve tr) = p := by
  sorry

theorem qubitsResolved_of_resolver' (body : List Instr) (tr : Nat → Option String) (qr : Nat → Option Nat)
    (hcov : ∀ k, Qubit.placeholder k ∈ body.flatMap Instr.getQubits → ∃ n, qr k = some n)
    (hinj : ∀ k k' n, Qubit.placeholder k ∈ body.flatMap Instr.getQubits →
      Qubit.placeholder k' ∈ body.flatMap Instr.getQubits → qr k = some n → qr k' = some n → k = k')
    (hfresh : ∀ k n, Qubit.placeholder k ∈ body.flatMap Instr.getQubits → qr k = some n →
      Qubit.fixed n ∉ body.flatMap Instr.getQubits) :
    QubitsResolved Instr.getQubits body (resolveWith tr qr body) := by
  obtain ⟨g1, g2, g3⟩ := resolved_of_table qph Qubit.fixed qr (Qubit.resolve qr) (body.flatMap Instr.getQubits)
    (fun a k v h hr => by cases a <;> cases h; simp [Qubit.resolve, hr])
    (fun _ _ => Qubit.fixed.inj)
    (fun a ha k h => by cases a <;> cases h; exact hcov _ ha)
    (fun a ha a' ha' k k' v h h' => by cases a <;> cases h; cases a' <;> cases h'; exact hinj _ _ _ ha ha')
    (fun a ha k v h => by cases a <;> cases h; exact hfresh _ _ ha)
  refine ⟨fun p hp => ?_, fun p hp p' hp' k k' h1 h2 => ?_, fun p hp k h1 => ?_⟩
  · obtain ⟨q, hq, rfl⟩ := mem_qpairs_resolve' tr qr hp
    cases q with
    | placeholder k => exact g1 _ hq k rfl
    | _ => rfl
  · obtain ⟨q, hq, rfl⟩ := mem_qpairs_resolve' tr qr hp
    obtain ⟨q', hq', rfl⟩ := mem_qpairs_resolve' tr qr hp'
    subst h1 h2
    exact g2 _ hq _ hq' k k' rfl rfl
  · obtain ⟨q, hq, rfl⟩ := mem_qpairs_resolve' tr qr hp
    subst h1
    exact g3 _ hq k rfl

theorem targetsResolved_of_resolver' (body : List Instr) (tr : Nat → Option String) (qr : Nat → Option Nat)
    (hcov : ∀ k b, Target.placeholder k b ∈ getTargets body → ∃ l, tr k = some l)
    (hinj : ∀ k b k' b' l, Target.placeholder k b ∈ getTargets body →
      Target.placeholder k' b' ∈ getTargets body → tr k = some l → tr k' = some l → k = k')
    (hfresh : ∀ k b l, Target.placeholder k b ∈ getTargets body → tr k = some l →
      Target.fixed l ∉ getTargets body) :
    TargetsResolved body (resolveWith tr qr body) := by
  obtain ⟨g1, g2, g3⟩ := resolved_of_table tph Target.fixed tr (Target.resolve tr) (getTargets body)
    (fun a k v h hr => by cases a <;> cases h; simp [Target.resolve, hr])
    (fun _ _ => Target.fixed.inj)
    (fun a ha k h => by cases a <;> cases h; exact hcov _ _ ha)
    (fun a ha a' ha' k k' v h h' => by cases a <;> cases h; cases a' <;> cases h'; exact hinj _ _ _ _ _ ha ha')
    (fun a ha k v h => by cases a <;> cases h; exact hfresh _ _ _ ha)
  refine ⟨fun p hp => ?_, fun p hp p' hp' k b k' b' h1 h2 => ?_, fun p hp k b h1 => ?_⟩
  · obtain ⟨t, ht, rfl⟩ := mem_tpairs_resolve' tr qr hp
    cases t with
    | placeholder k b => exact g1 _ ht k rfl
    | fixed s => rfl
  · obtain ⟨t, ht, rfl⟩ := mem_tpairs_resolve' tr qr hp
    obtain ⟨t', ht', rfl⟩ := mem_tpairs_resolve' tr qr hp'
    subst h1 h2
    exact g2 _ ht _ ht' k k' rfl rfl
  · obtain ⟨t, ht, rfl⟩ := mem_tpairs_resolve' tr qr hp
    subst h1
    exact g3 _ ht k rfl

end QV.C34.Trial
