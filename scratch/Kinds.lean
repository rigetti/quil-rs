import QV.C20.Props
namespace QV.C20.Trial
open QV.C20
variable {K : Type} {defs : List (Def K)} {sel : String → Bool} {stack : List String}

/-- `MisuseAt` looks at the instructions of the source one by one. -/
theorem misuseAt_iff_exists {src : List (Instr K)} {k : Kind} :
    MisuseAt defs sel stack src k ↔ ∃ i ∈ src, MisuseAt defs sel stack [i] k := by
  constructor
  · intro h
    cases h with
    | here hi hm => exact ⟨_, hi, .here List.mem_cons_self hm⟩
    | inside hg hsel hm hns hinst hin => exact ⟨_, hg, .inside List.mem_cons_self hsel hm hns hinst hin⟩
  · rintro ⟨i, hi, h⟩
    cases h with
    | here hj hm => cases List.mem_singleton.1 hj; exact .here hi hm
    | inside hg hsel hm hns hinst hin => cases List.mem_singleton.1 hg; exact .inside hi hsel hm hns hinst hin

theorem kindsWith_eq_flatMap (nested : List String → List (Instr K) → List Kind) (src : List (Instr K)) :
    kindsWith defs sel nested stack src = src.flatMap fun i => kindsWith defs sel nested stack [i] := by
  induction src with
  | nil => rfl
  | cons i rest ih => rw [List.flatMap_cons, ← ih]; simp only [kindsWith, List.append_nil]

theorem kindsWith_iff' (defs : List (Def K)) (sel : String → Bool)
    (nested : List String → List (Instr K) → List Kind) (stack : List String)
    (H : ∀ name body k, name ∉ stack → name ∈ defs.map (·.name) →
      (k ∈ nested (stack ++ [name]) body ↔ MisuseAt defs sel (stack ++ [name]) body k))
    (src : List (Instr K)) (k : Kind) :
    k ∈ kindsWith defs sel nested stack src ↔ MisuseAt defs sel stack src k := by
  rw [kindsWith_eq_flatMap, List.mem_flatMap, misuseAt_iff_exists]
  refine exists_congr fun i => and_congr_right fun _ => ?_
  simp only [kindsWith, List.append_nil, List.mem_append, mem_localKinds_iff]
  constructor
  · rintro (h | h)
    · exact .here List.mem_cons_self h
    · split at h
      · next body name hg =>
        obtain ⟨hns, hnd⟩ := gsfi_some_name hg
        obtain ⟨g, d, body0, rfl, hsel, hm, hns', hinst, rfl, rfl⟩ := (gsfi_some_iff _ _ _ _ _ _).1 hg
        exact .inside List.mem_cons_self hsel hm hns' hinst ((H _ _ _ hns hnd).1 h)
      · cases h
  · intro h
    cases h with
    | here hi hm => cases List.mem_singleton.1 hi; exact .inl hm
    | inside hg hsel hm hns hinst hin =>
      cases List.mem_singleton.1 hg
      have hgs := (gsfi_some_iff _ _ _ _ _ _).2 ⟨_, _, _, rfl, hsel, hm, hns, hinst, rfl, rfl⟩
      obtain ⟨hns0, hnd⟩ := gsfi_some_name hgs
      rw [hgs]
      exact .inr ((H _ _ _ hns0 hnd).2 hin)

theorem misuseAt_mono' {src src' : List (Instr K)} {k : Kind} (h : MisuseAt defs sel stack src k)
    (hs : ∀ i ∈ src, i ∈ src') : MisuseAt defs sel stack src' k :=
  let ⟨i, hi, h⟩ := misuseAt_iff_exists.1 h
  misuseAt_iff_exists.2 ⟨i, hs i hi, h⟩

theorem err_iff_not_ok (defs : List (Def K)) (sel : String → Bool) (src : List (Instr K)) :
    (∃ e, expand defs sel src = .err e) ↔ ¬ ∃ out, expand defs sel src = .ok out := by
  have := C20_terminates defs sel src
  cases h : expand defs sel src <;> simp_all

theorem C20_error_iff_bad' (defs : List (Def K)) (sel : String → Bool) (src : List (Instr K)) :
    (∃ e, expand defs sel src = .err e) ↔ Bad defs sel [] src :=
  ⟨fun ⟨e, h⟩ => errAt_bad ((C20_expand_err_iff defs sel src e).1 h),
    fun hb => (err_iff_not_ok defs sel src).2 fun ⟨out, h⟩ =>
      bad_not_expands hb out ((C20_expand_ok_iff defs sel src out).1 h)⟩

theorem C20_error_iff_no_pure' (defs : List (Def K)) (sel : String → Bool) (src : List (Instr K)) :
    (∃ e, expand defs sel src = .err e) ↔ ¬ ∃ out, ExpandsPure defs sel src out :=
  (err_iff_not_ok defs sel src).trans
    (not_congr (exists_congr fun out => C20_expand_ok_iff_pure defs sel src out))

end QV.C20.Trial
