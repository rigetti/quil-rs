import QV.C20.Lemmas
namespace QV.C20
variable {K : Type} {defs : List (Def K)} {sel : String → Bool} {stack : List String} {i : Instr K}

/-- What the specification says of each outcome of expanding `src` below `stack`: a result is the
replacement (`Expands`), an error the first misuse in depth-first order (`ErrAt`), and nothing runs out
of fuel. -/
def Sem (defs : List (Def K)) (sel : String → Bool) (stack : List String) (src : List (Instr K)) :
    Outcome (List (Instr K)) → Prop
  | .ok out => Expands defs sel stack src out
  | .err e => ErrAt defs sel stack src e
  | .outOfFuel => False

/-- The loop computes `Sem` if the nested call does. -/
theorem expandWith_eq_iff (defs : List (Def K)) (sel : String → Bool)
    (nested : List String → List (Instr K) → Outcome (List (Instr K))) (stack : List String)
    (H : ∀ name body o, name ∉ stack → name ∈ defs.map (·.name) →
      (nested (stack ++ [name]) body = o ↔ Sem defs sel (stack ++ [name]) body o))
    (src : List (Instr K)) (o : Outcome (List (Instr K))) :
    expandWith defs sel nested stack src = o ↔ Sem defs sel stack src o := by
  induction src generalizing o with
  | nil =>
    cases o with
    | ok out => exact ⟨fun h => by cases h; exact .nil _, fun h => by cases h; rfl⟩
    | err e => exact ⟨nofun, nofun⟩
    | outOfFuel => exact ⟨nofun, nofun⟩
  | cons i rest ih =>
    rw [expandWith]
    cases hg : gateSequenceFromInstruction defs sel i stack with
    | error e' => cases o <;> simp [Sem, expands_cons_iff, errAt_cons_iff, hg]
    | ok r =>
      -- what the rest of the loop returns is what `Sem` says of the rest
      have hrest := (ih _).1 rfl
      have ihok := fun r => (ih (.ok r)).symm
      have iherr := fun e => (ih (.err e)).symm
      simp only [Sem] at ihok iherr
      cases r with
      | none =>
        cases o <;> simp only [Sem, expands_cons_iff, errAt_cons_iff, hg, ihok, iherr] <;>
          cases hr : expandWith defs sel nested stack rest <;> simp_all [Sem, eq_comm]
      | some p =>
        obtain ⟨hns, hnd⟩ := gsfi_some_name hg
        have hbody := (H p.2 p.1 _ hns hnd).1 rfl
        have Hok := fun b => (H p.2 p.1 (.ok b) hns hnd).symm
        have Herr := fun e => (H p.2 p.1 (.err e) hns hnd).symm
        simp only [Sem] at Hok Herr
        cases o <;> simp only [Sem, expands_cons_iff, errAt_cons_iff, hg, ihok, iherr, Hok, Herr] <;>
          cases hb : nested (stack ++ [p.2]) p.1 <;>
          cases hr : expandWith defs sel nested stack rest <;> simp_all [Sem, eq_comm]

theorem expandFuel_eq_iff (defs : List (Def K)) (sel : String → Bool) (fuel : Nat) (stack : List String)
    (hf : remaining defs stack < fuel) : ∀ (src : List (Instr K)) (o : Outcome (List (Instr K))),
    expandFuel defs sel fuel stack src = o ↔ Sem defs sel stack src o :=
  fuel_induction defs (fun _ stack ih => expandWith_eq_iff defs sel _ stack fun name _ _ hns hnd =>
    (ih name hns hnd).2 _ _) fuel stack hf

end QV.C20
