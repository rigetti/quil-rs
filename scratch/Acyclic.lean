import QV.C20.Lemmas
namespace QV.C20.Trial
open QV.C20
variable {K : Type} {defs : List (Def K)} {sel : String → Bool} {stack : List String}
  {g : Gate K} {d : Def K} {i : Instr K}
/-! The stack-free relation implies the stack-indexed one: finite derivations contain no cycle. -/

/-- `ExpandsPure` with a bound on the nesting depth of unfoldings -/
inductive ExpandsPureN (defs : List (Def K)) (sel : String → Bool) :
    Nat → List (Instr K) → List (Instr K) → Prop
  | nil (n) : ExpandsPureN defs sel n [] []
  | keep {n i rest out} :
      ¬ IsSelectedInvocation defs sel i → ExpandsPureN defs sel n rest out →
      ExpandsPureN defs sel n (i :: rest) (i :: out)
  | unfold {n g d body b rest out} :
      Selected defs sel g d → g.mods = [] → Instantiates d g body →
      ExpandsPureN defs sel n (body.map Instr.gate) b →
      ExpandsPureN defs sel (n + 1) rest out →
      ExpandsPureN defs sel (n + 1) (.gate g :: rest) (b ++ out)

theorem expandsPureN_mono {n m : Nat} {src out : List (Instr K)}
    (h : ExpandsPureN defs sel n src out) (hm : n ≤ m) : ExpandsPureN defs sel m src out := by
  induction h generalizing m with
  | nil => exact .nil _
  | keep hn _ ih => exact .keep hn (ih hm)
  | unfold hsel hmods hinst _ _ ih1 ih2 =>
    cases m with
    | zero => omega
    | succ m' => exact .unfold hsel hmods hinst (ih1 (by omega)) (ih2 (by omega))

theorem expandsPure_sized {src out : List (Instr K)}
    (h : ExpandsPure defs sel src out) : ∃ n, ExpandsPureN defs sel n src out := by
  induction h with
  | nil => exact ⟨0, .nil _⟩
  | keep hn _ ih => obtain ⟨n, h⟩ := ih; exact ⟨n, .keep hn h⟩
  | unfold hsel hm hinst _ _ ih1 ih2 =>
    obtain ⟨n1, h1⟩ := ih1
    obtain ⟨n2, h2⟩ := ih2
    exact ⟨max n1 n2 + 1, .unfold hsel hm hinst (expandsPureN_mono h1 (by omega)) (expandsPureN_mono h2 (by omega))⟩

/-- the definition named `u` has a sequence element named `v`, and `v` names a selected sequence definition -/
def Calls (defs : List (Def K)) (sel : String → Bool) (u v : String) : Prop :=
  ∃ du qv gs e dv, findDef defs u = some du ∧ du.spec = .seq qv gs ∧ e ∈ gs ∧ e.name = v ∧
    findDef defs v = some dv ∧ (∃ qv' gs', dv.spec = .seq qv' gs') ∧ sel v = true

abbrev CallsPlus (defs : List (Def K)) (sel : String → Bool) := Relation.TransGen (Calls defs sel)

/-- a selected invocation inside a bounded derivation is unfolded one level deeper -/
theorem expandsPureN_extract {n : Nat} {src out : List (Instr K)}
    (h : ExpandsPureN defs sel n src out) (hg : Instr.gate g ∈ src)
    (hsel : Selected defs sel g d) :
    ∃ n' body b, n = n' + 1 ∧ Instantiates d g body ∧ ExpandsPureN defs sel n' (body.map Instr.gate) b := by
  induction h with
  | nil => simp at hg
  | keep hn _ ih =>
    cases hg with
    | head => exact absurd ⟨_, _, rfl, hsel⟩ hn
    | tail _ hg' => exact ih hg'
  | @unfold n g0 d0 body b rest out hsel0 _ hinst hb _ _ ih2 =>
    cases hg with
    | head =>
      cases selected_unique hsel hsel0
      exact ⟨n, body, b, rfl, hinst, hb⟩
    | tail _ hg' => exact ih2 hg'

/-- some well-formed invocation of the definition named `v` has a body whose expansion has depth ≤ `n` -/
def Derivable (defs : List (Def K)) (sel : String → Bool) (n : Nat) (v : String) : Prop :=
  ∃ g d body b, Selected defs sel g d ∧ d.name = v ∧ Instantiates d g body ∧
    ExpandsPureN defs sel n (body.map Instr.gate) b

theorem selected_name (h : Selected defs sel g d) : d.name = g.name := (findDef_some h.1).2

theorem derivable_calls {n : Nat} {u v : String}
    (h : Derivable defs sel n u) (hc : Calls defs sel u v) : ∃ m, m < n ∧ Derivable defs sel m v := by
  obtain ⟨g, d, body, b, hsel, hdn, hinst, hder⟩ := h
  obtain ⟨du, qv, gs, e, dv, hfu, hsu, he, hen, hfv, hsv, hselv⟩ := hc
  have hdu : du = d := by
    have h1 := hsel.1
    rw [← selected_name hsel, hdn, hfu] at h1
    simpa using h1
  subst hdu
  obtain ⟨qv0, gs0, fs, σ, ρ, hs0, _, _, _, _, _, hpw⟩ := hinst
  rw [hsu] at hs0; cases hs0
  obtain ⟨be, hbe, hinstE⟩ := pointwise_mem_left hpw he
  have hbn : be.name = v := hinstE.name.trans hen
  have hselB : Selected defs sel be dv := ⟨by rw [hbn]; exact hfv, hsv, by rw [hbn]; exact hselv⟩
  obtain ⟨n', body', b', hn, hinst', hder'⟩ :=
    expandsPureN_extract hder (List.mem_map.2 ⟨be, hbe, rfl⟩) hselB
  exact ⟨n', by omega, be, dv, body', b', hselB, (selected_name hselB).trans hbn, hinst', hder'⟩

theorem derivable_callsPlus {n : Nat} {u v : String}
    (hc : CallsPlus defs sel u v) (h : Derivable defs sel n u) : ∃ m, m < n ∧ Derivable defs sel m v := by
  induction hc with
  | single h1 => exact derivable_calls h h1
  | tail _ h1 ih =>
    obtain ⟨m, hm, hd⟩ := ih
    obtain ⟨m', hm', hd'⟩ := derivable_calls hd h1
    exact ⟨m', by omega, hd'⟩

/-- **No cycle inside a finite derivation.** -/
theorem derivable_acyclic (n : Nat) (u : String) (h : Derivable defs sel n u) : ¬ CallsPlus defs sel u u := by
  induction n using Nat.strongRecOn generalizing u with
  | _ n ih =>
    intro hc
    obtain ⟨m, hm, hd⟩ := derivable_callsPlus hc h
    exact ih m hm u hd hc

theorem instance_calls {g g' : Gate K} {d d' : Def K}
    {body : List (Gate K)} (hsel : Selected defs sel g d) (hinst : Instantiates d g body)
    (hg' : Instr.gate g' ∈ body.map Instr.gate) (hsel' : Selected defs sel g' d') :
    Calls defs sel d.name d'.name := by
  obtain ⟨qv, gs, fs, σ, ρ, hs, _, _, _, _, _, hpw⟩ := hinst
  obtain ⟨x, hx, hxe⟩ := List.mem_map.1 hg'
  cases hxe
  obtain ⟨e, he, hE⟩ := pointwise_mem_right hpw hx
  have hn' := selected_name hsel'
  refine ⟨d, qv, gs, e, d', ?_, hs, he, by rw [hn']; exact hE.name.symm, ?_, hsel'.2.1, ?_⟩
  · rw [selected_name hsel]; exact hsel.1
  · rw [hn']; exact hsel'.1
  · rw [hn']; exact hsel'.2.2

theorem expandsPureN_expands {n : Nat} {src out : List (Instr K)}
    (h : ExpandsPureN defs sel n src out) (stack : List String)
    (hinv : ∀ s ∈ stack, ∀ g d, Instr.gate g ∈ src → Selected defs sel g d → CallsPlus defs sel s d.name) :
    Expands defs sel stack src out := by
  induction h generalizing stack with
  | nil => exact .nil _
  | keep hn _ ih =>
    exact .keep hn (ih stack fun s hs g d hg hsel => hinv s hs g d (by simp [hg]) hsel)
  | @unfold n g d body b rest out hsel hm hinst hb _ ih1 ih2 =>
    have hder : Derivable defs sel n d.name := ⟨g, d, body, b, hsel, rfl, hinst, hb⟩
    have hns : d.name ∉ stack := fun hin =>
      derivable_acyclic n d.name hder (hinv d.name hin g d (by simp) hsel)
    refine .unfold hsel hm hns hinst (ih1 (stack ++ [d.name]) ?_)
      (ih2 stack fun s hs g' d' hg' hsel' => hinv s hs g' d' (by simp [hg']) hsel')
    intro s hs g' d' hg' hsel'
    have hc := instance_calls hsel hinst hg' hsel'
    rcases List.mem_append.1 hs with hs | hs
    · exact .tail (hinv s hs g d (by simp) hsel) hc
    · simp at hs; subst hs; exact .single hc

end QV.C20.Trial
