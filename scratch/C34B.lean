import QV.C34.Props
namespace QV.C34

theorem all3_iff {α : Type} (ps : List α) {r f : α → Bool} {c : α → α → Bool}
    {R F : α → Prop} {C : α → α → Prop}
    (hr : ∀ p, r p = true ↔ R p) (hc : ∀ p p', c p p' = true ↔ C p p') (hf : ∀ p, f p = true ↔ F p) :
    (ps.all r && ps.all (fun p => ps.all (c p)) && ps.all f) = true ↔
      (∀ p ∈ ps, R p) ∧ (∀ p ∈ ps, ∀ p' ∈ ps, C p p') ∧ (∀ p ∈ ps, F p) := by
  simp only [Bool.and_eq_true, List.all_eq_true, hr, hc, hf, and_assoc]

theorem qubitsResolvedB_iff' (view : Instr → List Qubit) (body out : List Instr) :
    qubitsResolvedB view body out = true ↔ QubitsResolved view body out :=
  (all3_iff (qpairs view body out) (fun ⟨a, b⟩ => by cases a <;> cases b <;> simp)
    (fun ⟨a, b⟩ ⟨a', b'⟩ => by cases a <;> cases a' <;> simp)
    (fun ⟨a, b⟩ => by cases a <;> simp)).trans
    ⟨fun ⟨h1, h2, h3⟩ => ⟨h1, h2, h3⟩, fun h => ⟨h.replaced, h.consistent, h.fresh⟩⟩

theorem targetsResolvedB_iff' (body out : List Instr) :
    targetsResolvedB body out = true ↔ TargetsResolved body out :=
  (all3_iff (tpairs body out) (fun ⟨a, b⟩ => by cases a <;> cases b <;> simp)
    (fun ⟨a, b⟩ ⟨a', b'⟩ => by
      cases a <;> cases a' <;> simp
      rename_i k b k' b'
      exact ⟨fun h _ _ _ _ e _ e' _ => e ▸ e' ▸ h, fun h => h k b k' b' rfl rfl rfl rfl⟩)
    (fun ⟨a, b⟩ => by cases a <;> simp)).trans
    ⟨fun ⟨h1, h2, h3⟩ => ⟨h1, h2, h3⟩, fun h => ⟨h.replaced, h.consistent, h.fresh⟩⟩

end QV.C34
