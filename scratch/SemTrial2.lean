import QV.C20.Lemmas
namespace QV.C20
variable {K : Type} {defs : List (Def K)} {sel : String → Bool} {stack : List String} {i : Instr K}

/-- What the specification says of each outcome of expanding `src` below `stack`. -/
def Sem (defs : List (Def K)) (sel : String → Bool) (stack : List String) (src : List (Instr K)) :
    Outcome (List (Instr K)) → Prop
  | .ok out => Expands defs sel stack src out
  | .err e => ErrAt defs sel stack src e
  | .outOfFuel => False

/-- `Sem` obeys the recursion of the loop: the arms are the arms of `expandWith`. -/
theorem sem_cons_iff {rest : List (Instr K)} {o : Outcome (List (Instr K))} :
    Sem defs sel stack (i :: rest) o ↔
      match gateSequenceFromInstruction defs sel i stack with
      | .error e => o = .err e
      | .ok none => ∃ o', Sem defs sel stack rest o' ∧ o = (match o' with | .ok r => .ok (i :: r) | o' => o')
      | .ok (some (body, name)) => ∃ ob, Sem defs sel (stack ++ [name]) body ob ∧
          match ob with
          | .ok b => ∃ o', Sem defs sel stack rest o' ∧ o = (match o' with | .ok r => .ok (b ++ r) | o' => o')
          | ob => o = ob := by
  have hx := @expands_cons_iff K defs sel stack i rest
  have he := @errAt_cons_iff K defs sel stack i rest
  cases hg : gateSequenceFromInstruction defs sel i stack with
  | error e' =>
    simp only [hg] at hx he ⊢
    cases o with
    | ok out => simp [Sem, hx]
    | err e => simp [Sem, he, eq_comm]
    | outOfFuel => simp [Sem]
  | ok r =>
    cases r with
    | none =>
      simp only [hg] at hx he ⊢
      cases o with
      | ok out =>
        exact hx.trans ⟨fun ⟨r, hr, e⟩ => ⟨.ok r, hr, e ▸ rfl⟩, fun ⟨o', h, e⟩ => by
          cases o' <;> cases e <;> exact ⟨_, h, rfl⟩⟩
      | err e =>
        exact he.trans ⟨fun h => ⟨.err e, h, rfl⟩, fun ⟨o', h, e'⟩ => by cases o' <;> cases e' <;> exact h⟩
      | outOfFuel => exact ⟨nofun, fun ⟨o', h, e⟩ => by cases o' <;> cases e <;> exact h⟩
    | some p =>
      simp only [hg] at hx he ⊢
      cases o with
      | ok out =>
        exact hx.trans ⟨fun ⟨b, r, hb, hr, e⟩ => ⟨.ok b, hb, .ok r, hr, e ▸ rfl⟩, fun ⟨ob, hb, h⟩ => by
          cases ob with
          | ok b => obtain ⟨o', hr, e⟩ := h; cases o' <;> cases e <;> exact ⟨_, _, hb, hr, rfl⟩
          | err e => cases h
          | outOfFuel => cases h⟩
      | err e =>
        exact he.trans ⟨fun h => h.elim (fun h => ⟨.err e, h, rfl⟩) fun ⟨⟨b, hb⟩, hr⟩ => ⟨.ok b, hb, .err e, hr, rfl⟩,
          fun ⟨ob, hb, h⟩ => by
            cases ob with
            | ok b => obtain ⟨o', hr, e'⟩ := h; cases o' <;> cases e' <;> exact .inr ⟨⟨b, hb⟩, hr⟩
            | err e' => cases h; exact .inl hb
            | outOfFuel => cases h⟩
      | outOfFuel =>
        refine ⟨nofun, fun ⟨ob, hb, h⟩ => ?_⟩
        cases ob with
        | ok b => obtain ⟨o', hr, e⟩ := h; cases o' <;> cases e <;> exact hr
        | err e => cases h
        | outOfFuel => exact hb

/-- The loop computes `Sem` if the nested call does. -/
theorem expandWith_eq_iff (defs : List (Def K)) (sel : String → Bool)
    (nested : List String → List (Instr K) → Outcome (List (Instr K))) (stack : List String)
    (H : ∀ name body o, name ∉ stack → name ∈ defs.map (·.name) →
      (nested (stack ++ [name]) body = o ↔ Sem defs sel (stack ++ [name]) body o))
    (src : List (Instr K)) (o : Outcome (List (Instr K))) :
    expandWith defs sel nested stack src = o ↔ Sem defs sel stack src o := by
  induction src generalizing o with
  | nil =>
    cases o with
    | ok out => exact ⟨fun h => by cases h; exact .nil _, fun h => by cases h; rfl⟩
    | err e => exact ⟨nofun, nofun⟩
    | outOfFuel => exact ⟨nofun, nofun⟩
  | cons i rest ih =>
    rw [sem_cons_iff, expandWith]
    cases hg : gateSequenceFromInstruction defs sel i stack with
    | error e => exact eq_comm
    | ok r =>
      cases r with
      | none => simp only [← ih, exists_eq_left']; exact eq_comm
      | some p =>
        obtain ⟨hns, hnd⟩ := gsfi_some_name hg
        simp only [← ih, ← H _ _ _ hns hnd, exists_eq_left']
        cases nested (stack ++ [p.2]) p.1 <;> simp only [exists_eq_left'] <;> exact eq_comm

theorem expandFuel_eq_iff (defs : List (Def K)) (sel : String → Bool) (fuel : Nat) (stack : List String)
    (hf : remaining defs stack < fuel) : ∀ (src : List (Instr K)) (o : Outcome (List (Instr K))),
    expandFuel defs sel fuel stack src = o ↔ Sem defs sel stack src o :=
  fuel_induction defs (fun _ stack ih => expandWith_eq_iff defs sel _ stack fun name _ _ hns hnd =>
    (ih name hns hnd).2 _ _) fuel stack hf

/-- Fuel above the number of definitions is irrelevant, for every outcome. -/
theorem expandFuel_eq_expand (defs : List (Def K)) (sel : String → Bool) (fuel : Nat) (src : List (Instr K))
    (h : defs.length < fuel) : expandFuel defs sel fuel [] src = expand defs sel src :=
  ((expandFuel_eq_iff defs sel _ [] (remaining_nil_lt defs) src _).2
    ((expandFuel_eq_iff defs sel fuel [] (Nat.lt_of_lt_of_le (remaining_nil_lt defs) h) src _).1 rfl)).symm

theorem C20_terminates_general' (defs : List (Def K)) (sel : String → Bool) (fuel : Nat) (stack : List String)
    (src : List (Instr K)) (h : remaining defs stack < fuel) :
    expandFuel defs sel fuel stack src ≠ .outOfFuel :=
  (expandFuel_eq_iff defs sel fuel stack h src .outOfFuel).1

theorem C20_expand_ok_iff' (defs : List (Def K)) (sel : String → Bool) (src out : List (Instr K)) :
    expand defs sel src = .ok out ↔ Expands defs sel [] src out :=
  expandFuel_eq_iff defs sel _ [] (remaining_nil_lt defs) src (.ok out)

theorem C20_expand_err_iff' (defs : List (Def K)) (sel : String → Bool) (src : List (Instr K)) (e : Err) :
    expand defs sel src = .err e ↔ ErrAt defs sel [] src e :=
  expandFuel_eq_iff defs sel _ [] (remaining_nil_lt defs) src (.err e)

theorem C20_fuel_irrelevant_ok' (defs : List (Def K)) (sel : String → Bool) (fuel : Nat) (src out : List (Instr K))
    (h : defs.length < fuel) :
    expandFuel defs sel fuel [] src = .ok out ↔ expand defs sel src = .ok out := by
  rw [expandFuel_eq_expand defs sel fuel src h]

end QV.C20
