import QV.C31.Spec
/-! C31, CALL resolution. Per slot kind: every argument falls under a rule (`paramOutcome_resolve`,
`returnOutcome_resolve`) and on each rule model, wording and applicable errors agree (the four `*_all` tables);
then the `.map(..).fold(..)` of the call against `SlotOutcomes` (`convertLoop_slots`, `foldl_collect_ok`). -/
namespace QV.C31

/-- One pass over the definition of `resolve`, naming at each leaf the rule of the specification that applies. -/
theorem paramOutcome_resolve (rs : Regions) (p : ExtParam) (a : Arg) : ParamOutcome rs p a (resolve rs p a) := by
  cases a with
  | identifier name =>
    cases hty : p.ty with
    | scalar t =>
      simp only [resolve, hty, resolveMemRef]
      split
      · next hg => exact .fails _ (.undeclaredName name hg)
      · next v hg =>
        split
        · next hv => exact .fails _ (.scalarWrongTypeName t name v hty hg hv)
        · next hv => exact .fits _ (.scalarName t name hty ⟨v, hg, Decidable.of_not_not hv⟩)
    | fixed e =>
      simp only [resolve, hty]
      split
      · next hg => exact .fails _ (.undeclaredName name hg)
      · next v hg =>
        split
        · next hv => exact .fails _ (.fixedMismatch e name v hty hg hv)
        · next hv => exact .fits _ (.fixedVector e name hty (Decidable.of_not_not hv ▸ hg))
    | varlen t =>
      simp only [resolve, hty]
      split
      · next hg => exact .fails _ (.undeclaredName name hg)
      · next v hg =>
        split
        · next hv => exact .fails _ (.variableWrongType t name v hty hg hv)
        · next hv => exact .fits _ (.variableVector t v name hty hg (Decidable.of_not_not hv))
  | memRef name index =>
    cases hty : p.ty with
    | scalar t =>
      simp only [resolve, hty, resolveMemRef]
      split
      · next hg => exact .fails _ (.undeclaredRef t name index hty hg)
      · next v hg =>
        split
        · next hv => exact .fails _ (.scalarWrongTypeRef t name index v hty hg hv)
        · next hv => exact .fits _ (.scalarRef t name index hty ⟨v, hg, Decidable.of_not_not hv⟩)
    | fixed e =>
      simp only [resolve, hty, resolveMemRef]
      exact .fails _ (.refVector name index (by rw [hty]; rfl))
    | varlen t =>
      simp only [resolve, hty, resolveMemRef]
      exact .fails _ (.refVector name index (by rw [hty]; rfl))
  | immediate x =>
    cases hm : p.mutable with
    | true => simp only [resolve, hm, if_true]; exact .fails _ (.immediateMutable x hm)
    | false =>
      cases hty : p.ty with
      | scalar t => simp only [resolve, hm, hty]; exact .fits _ (.scalarImmediate t x hty hm)
      | fixed e => simp only [resolve, hm, hty]; exact .fails _ (.immediateVector x hm (by rw [hty]; rfl))
      | varlen t => simp only [resolve, hm, hty]; exact .fails _ (.immediateVector x hm (by rw [hty]; rfl))

theorem slotFits_all {rs : Regions} {p : ExtParam} {a : Arg} {r : Resolved} (h : SlotFits rs p a r) :
    resolve rs p a = .ok r ∧ slotTakesB rs p a = true ∧ slotErrs rs p a = [] := by
  cases h with
  | scalarRef t name index hty hd =>
    obtain ⟨v, hg, hv⟩ := hd; simp [resolve, resolveMemRef, slotTakesB, declaredOfTypeB, slotErrs, hty, hg, hv]
  | scalarName t name hty hd =>
    obtain ⟨v, hg, hv⟩ := hd; simp [resolve, resolveMemRef, slotTakesB, declaredOfTypeB, slotErrs, hty, hg, hv]
  | scalarImmediate t x hty hm => simp [resolve, slotTakesB, slotErrs, ParamType.isVector, hty, hm]
  | fixedVector v name hty hg => simp [resolve, slotTakesB, slotErrs, hty, hg]
  | variableVector t v name hty hg hv => simp [resolve, slotTakesB, declaredOfTypeB, slotErrs, hty, hg, hv]

theorem slotFails_all {rs : Regions} {p : ExtParam} {a : Arg} {e : ArgErr} (h : SlotFails rs p a e) :
    resolve rs p a = .error e ∧ slotTakesB rs p a = false ∧ e ∈ slotErrs rs p a := by
  cases h with
  | immediateMutable x hm => cases hty : p.ty <;> simp [resolve, slotTakesB, slotErrs, hty, hm]
  | immediateVector x hm hv =>
    cases hty : p.ty <;> simp [hty, ParamType.isVector] at hv <;>
      simp [resolve, slotTakesB, slotErrs, ParamType.isVector, hm, hty]
  | refVector name index hv =>
    cases hty : p.ty <;> simp [hty, ParamType.isVector] at hv <;>
      simp [resolve, resolveMemRef, slotTakesB, slotErrs, hty]
  | undeclaredRef t name index hty hg => simp [resolve, resolveMemRef, slotTakesB, declaredOfTypeB, slotErrs, hty, hg]
  | undeclaredName name hg =>
    cases hty : p.ty <;> simp [resolve, resolveMemRef, slotTakesB, declaredOfTypeB, slotErrs, hty, hg]
  | scalarWrongTypeRef t name index v hty hg hv =>
    simp [resolve, resolveMemRef, slotTakesB, declaredOfTypeB, slotErrs, hty, hg, hv]
  | scalarWrongTypeName t name v hty hg hv =>
    simp [resolve, resolveMemRef, slotTakesB, declaredOfTypeB, slotErrs, hty, hg, hv]
  | fixedMismatch x name v hty hg hv => simp [resolve, slotTakesB, slotErrs, hty, hg, hv]
  | variableWrongType t name v hty hg hv => simp [resolve, slotTakesB, declaredOfTypeB, slotErrs, hty, hg, hv]

theorem paramOutcome_iff (rs : Regions) (p : ExtParam) (a : Arg) (o : Except ArgErr Resolved) :
    ParamOutcome rs p a o ↔ o = resolve rs p a := by
  constructor
  · intro h
    cases h with
    | fits r hr => exact (slotFits_all hr).1.symm
    | fails e he => exact (slotFails_all he).1.symm
  · rintro rfl
    exact paramOutcome_resolve rs p a

theorem resolve_ok_iff (rs : Regions) (p : ExtParam) (a : Arg) (r : Resolved) :
    resolve rs p a = .ok r ↔ SlotFits rs p a r := by
  rw [eq_comm, ← paramOutcome_iff]
  exact ⟨fun h => by cases h; assumption, .fits r⟩

theorem resolve_error_iff (rs : Regions) (p : ExtParam) (a : Arg) (e : ArgErr) :
    resolve rs p a = .error e ↔ SlotFails rs p a e := by
  rw [eq_comm, ← paramOutcome_iff]
  exact ⟨fun h => by cases h; assumption, .fails e⟩

theorem returnOutcome_resolve (rs : Regions) (t : ScalarType) (a : Arg) :
    ReturnOutcome rs t a (resolveReturn rs t a) := by
  cases a with
  | immediate x => exact .fails _ (.immediate x)
  | memRef name index =>
    simp only [resolveReturn]
    split
    · next hg => exact .fails _ (.undeclaredRef name index hg)
    · next v hg =>
      split
      · next hv => exact .fails _ (.wrongTypeRef name index v hg hv)
      · next hv => exact .fits _ (.memRef name index ⟨v, hg, Decidable.of_not_not hv⟩)
  | identifier name =>
    simp only [resolveReturn]
    split
    · next hg => exact .fails _ (.undeclaredName name hg)
    · next v hg =>
      split
      · next hv => exact .fails _ (.wrongTypeName name v hg hv)
      · next hv => exact .fits _ (.identifier name ⟨v, hg, Decidable.of_not_not hv⟩)

theorem returnFits_all {rs : Regions} {t : ScalarType} {a : Arg} {r : Resolved} (h : ReturnFits rs t a r) :
    resolveReturn rs t a = .ok r ∧ returnTakesB rs t a = true ∧ returnErrs rs t a = [] := by
  cases h with
  | memRef name index hd =>
    obtain ⟨v, hg, hv⟩ := hd; simp [resolveReturn, returnTakesB, declaredOfTypeB, returnErrs, hg, hv]
  | identifier name hd =>
    obtain ⟨v, hg, hv⟩ := hd; simp [resolveReturn, returnTakesB, declaredOfTypeB, returnErrs, hg, hv]

theorem returnFails_all {rs : Regions} {t : ScalarType} {a : Arg} {e : ArgErr} (h : ReturnFails rs t a e) :
    resolveReturn rs t a = .error e ∧ returnTakesB rs t a = false ∧ e ∈ returnErrs rs t a := by
  cases h with
  | immediate x => simp [resolveReturn, returnTakesB, returnErrs]
  | undeclaredRef name index hg => simp [resolveReturn, returnTakesB, declaredOfTypeB, returnErrs, hg]
  | undeclaredName name hg => simp [resolveReturn, returnTakesB, declaredOfTypeB, returnErrs, hg]
  | wrongTypeRef name index v hg hv => simp [resolveReturn, returnTakesB, declaredOfTypeB, returnErrs, hg, hv]
  | wrongTypeName name v hg hv => simp [resolveReturn, returnTakesB, declaredOfTypeB, returnErrs, hg, hv]

theorem returnOutcome_iff (rs : Regions) (t : ScalarType) (a : Arg) (o : Except ArgErr Resolved) :
    ReturnOutcome rs t a o ↔ o = resolveReturn rs t a := by
  constructor
  · intro h
    cases h with
    | fits r hr => exact (returnFits_all hr).1.symm
    | fails e he => exact (returnFails_all he).1.symm
  · rintro rfl
    exact returnOutcome_resolve rs t a

theorem resolveReturn_ok_iff (rs : Regions) (t : ScalarType) (a : Arg) (r : Resolved) :
    resolveReturn rs t a = .ok r ↔ ReturnFits rs t a r := by
  rw [eq_comm, ← returnOutcome_iff]
  exact ⟨fun h => by cases h; assumption, .fits r⟩

theorem resolveReturn_error_iff (rs : Regions) (t : ScalarType) (a : Arg) (e : ArgErr) :
    resolveReturn rs t a = .error e ↔ ReturnFails rs t a e := by
  rw [eq_comm, ← returnOutcome_iff]
  exact ⟨fun h => by cases h; assumption, .fails e⟩

theorem paramOutcomes_functional (rs : Regions) (i : Nat) (ps : List ExtParam) (as : List Arg)
    (os os' : List (Except CallArgErr Resolved))
    (h : ParamOutcomes rs i ps as os) (h' : ParamOutcomes rs i ps as os') : os = os' := by
  induction h generalizing os' with
  | nil i => cases h'; rfl
  | cons i p ps a as o os ho _ ih =>
    cases h' with
    | cons _ _ _ _ _ o' os' ho' hos' =>
      rw [(paramOutcome_iff rs p a o).mp ho, (paramOutcome_iff rs p a o').mp ho', ih os' hos']

theorem paramOutcomes_length (rs : Regions) (i : Nat) (ps : List ExtParam) (as : List Arg)
    (os : List (Except CallArgErr Resolved)) (h : ParamOutcomes rs i ps as os) :
    as.length = ps.length ∧ os.length = ps.length := by
  induction h with
  | nil i => simp
  | cons i p ps a as o os _ _ ih => simp [ih.1, ih.2]

theorem resolveAt_param (rs : Regions) (s : Signature) (a : Arg) {i : Nat} (hi : i < s.params.length) :
    resolveAt rs s (i + if s.ret.isSome then 1 else 0) a =
      some (match resolve rs s.params[i] a with | .ok r => .ok r | .error e => .error (.arg i e)) := by
  unfold resolveAt
  cases hr : s.ret <;> simp [List.getElem?_eq_getElem hi] <;> cases resolve rs s.params[i] a <;> rfl

/-- The parameter part of the `.map(..)` closure.  `d` is a variable with the equation `hd`, not the `if` itself, so
that the two callers pass the literal `0` / `1` and `i + d` reduces there. -/
theorem convertLoop_params (rs : Regions) (s : Signature) (d : Nat)
    (hd : d = if s.ret.isSome then 1 else 0) (as : List Arg) (i : Nat)
    (acc : Except (List CallArgErr) (List Resolved)) (hlen : as.length + i = s.params.length) :
    ∃ os, ParamOutcomes rs i (s.params.drop i) as os ∧
      convertLoop rs s as (i + d) acc = some (os.foldl collectStep acc) := by
  induction as generalizing i acc with
  | nil =>
    have : s.params.drop i = [] := List.drop_eq_nil_of_le (by simp at hlen; omega)
    exact ⟨[], this ▸ .nil i, rfl⟩
  | cons a as ih =>
    have hi : i < s.params.length := by simp at hlen; omega
    obtain ⟨os, hos, hloop⟩ := ih (i + 1)
      (collectStep acc (match resolve rs s.params[i] a with | .ok r => .ok r | .error e => .error (.arg i e)))
      (by simp at hlen ⊢; omega)
    refine ⟨(match resolve rs s.params[i] a with | .ok r => .ok r | .error e => .error (.arg i e)) :: os,
      ?_, ?_⟩
    · rw [List.drop_eq_getElem_cons hi]
      exact .cons i s.params[i] _ a as (resolve rs s.params[i] a) os ((paramOutcome_iff _ _ _ _).mpr rfl) hos
    · rw [convertLoop, hd, resolveAt_param rs s a hi, List.foldl_cons, ← hloop, hd, Nat.add_right_comm]

theorem foldl_collect_error (os : List (Except CallArgErr Resolved)) (es : List CallArgErr) :
    os.foldl collectStep (.error es) = .error (es ++ errs os) := by
  induction os generalizing es with
  | nil => simp [errs]
  | cons o os ih => cases o <;> simp [collectStep, errs, ih]

theorem foldl_collect_ok (os : List (Except CallArgErr Resolved)) (rs0 : List Resolved) :
    os.foldl collectStep (.ok rs0) =
      if errs os = [] then .ok (rs0 ++ oks os) else .error (errs os) := by
  induction os generalizing rs0 with
  | nil => simp [errs, oks]
  | cons o os ih =>
    cases o with
    | ok x => by_cases h : errs os = [] <;> simp [collectStep, errs, oks, ih, h]
    | error e => simp [collectStep, errs, foldl_collect_error]

theorem convertLoop_slots (rs : Regions) (s : Signature) (args : List Arg) (hlen : args.length = arity s) :
    ∃ os, SlotOutcomes rs s args os ∧
      convertLoop rs s args 0 (.ok []) = some (os.foldl collectStep (.ok [])) := by
  cases hr : s.ret with
  | none =>
    obtain ⟨os, hos, hloop⟩ := convertLoop_params rs s 0 (by simp [hr]) args 0 (.ok [])
      (by simpa [arity, hr] using hlen)
    exact ⟨os, .noReturn args os hr hos, hloop⟩
  | some t =>
    cases args with
    | nil => simp [arity, hr] at hlen
    | cons a as =>
      have hat : resolveAt rs s 0 a =
          some (match resolveReturn rs t a with | .ok r => .ok r | .error e => .error (.ret e)) := by
        simp [resolveAt, hr]
        cases resolveReturn rs t a <;> rfl
      obtain ⟨os, hos, hloop⟩ := convertLoop_params rs s 1 (by simp [hr]) as 0
        (collectStep (.ok []) (match resolveReturn rs t a with | .ok r => .ok r | .error e => .error (.ret e)))
        (by simpa [arity, hr] using hlen)
      refine ⟨_ :: os, .withReturn t a as (resolveReturn rs t a) os hr
        ((returnOutcome_iff _ _ _ _).mpr rfl) hos, ?_⟩
      simp only [convertLoop, hat, Nat.zero_add] at hloop ⊢
      exact hloop

end QV.C31
