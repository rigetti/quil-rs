import QV.C31.Spec
/-! C31, EXTERN signatures: the parser undoes the printer, token by token (`parseSignature_print`); when `from_str`
accepts (`sigFromTokens_ok_iff`). -/
namespace QV.C31

theorem parseType_print (ty : ParamType) (rest : List Token) (h : rest.head? ≠ some .lbracket) :
    parseType (printType ty ++ rest) = some (ty, rest) := by
  cases ty with
  | scalar t =>
    -- the scalar arm is reached only if no bracket follows the data type
    cases rest with
    | nil => rfl
    | cons x xs =>
      cases x with
      | lbracket => exact absurd rfl h
      | _ => rfl
  | fixed v => rfl
  | varlen t => rfl

theorem parseParam_print (lexName : String → Token) (p : ExtParam) (rest : List Token)
    (hl : lexName p.name = .identifier p.name) (h : rest.head? ≠ some .lbracket) :
    parseParam (printParam lexName p ++ rest) = some (p, rest) := by
  obtain ⟨name, mutable, ty⟩ := p
  simp only at hl
  cases mutable with
  | true =>
    simp [printParam, hl, parseParam, parseType_print ty rest h]
  | false =>
    simp only [printParam, hl, Bool.false_eq_true, if_false, List.append_nil, List.cons_append,
      List.nil_append]
    have hne : ∀ r, printType ty ++ rest ≠ Token.mutable :: r := by
      intro r; cases ty <;> simp [printType]
    unfold parseParam
    split
    · rename_i heq; simp at heq; exact absurd heq.2 (hne _)
    · rename_i heq; simp at heq; obtain ⟨rfl, rfl⟩ := heq
      simp [parseType_print ty rest h]
    · rename_i hno; exact absurd rfl (hno _ _)

/-- the printed parameter list after its first parameter, in the shape `sepLoop` consumes it: `, p` for every further
parameter (`printParams_cons`) -/
def printTail (lexName : String → Token) : List ExtParam → List Token
  | [] => []
  | p :: ps => .comma :: printParam lexName p ++ printTail lexName ps

theorem printParams_cons (lexName : String → Token) (p : ExtParam) (ps : List ExtParam) :
    printParams lexName (p :: ps) = printParam lexName p ++ printTail lexName ps := by
  induction ps generalizing p with
  | nil => simp [printParams, printTail]
  | cons q qs ih => simp [printParams, printTail, ih q]

theorem printTail_head (lexName : String → Token) (ps : List ExtParam) (rest : List Token) :
    (printTail lexName ps ++ .rparen :: rest).head? ≠ some .lbracket := by
  cases ps <;> simp [printTail]

theorem sepLoop_print (lexName : String → Token) (ps : List ExtParam) (acc : List ExtParam)
    (rest : List Token) (hl : ∀ p ∈ ps, lexName p.name = .identifier p.name) :
    sepLoop (printTail lexName ps ++ .rparen :: rest) acc = (acc ++ ps, .rparen :: rest) := by
  induction ps generalizing acc with
  | nil => unfold sepLoop; simp [printTail]
  | cons p ps ih =>
    have hp := parseParam_print lexName p (printTail lexName ps ++ .rparen :: rest)
      (hl p (by simp)) (printTail_head lexName ps rest)
    unfold sepLoop
    simp only [printTail, List.cons_append, List.append_assoc]
    split
    · rename_i p' rest' heq
      rw [hp] at heq
      simp at heq; obtain ⟨rfl, rfl⟩ := heq
      rw [ih _ (fun q hq => hl q (by simp [hq]))]
      simp
    · rename_i heq; rw [hp] at heq; cases heq

theorem parseSignature_print (lexName : String → Token) (s : Signature)
    (hl : ∀ p ∈ s.params, lexName p.name = .identifier p.name) :
    parseSignature (printSig lexName s) = some (s, []) := by
  obtain ⟨ret, params⟩ := s
  simp only at hl
  cases params with
  | nil =>
    cases ret <;> simp [printSig, parseSignature]
  | cons p ps =>
    have hp := parseParam_print lexName p (printTail lexName ps ++ [.rparen])
      (hl p (by simp)) (printTail_head lexName ps [])
    have hloop := sepLoop_print lexName ps [p] [] (fun q hq => hl q (by simp [hq]))
    cases ret with
    | none =>
      simp [printSig, parseSignature, printParams_cons, sepList0, hp, hloop]
    | some t =>
      simp [printSig, parseSignature, printParams_cons, sepList0, hp, hloop]

/-- `from_str` accepts exactly when the parser consumes all tokens and what it returns is valid -/
theorem sigFromTokens_ok_iff (isUser : String → Bool) (toks : List Token) (s : Signature) :
    sigFromTokens isUser toks = .ok s ↔ parseSignature toks = some (s, []) ∧ ValidSig isUser s := by
  unfold sigFromTokens
  rcases parseSignature toks with _ | ⟨⟨ret, params⟩, _ | ⟨t, ts⟩⟩
  · simp
  · have hne : (ret.isNone && params.isEmpty) = false ↔ (ret.isSome ∨ params ≠ []) := by
      cases ret <;> cases params <;> simp
    simp only [List.isEmpty_nil, Bool.not_true, Bool.false_eq_true, if_false, Option.some.injEq, Prod.mk.injEq,
      and_true]
    constructor
    · intro h
      split at h; · cases h
      next h1 =>
      split at h <;> cases h
      next h2 => exact ⟨rfl, hne.1 (by simpa using h1), by simpa using h2⟩
    · rintro ⟨rfl, h1, h2⟩
      rw [if_neg (by rw [hne.2 h1]; simp), if_pos (by simpa using h2)]
  · simp
end QV.C31
