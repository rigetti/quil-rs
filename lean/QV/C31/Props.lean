import QV.C31.Call
import QV.C31.Signature
import QV.Shared.ListLemmas
/-! C31 — the signature round trip (`C31_roundtrip`), the slot rules (`C31_slot`, `C31_return_slot`), the call
against `CallSpec` (`resolveToSignature_spec`, of which every call-level theorem below is a projection), the
PRAGMA EXTERN route (`convertMap_ok_valid`), accesses of a resolved call, and the applicable error kinds
(`outcomeAccepts_model`). -/
namespace QV.C31

/-- whatever `from_str` accepts is a valid signature -/
theorem sigFromTokens_ok_valid (isUser : String → Bool) (toks : List Token) (s : Signature)
    (h : sigFromTokens isUser toks = .ok s) : ValidSig isUser s :=
  ((sigFromTokens_ok_iff isUser toks s).1 h).2

/-- **C31 (round trip)**: the token sequence the printed form of `s` lexes to parses back — through
`parse_extern_signature`, the left-over check, the emptiness check and the name validation of `from_str` — to
exactly `s`, if and only if `s` is valid (has a return type or a parameter, and all parameter names are user
identifiers).  Assumption `hlex`: a valid user identifier lexes to an identifier token carrying itself. -/
theorem C31_roundtrip (isUser : String → Bool) (lexName : String → Token) (s : Signature)
    (hlex : ∀ n, isUser n = true → lexName n = .identifier n) :
    sigFromTokens isUser (printSig lexName s) = .ok s ↔ ValidSig isUser s := by
  rw [sigFromTokens_ok_iff]
  exact ⟨And.right, fun hv => ⟨parseSignature_print lexName s fun p hp => hlex _ (hv.2 p hp), hv⟩⟩

/-- the one constructible-but-invalid shape, `ExternSignature::new(None, vec![])`, prints to the empty
text, which `from_str` rejects with `NoReturnOrParameters` -/
theorem C31_empty_signature (isUser : String → Bool) (lexName : String → Token) :
    sigFromTokens isUser (printSig lexName ⟨none, []⟩) = .error .noReturnOrParameters := by
  simp [printSig, sigFromTokens, parseSignature]

theorem C31_print_injective (isUser : String → Bool) (lexName : String → Token) (s s' : Signature)
    (hlex : ∀ n, isUser n = true → lexName n = .identifier n)
    (hs : ValidSig isUser s) (hs' : ValidSig isUser s') (h : printSig lexName s = printSig lexName s') :
    s = s' := by
  have h1 := (C31_roundtrip isUser lexName s hlex).mpr hs
  have h2 := (C31_roundtrip isUser lexName s' hlex).mpr hs'
  rw [h] at h1
  rw [h1] at h2
  exact Except.ok.inj h2

/-- `validSigB` (evaluated by the driver) decides validity -/
theorem validSigB_iff (isUser : String → Bool) (s : Signature) :
    validSigB isUser s = true ↔ ValidSig isUser s := by
  unfold validSigB ValidSig
  cases hp : s.params <;> simp

/-- non-vacuity: `INTEGER (bar : INTEGER, baz : mut BIT[2], v : REAL[])` -/
example : sigFromTokens (fun _ => true)
    (printSig Token.identifier ⟨some .integer, [⟨"bar", false, .scalar .integer⟩,
      ⟨"baz", true, .fixed ⟨.bit, 2⟩⟩, ⟨"v", false, .varlen .real⟩]⟩)
    = .ok ⟨some .integer, [⟨"bar", false, .scalar .integer⟩, ⟨"baz", true, .fixed ⟨.bit, 2⟩⟩,
      ⟨"v", false, .varlen .real⟩]⟩ :=
  (C31_roundtrip _ _ _ (fun _ _ => rfl)).mpr ⟨Or.inl rfl, by simp⟩

/-- **C31 (slot rules)**: `resolve` succeeds with `r` exactly when the argument fits the slot per the
statement's rules, and fails with error `e` exactly in the listed failure situations -/
theorem C31_slot (rs : Regions) (p : ExtParam) (a : Arg) :
    (∀ r, resolve rs p a = .ok r ↔ SlotFits rs p a r) ∧
    (∀ e, resolve rs p a = .error e ↔ SlotFails rs p a e) :=
  ⟨resolve_ok_iff rs p a, resolve_error_iff rs p a⟩

/-- **C31 (return slot rules)**: likewise for `resolve_return` and the return slot -/
theorem C31_return_slot (rs : Regions) (t : ScalarType) (a : Arg) :
    (∀ r, resolveReturn rs t a = .ok r ↔ ReturnFits rs t a r) ∧
    (∀ e, resolveReturn rs t a = .error e ↔ ReturnFails rs t a e) :=
  ⟨resolveReturn_ok_iff rs t a, resolveReturn_error_iff rs t a⟩

theorem slotTakesB_iff (rs : Regions) (p : ExtParam) (a : Arg) :
    slotTakesB rs p a = true ↔ ∃ r, resolve rs p a = .ok r := by
  cases h : resolve rs p a with
  | ok r => simp [(slotFits_all ((resolve_ok_iff rs p a r).1 h)).2.1]
  | error e => simp [(slotFails_all ((resolve_error_iff rs p a e).1 h)).2.1]

theorem returnTakesB_iff (rs : Regions) (t : ScalarType) (a : Arg) :
    returnTakesB rs t a = true ↔ ∃ r, resolveReturn rs t a = .ok r := by
  cases h : resolveReturn rs t a with
  | ok r => simp [(returnFits_all ((resolveReturn_ok_iff rs t a r).1 h)).2.1]
  | error e => simp [(returnFails_all ((resolveReturn_error_iff rs t a e).1 h)).2.1]

theorem slotOutcomes_functional (rs : Regions) (s : Signature) (args : List Arg)
    (os os' : List (Except CallArgErr Resolved))
    (h : SlotOutcomes rs s args os) (h' : SlotOutcomes rs s args os') : os = os' := by
  cases h with
  | noReturn _ _ hr hp =>
    cases h' with
    | noReturn _ _ _ hp' => exact paramOutcomes_functional rs 0 _ _ _ _ hp hp'
    | withReturn t a as o os'' hr' _ _ => rw [hr] at hr'; cases hr'
  | withReturn t a as o os1 hr ho hp =>
    cases h' with
    | noReturn _ _ hr' _ => rw [hr] at hr'; cases hr'
    | withReturn t' _ _ o' os2 hr' ho' hp' =>
      rw [hr] at hr'; cases hr'
      rw [(returnOutcome_iff rs t a o).mp ho, (returnOutcome_iff rs t a o').mp ho',
        paramOutcomes_functional rs 0 _ _ _ _ hp hp']

/-- **C31 (CALL resolution)**: `resolve_to_signature` returns `ParameterCount` iff the count is wrong, and
otherwise the resolved arguments in order if every slot's outcome is a fit, else the errors of exactly the
failing slots, in slot order, each tagged `Return` or `Argument{index}` -/
theorem resolveToSignature_spec (rs : Regions) (s : Signature) (args : List Arg) :
    CallSpec rs s args (resolveToSignature rs s args) := by
  unfold CallSpec resolveToSignature
  by_cases hlen : args.length = arity s
  · obtain ⟨os, hos, hloop⟩ := convertLoop_slots rs s args hlen
    refine .inr ⟨hlen, os, hos, ?_⟩
    rw [if_neg (· hlen), hloop, foldl_collect_ok]
    by_cases he : errs os = [] <;> simp [he]
  · exact .inl ⟨hlen, if_pos hlen⟩

theorem callSpec_functional (rs : Regions) (s : Signature) (args : List Arg) (o o' : Outcome)
    (h : CallSpec rs s args o) (h' : CallSpec rs s args o') : o = o' := by
  rcases h with ⟨hn, rfl⟩ | ⟨hl, os, hos, hcase⟩
  · rcases h' with ⟨_, rfl⟩ | ⟨hl', _⟩
    · rfl
    · exact absurd hl' hn
  · rcases h' with ⟨hn', _⟩ | ⟨_, os', hos', hcase'⟩
    · exact absurd hl hn'
    · have := slotOutcomes_functional rs s args os os' hos hos'
      subst this
      rcases hcase with ⟨he, rfl⟩ | ⟨he, rfl⟩ <;> rcases hcase' with ⟨he', rfl⟩ | ⟨he', rfl⟩
      · rfl
      · exact absurd he he'
      · exact absurd he' he
      · rfl

/-- **C31 (CALL resolution, as an equivalence)**: an outcome satisfies the declarative specification iff
it is what `resolve_to_signature` returns -/
theorem C31_call_iff (rs : Regions) (s : Signature) (args : List Arg) (o : Outcome) :
    CallSpec rs s args o ↔ resolveToSignature rs s args = o :=
  ⟨fun h => callSpec_functional rs s args _ _ (resolveToSignature_spec rs s args) h,
   fun h => h ▸ resolveToSignature_spec rs s args⟩

/-- the index `signature.parameters[parameter_index]` is never out of bounds: no panic -/
theorem C31_no_crash (rs : Regions) (s : Signature) (args : List Arg) :
    resolveToSignature rs s args ≠ .crash := by
  intro h
  have := resolveToSignature_spec rs s args
  rw [h] at this
  rcases this with ⟨_, h⟩ | ⟨_, os, _, ⟨_, h⟩ | ⟨_, h⟩⟩ <;> cases h

theorem paramOutcomes_errs_nil_iff (rs : Regions) (i : Nat) (ps : List ExtParam) (as : List Arg)
    (os : List (Except CallArgErr Resolved)) (h : ParamOutcomes rs i ps as os) :
    errs os = [] ↔ allTakeB rs ps as = true := by
  induction h with
  | nil i => simp [errs, allTakeB]
  | cons i p ps a as o os ho _ ih =>
    have ho' := (paramOutcome_iff rs p a o).mp ho
    subst ho'
    cases hr : resolve rs p a with
    | ok r => simp [errs, allTakeB, (slotFits_all ((resolve_ok_iff rs p a r).1 hr)).2.1, ih]
    | error e => simp [errs, allTakeB, (slotFails_all ((resolve_error_iff rs p a e).1 hr)).2.1]

theorem allTakeB_length (rs : Regions) (ps : List ExtParam) (as : List Arg)
    (h : allTakeB rs ps as = true) : as.length = ps.length := by
  induction ps generalizing as with
  | nil => cases as <;> simp [allTakeB] at h ⊢
  | cons p ps ih =>
    cases as with
    | nil => simp [allTakeB] at h
    | cons a as => simp [allTakeB] at h; simp [ih as h.2]

theorem slotOutcomes_errs_nil_iff {rs : Regions} {s : Signature} {args : List Arg}
    {os : List (Except CallArgErr Resolved)} (h : SlotOutcomes rs s args os) :
    errs os = [] ↔ callTakesB rs s args = true := by
  cases h with
  | noReturn _ _ hret hp =>
    simp only [callTakesB, hret]
    exact paramOutcomes_errs_nil_iff rs 0 _ _ _ hp
  | withReturn t a as o os' hret ho hp =>
    cases (returnOutcome_iff rs t a o).mp ho
    simp only [callTakesB, hret, Bool.and_eq_true, ← paramOutcomes_errs_nil_iff rs 0 _ _ _ hp, returnTakesB_iff]
    cases resolveReturn rs t a <;> simp [errs]

theorem callTakesB_length {rs : Regions} {s : Signature} {args : List Arg} (h : callTakesB rs s args = true) :
    args.length = arity s := by
  unfold callTakesB at h
  cases hret : s.ret with
  | none => rw [hret] at h; simp [arity, hret, allTakeB_length rs _ _ h]
  | some t =>
    cases args with
    | nil => simp [hret] at h
    | cons a as => simp [hret] at h; simp [arity, hret, allTakeB_length rs _ _ h.2]

/-- **C31 (headline)**: "A CALL resolves iff its argument count matches and each argument fits its slot"
— with the slot rules exactly as the statement words them (`callTakesB`). -/
theorem C31_resolves_iff (rs : Regions) (s : Signature) (args : List Arg) :
    (∃ r, resolveToSignature rs s args = .ok r) ↔ callTakesB rs s args = true := by
  have hspec := resolveToSignature_spec rs s args
  constructor
  · rintro ⟨r, hr⟩
    rw [hr] at hspec
    rcases hspec with ⟨_, h⟩ | ⟨_, os, hos, ⟨he, _⟩ | ⟨_, h⟩⟩
    · cases h
    · exact (slotOutcomes_errs_nil_iff hos).1 he
    · cases h
  · intro h
    rcases hspec with ⟨hn, _⟩ | ⟨_, os, hos, ⟨_, ho⟩ | ⟨he, _⟩⟩
    · exact absurd (callTakesB_length h) hn
    · exact ⟨_, ho⟩
    · exact absurd ((slotOutcomes_errs_nil_iff hos).2 h) he

/-- `Call::resolve_arguments`: no extern of that name gives `NoMatchingExternInstruction`; otherwise the call
is resolved against the (first, and in an `IndexMap` only) signature registered under the name -/
theorem C31_resolveArguments (rs : Regions) (externs : List (String × Signature)) (name : String)
    (args : List Arg) :
    ((∀ e ∈ externs, e.1 ≠ name) ∧ resolveArguments rs externs name args = .err .noMatchingExtern) ∨
    (∃ s, (name, s) ∈ externs ∧ CallSpec rs s args (resolveArguments rs externs name args)) := by
  unfold resolveArguments
  cases hf : externs.find? (fun e => decide (e.1 = name)) with
  | none =>
    left
    refine ⟨?_, rfl⟩
    intro e he
    have := List.find?_eq_none.mp hf e he
    simpa using this
  | some e =>
    right
    obtain ⟨n, s⟩ := e
    have hm := List.mem_of_find?_eq_some hf
    have hn : n = name := by simpa using List.find?_some hf
    subst hn
    exact ⟨s, hm, resolveToSignature_spec rs s args⟩

/-- non-vacuity: `CALL foo ro x[1] 2.5 v` against `INTEGER (a : mut REAL, b : REAL, c : BIT[])` with `ro`
INTEGER[1], `x` REAL[2], `v` BIT[3] resolves; passing the immediate for the mutable parameter does not -/
example : resolveToSignature [("ro", ⟨.integer, 1⟩), ("x", ⟨.real, 2⟩), ("v", ⟨.bit, 3⟩)]
    ⟨some .integer, [⟨"a", true, .scalar .real⟩, ⟨"b", false, .scalar .real⟩, ⟨"c", false, .varlen .bit⟩]⟩
    [.identifier "ro", .memRef "x" 1, .immediate 0, .identifier "v"]
    = .ok [.memRef "ro" 0 .integer true, .memRef "x" 1 .real true, .immediate 0 .real, .vector "v" ⟨.bit, 3⟩ false] := by
  decide +kernel

example : resolveToSignature [("ro", ⟨.integer, 1⟩), ("x", ⟨.real, 2⟩), ("v", ⟨.bit, 3⟩)]
    ⟨some .integer, [⟨"a", true, .scalar .real⟩, ⟨"b", false, .scalar .real⟩, ⟨"c", false, .varlen .bit⟩]⟩
    [.immediate 1, .immediate 0, .memRef "ro" 0, .identifier "nope"]
    = .err (.arguments [.ret .returnArgument, .arg 0 (.immediateForMutable "a"),
        .arg 1 (.mismatchedScalar .real .integer), .arg 2 (.undeclared "nope")]) := by
  decide +kernel

theorem sigOfPragma_ok_valid (isUser : String → Bool) (p : ExtPragma) (s : Signature)
    (h : sigOfPragma isUser p = .ok s) : ValidSig isUser s := by
  unfold sigOfPragma at h
  split at h
  · cases h
  · split at h
    · cases h
    · cases h
    · cases h
    · split at h
      · cases h
      · cases h
      · rename_i toks _
        cases hs : sigFromTokens isUser toks with
        | ok s' =>
          simp [hs] at h; subst h
          exact sigFromTokens_ok_valid isUser toks s' hs
        | error e => cases e <;> simp [hs] at h

/-- **C31 (PRAGMA EXTERN route)**: every entry of a successfully converted extern map has a user-identifier
name and a valid signature -/
theorem convertMap_ok_valid (isUser : String → Bool) (m : List (Option String × ExtPragma))
    (l : List (String × Signature)) (h : convertMap isUser m = .ok l) :
    ∀ e ∈ l, isUser e.1 = true ∧ ValidSig isUser e.2 := by
  induction m generalizing l with
  | nil => simp [convertMap] at h; subst h; simp
  | cons x xs ih =>
    obtain ⟨k, p⟩ := x
    cases k with
    | none => simp [convertMap] at h
    | some n =>
      unfold convertMap at h
      by_cases hu : isUser n = true
      · simp only [hu, Bool.not_true, Bool.false_eq_true, if_false] at h
        cases hp : sigOfPragma isUser p with
        | error e => simp [hp] at h
        | ok s =>
          simp only [hp] at h
          cases hr : convertMap isUser xs with
          | error e => simp [hr] at h
          | ok l' =>
            simp [hr] at h; subst h
            intro e he
            simp at he
            rcases he with rfl | he
            · exact ⟨hu, sigOfPragma_ok_valid isUser p s hp⟩
            · exact ih l' hr e he
      · simp [hu] at h

/-- region named by a resolved argument / by a resolved argument that may be written -/
def Resolved.region : Resolved → Option String
  | .vector n _ _ => some n
  | .memRef n _ _ _ => some n
  | .immediate _ _ => none

def Resolved.written : Resolved → Option String
  | .vector n _ true => some n
  | .memRef n _ _ true => some n
  | _ => none

theorem slotFits_access (rs : Regions) (p : ExtParam) (a : Arg) (r : Resolved) (h : SlotFits rs p a r) :
    r.region = a.region ∧ r.written = (if p.mutable then a.region else none) := by
  cases h <;> cases hm : p.mutable <;> simp_all [Resolved.region, Resolved.written, Arg.region]

theorem paramOutcomes_access (rs : Regions) (i : Nat) (ps : List ExtParam) (as : List Arg)
    (os : List (Except CallArgErr Resolved)) (h : ParamOutcomes rs i ps as os) (he : errs os = []) :
    (oks os).filterMap Resolved.region = (accessLoop as ps).1 ∧
    (oks os).filterMap Resolved.written = (accessLoop as ps).2 := by
  induction h with
  | nil i => simp [oks, accessLoop]
  | cons i p ps a as o os ho _ ih =>
    cases ho with
    | fails e _ => simp [errs] at he
    | fits r hr =>
      simp only [errs] at he
      obtain ⟨h1, h2⟩ := ih he
      obtain ⟨g1, g2⟩ := slotFits_access rs p a r hr
      simp only [oks, accessLoop, List.head?_cons, List.tail_cons, List.filterMap_cons, g1, g2, h1, h2]
      cases ha : a.region with
      | none => simp
      | some n => by_cases hm : p.mutable = true <;> simp [hm]

/-- **C31 (resolution vs memory accesses)**: for a CALL that resolves, the regions `default_memory_accesses`
reports as read are exactly the regions of the resolved arguments, and the ones it reports as written are
exactly those of the resolved arguments marked mutable (the return slot and the `mut` parameters). -/
theorem C31_accesses_of_resolved (rs : Regions) (s : Signature) (args : List Arg) (out : List Resolved)
    (h : resolveToSignature rs s args = .ok out) :
    out.filterMap Resolved.region = (callAccesses s args).1 ∧
    out.filterMap Resolved.written = (callAccesses s args).2 := by
  have hspec := resolveToSignature_spec rs s args
  rw [h] at hspec
  rcases hspec with ⟨_, h'⟩ | ⟨_, os, hos, ⟨he, ho⟩ | ⟨_, h'⟩⟩
  · cases h'
  · have : out = oks os := by injection ho
    subst this
    cases hos with
    | noReturn _ _ hret hp =>
      simp only [callAccesses, hret]
      exact paramOutcomes_access rs 0 _ _ _ hp he
    | withReturn t a as o os' hret ho' hp =>
      cases ho' with
      | fails e _ => simp [errs] at he
      | fits r hr =>
        simp only [errs] at he
        obtain ⟨h1, h2⟩ := paramOutcomes_access rs 0 _ _ _ hp he
        simp only [callAccesses, hret, oks]
        cases hr <;> simp [Resolved.region, Resolved.written, Arg.region, h1, h2]
  · cases h'

/-! Applicable error kinds: robustness to the order in which a doubly-wrong argument is diagnosed. -/

theorem resolve_error_mem (rs : Regions) (p : ExtParam) (a : Arg) (e : ArgErr)
    (h : resolve rs p a = .error e) : e ∈ slotErrs rs p a :=
  (slotFails_all ((resolve_error_iff rs p a e).1 h)).2.2

theorem slotErrs_ne_nil_iff (rs : Regions) (p : ExtParam) (a : Arg) :
    slotErrs rs p a ≠ [] ↔ ∃ e, resolve rs p a = .error e := by
  cases h : resolve rs p a with
  | ok r => simp [(slotFits_all ((resolve_ok_iff rs p a r).1 h)).2.2]
  | error e => simp [List.ne_nil_of_mem (resolve_error_mem rs p a e h)]

theorem resolveReturn_error_mem (rs : Regions) (t : ScalarType) (a : Arg) (e : ArgErr)
    (h : resolveReturn rs t a = .error e) : e ∈ returnErrs rs t a :=
  (returnFails_all ((resolveReturn_error_iff rs t a e).1 h)).2.2

theorem returnErrs_ne_nil_iff (rs : Regions) (t : ScalarType) (a : Arg) :
    returnErrs rs t a ≠ [] ↔ ∃ e, resolveReturn rs t a = .error e := by
  cases h : resolveReturn rs t a with
  | ok r => simp [(returnFits_all ((resolveReturn_ok_iff rs t a r).1 h)).2.2]
  | error e => simp [List.ne_nil_of_mem (resolveReturn_error_mem rs t a e h)]

theorem entryCheck_error_mem (isUser : String → Bool) (n : String) (p : ExtPragma) (e : MapErr)
    (h : entryCheck isUser n p = .error e) : e ∈ entryErrs isUser n p := by
  unfold entryCheck at h
  unfold entryErrs
  by_cases hu : isUser n = true
  · simp [hu] at h ⊢; simp [h]
  · simp [hu] at h ⊢; left; exact h.symm

theorem entryErrs_ne_nil_iff (isUser : String → Bool) (n : String) (p : ExtPragma) :
    entryErrs isUser n p ≠ [] ↔ ∃ e, entryCheck isUser n p = .error e := by
  unfold entryCheck entryErrs
  by_cases hu : isUser n = true <;> cases hs : sigOfPragma isUser p <;> simp [hu]

theorem convertMap_cons_named (isUser : String → Bool) (n : String) (p : ExtPragma)
    (rest : List (Option String × ExtPragma)) :
    convertMap isUser ((some n, p) :: rest) =
      match entryCheck isUser n p with
      | .error e => .error (some n, e)
      | .ok s => match convertMap isUser rest with
        | .ok l => .ok ((n, s) :: l)
        | .error e => .error e := by
  unfold entryCheck
  by_cases hu : isUser n = true <;> simp [convertMap, hu]
  cases sigOfPragma isUser p <;> rfl

theorem paramOutcomes_errs (rs : Regions) (i : Nat) (ps : List ExtParam) (as : List Arg)
    (os : List (Except CallArgErr Resolved)) (h : ParamOutcomes rs i ps as os) :
    ∀ x ∈ errs os, ∃ j e p a, x = .arg (i + j) e ∧ ps[j]? = some p ∧ as[j]? = some a ∧ e ∈ slotErrs rs p a := by
  induction h with
  | nil i => intro x hx; cases hx
  | cons i p ps a as o os ho _ ih =>
    -- an error of a later slot keeps its witnesses, one position further on
    have later : ∀ x ∈ errs os, ∃ j e p' a', x = .arg (i + j) e ∧ (p :: ps)[j]? = some p' ∧
        (a :: as)[j]? = some a' ∧ e ∈ slotErrs rs p' a' := by
      intro x hx
      obtain ⟨j, e, p', a', rfl, h1, h2, h3⟩ := ih x hx
      refine ⟨j + 1, e, p', a', ?_, ?_, ?_, h3⟩
      · rw [Nat.add_assoc, Nat.add_comm 1 j]
      · rw [List.getElem?_cons_succ]; exact h1
      · rw [List.getElem?_cons_succ]; exact h2
    cases ho with
    | fits r _ => exact later
    | fails e he =>
      intro x hx
      rcases List.mem_cons.1 hx with rfl | hx
      · exact ⟨0, e, p, a, rfl, rfl, rfl, (slotFails_all he).2.2⟩
      · exact later x hx

theorem slotOutcomes_errs {rs : Regions} {s : Signature} {args : List Arg}
    {os : List (Except CallArgErr Resolved)} (h : SlotOutcomes rs s args os) :
    ∀ x ∈ errs os, ∃ l, errsAt rs s args x = some l ∧ x.err ∈ l := by
  cases h with
  | noReturn _ _ hret hp =>
    intro x hx
    obtain ⟨j, e, p, a, rfl, h1, h2, h3⟩ := paramOutcomes_errs rs 0 _ _ _ hp x hx
    exact ⟨_, by simp [errsAt, hret, h1, h2], h3⟩
  | withReturn t a as o os' hret ho hp =>
    have hparam : ∀ x ∈ errs os', ∃ l, errsAt rs s (a :: as) x = some l ∧ x.err ∈ l := fun x hx => by
      obtain ⟨j, e, p, a', rfl, h1, h2, h3⟩ := paramOutcomes_errs rs 0 _ _ _ hp x hx
      exact ⟨_, by simp [errsAt, hret, h1, h2], h3⟩
    cases ho with
    | fits r _ => exact hparam
    | fails e he =>
      intro x hx
      rcases List.mem_cons.1 hx with rfl | hx
      · exact ⟨_, by simp [errsAt, hret], (returnFails_all he).2.2⟩
      · exact hparam x hx

/-- The comparison the driver applies to the implementation's outcome (`outcomeAccepts`) accepts the model's own
outcome: every error the model reports applies at the slot it names. -/
theorem outcomeAccepts_model (rs : Regions) (s : Signature) (args : List Arg) :
    outcomeAccepts rs s args (resolveToSignature rs s args) (resolveToSignature rs s args) = true := by
  have hspec := resolveToSignature_spec rs s args
  generalize resolveToSignature rs s args = o at hspec
  rcases hspec with ⟨_, rfl⟩ | ⟨_, os, hos, ⟨_, rfl⟩ | ⟨_, rfl⟩⟩
  · simp [outcomeAccepts]
  · simp [outcomeAccepts]
  · simp only [outcomeAccepts, beq_self_eq_true, Bool.true_and, List.all_eq_true]
    rintro ⟨m, i⟩ hmi
    obtain ⟨rfl, hm⟩ := mem_zip_self hmi
    obtain ⟨l, hl, hml⟩ := slotOutcomes_errs hos m hm
    have hpos : m.samePos m = true := by cases m <;> simp [CallArgErr.samePos]
    simp [hpos, hl, hml]

end QV.C31
