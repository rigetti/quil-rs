import QV.C01.Lemmas
/-!
One `sim_<function>` per parser function of the model.  For a function written with the combinators the proof term is
read off its definition (`bind` ↦ `sim_bind`, `opt` ↦ `sim_opt`, …, a called parser ↦ its lemma, a parser argument ↦
its hypothesis); the ones written as a `match` on outcomes are taken apart by hand.  The two recursive knots
(`sim_parse`, `sim_parseInstructionAt`) are tied by induction on `m`.
-/
namespace QV.C01
open QV QV.Tok QV.Ast QV.Parse

variable {α : Type} {m : Nat} {pe pe' : Parser PExpr} {pi pi' : Parser Instruction}

theorem sim_parseMemoryReference : Sim m parseMemoryReference parseMemoryReference :=
  sim_bind sim_tokIdentifier fun _ =>
  sim_bind (sim_opt (sim_delimited sim_tok sim_tokInteger sim_tok)) fun _ => sim_pure

theorem sim_parseMemoryReferenceWithBrackets :
    Sim m parseMemoryReferenceWithBrackets parseMemoryReferenceWithBrackets :=
  sim_bind sim_tokIdentifier fun _ => sim_bind (sim_delimited sim_tok sim_tokInteger sim_tok) fun _ => sim_pure

theorem sim_optMinus : Sim m optMinus optMinus := sim_bind (sim_opt sim_tok) fun _ => sim_pure

theorem sim_parseArithmeticOperand : Sim m parseArithmeticOperand parseArithmeticOperand :=
  sim_alt (sim_bind sim_optMinus fun _ => sim_bind sim_tokFloat fun _ => sim_pure)
    (sim_alt (sim_mapRes _ (sim_pair sim_optMinus sim_tokInteger)) (sim_pmap _ sim_parseMemoryReference))

theorem sim_parseComparisonOperand : Sim m parseComparisonOperand parseComparisonOperand :=
  sim_alt (sim_bind sim_optMinus fun _ => sim_bind sim_tokFloat fun _ => sim_pure)
    (sim_alt (sim_mapRes _ (sim_pair sim_optMinus sim_tokInteger)) (sim_pmap _ sim_parseMemoryReference))

theorem sim_parseBinaryLogicOperand : Sim m parseBinaryLogicOperand parseBinaryLogicOperand :=
  sim_alt (sim_mapRes _ (sim_pair sim_optMinus sim_tokInteger)) (sim_pmap _ sim_parseMemoryReference)

theorem sim_parseQubit : Sim m parseQubit parseQubit :=
  sim_of_safe fun i => by unfold parseQubit; split <;> simp
theorem sim_parseVariableQubit : Sim m parseVariableQubit parseVariableQubit :=
  sim_of_safe fun i => by unfold parseVariableQubit; split <;> simp
theorem sim_parseI : Sim m parseI parseI :=
  sim_of_safe fun i => by unfold parseI; split <;> (try split) <;> simp

theorem sim_parseFrameAttribute (h : Sim m pe pe') : Sim m (parseFrameAttribute pe) (parseFrameAttribute pe') :=
  sim_bind sim_tok fun _ => sim_bind sim_tok fun _ => sim_bind sim_tokIdentifier fun _ => sim_bind sim_tok fun _ =>
  sim_bind (sim_alt (sim_pmap _ sim_tokString) (sim_pmap _ h)) fun _ => sim_pure

theorem sim_parseFrameIdentifier : Sim m parseFrameIdentifier parseFrameIdentifier :=
  sim_bind (sim_many1 sim_parseQubit) fun _ => sim_bind sim_tokString fun _ => sim_pure

theorem sim_parseGateModifier : Sim m parseGateModifier parseGateModifier :=
  sim_bind sim_tokModifier fun _ => sim_pure

theorem sim_parseMatrix (h : Sim m pe pe') : Sim m (parseMatrix pe) (parseMatrix pe') :=
  sim_preceded sim_tok (sim_separatedList1 sim_tok
    (sim_preceded sim_tok (sim_separatedList0 (sim_pair sim_tok (sim_many0 sim_tok)) h)))

theorem sim_parsePermutation : Sim m parsePermutation parsePermutation :=
  sim_preceded sim_tok (sim_preceded sim_tok (sim_separatedList1 sim_tok sim_tokInteger))

theorem sim_parsePauliWord : Sim m parsePauliWord parsePauliWord := sim_mapRes _ sim_tokIdentifier

theorem sim_parsePauliTerm (h : Sim m pe pe') : Sim m (parsePauliTerm pe) (parsePauliTerm pe') :=
  sim_mapRes _ (sim_bind sim_parsePauliWord fun _ => sim_bind (sim_delimited sim_tok h sim_tok) fun _ =>
    sim_bind (sim_many1 sim_tokIdentifier) fun _ => sim_pure)

theorem sim_parsePauliTerms (h : Sim m pe pe') : Sim m (parsePauliTerms pe) (parsePauliTerms pe') :=
  sim_preceded sim_tok (sim_separatedList1 sim_tok (sim_preceded sim_tok (sim_parsePauliTerm h)))

theorem sim_parseParameters (h : Sim m pe pe') : Sim m (parseParameters pe) (parseParameters pe') :=
  sim_bind (sim_opt (sim_delimited sim_tok (sim_separatedList0 sim_tok h) sim_tok)) fun _ => sim_pure

theorem sim_parseSequenceElement (h : Sim m pe pe') :
    Sim m (parseSequenceElement pe) (parseSequenceElement pe') :=
  sim_bind (sim_many0 sim_parseGateModifier) fun _ => sim_bind sim_tokIdentifier fun _ =>
  sim_bind (sim_parseParameters h) fun _ => sim_bind (sim_many0 sim_parseQubit) fun _ => sim_pure

theorem sim_parseSequenceElements (h : Sim m pe pe') :
    Sim m (parseSequenceElements pe) (parseSequenceElements pe') :=
  sim_preceded sim_tok (sim_separatedList1 sim_tok (sim_preceded sim_tok (sim_parseSequenceElement h)))

theorem sim_parseNamedArgument (h : Sim m pe pe') : Sim m (parseNamedArgument pe) (parseNamedArgument pe') :=
  sim_bind sim_tokIdentifier fun _ => sim_bind sim_tok fun _ => sim_bind h fun _ => sim_pure

theorem sim_parseWaveformName : Sim m parseWaveformName parseWaveformName :=
  sim_bind sim_tokIdentifier fun _ => sim_bind (sim_opt (sim_pair sim_tok sim_tokIdentifier)) fun _ => sim_pure

theorem sim_parseWaveformInvocation (h : Sim m pe pe') :
    Sim m (parseWaveformInvocation pe) (parseWaveformInvocation pe') :=
  sim_bind sim_parseWaveformName fun _ =>
  sim_bind (sim_opt (sim_delimited sim_tok (sim_cut (sim_separatedList0 sim_tok (sim_parseNamedArgument h)))
    sim_tok)) fun _ => sim_pure

theorem sim_parseSharing : Sim m parseSharing parseSharing :=
  sim_bind (sim_opt (sim_preceded sim_tok (sim_pair sim_tokIdentifier (sim_opt (sim_preceded sim_tok
    (sim_many1 (sim_pmap _ (sim_pair sim_tokInteger sim_tokDataType)))))))) fun _ => sim_pure

theorem sim_parseVector : Sim m parseVector parseVector :=
  sim_bind sim_tokDataType fun _ =>
  sim_bind (sim_opt (sim_delimited sim_tok sim_tokInteger sim_tok)) fun _ => sim_pure

theorem sim_parseVectorWithBrackets : Sim m parseVectorWithBrackets parseVectorWithBrackets :=
  sim_bind sim_tokDataType fun _ => sim_bind (sim_delimited sim_tok sim_tokInteger sim_tok) fun _ => sim_pure

theorem sim_skipNewlinesAndComments : Sim m skipNewlinesAndComments skipNewlinesAndComments :=
  sim_bind (sim_many0 (sim_alt (sim_preceded (sim_many0 sim_tok) (sim_pmap _ sim_tokComment))
    (sim_alt sim_tok sim_tok))) fun _ => sim_pure

theorem sim_parseGate (h : Sim m pe pe') : Sim m (parseGate pe) (parseGate pe') :=
  sim_bind (sim_many0 sim_parseGateModifier) fun _ => sim_bind sim_tokIdentifier fun _ =>
  sim_bind (sim_parseParameters h) fun _ => sim_bind (sim_many0 sim_parseQubit) fun _ => sim_pure

theorem sim_parseVariableLengthVector : Sim m parseVariableLengthVector parseVariableLengthVector :=
  sim_bind sim_tokDataType fun _ => sim_bind sim_tok fun _ => sim_bind sim_tok fun _ => sim_pure

theorem sim_parseExternParameter : Sim m parseExternParameter parseExternParameter :=
  sim_bind sim_tokIdentifier fun _ => sim_bind sim_tok fun _ => sim_bind (sim_opt sim_tok) fun _ =>
  sim_bind (sim_alt (sim_pmap _ sim_parseVectorWithBrackets)
    (sim_alt (sim_pmap _ sim_parseVariableLengthVector) (sim_pmap _ sim_tokDataType))) fun _ => sim_pure

theorem sim_parseExternSignature : Sim m parseExternSignature parseExternSignature :=
  sim_bind (sim_opt sim_tokDataType) fun _ => sim_bind (sim_opt sim_tok) fun _ =>
  sim_bind (sim_ite (sim_bind (sim_opt (sim_separatedList0 sim_tok sim_parseExternParameter)) fun _ =>
    sim_bind sim_tok fun _ => sim_pure) sim_pure) fun _ => sim_pure

def RecSim (m : Nat) (rec rec' : ExprRec) : Prop := ∀ p : Prec, Sim m (fun i => rec i p) (fun i => rec' i p)

theorem sim_parseImmediateValue : Sim m parseImmediateValue parseImmediateValue := by
  refine sim_of_safe fun i => ?_
  unfold parseImmediateValue
  split
  -- an integer or a float literal, each followed by an optional `i`; the other two arms are errors
  iterate 2
    rename_i r
    refine Safe.cases (safe_of_sim r (sim_opt sim_parseI)) (fun v r' h => ?_) trivial trivial
    cases v <;> simp <;> omega
  all_goals exact trivial

theorem sim_parsePrefix : Sim m parsePrefix parsePrefix :=
  sim_of_safe fun i => by unfold parsePrefix; split <;> simp

section
variable {rec rec' : ExprRec}

theorem sim_parseFunctionCall (h : RecSim m rec rec') (f : ExprFn) :
    Sim m (parseFunctionCall rec f) (parseFunctionCall rec' f) :=
  sim_bind sim_tok fun _ => sim_bind (h Prec.lowest) fun _ => sim_bind sim_tok fun _ => sim_pure

theorem sim_parseGroupedExpression (h : RecSim m rec rec') :
    Sim m (parseGroupedExpression rec) (parseGroupedExpression rec') := by
  refine ⟨fun i hi => ?_⟩
  unfold parseGroupedExpression
  refine alike_cases ((h Prec.lowest).alike i hi) (fun e rest hr => ?_) ⟨rfl, trivial⟩ ⟨rfl, trivial⟩
  dsimp only
  split <;> simp_all <;> omega

/-- the identifier has been consumed when a function call's argument is parsed, so the callback is only
needed on inputs shorter than `m` for an input shorter than `m + 1` -/
theorem sim_parseExpressionIdentifier (h : RecSim m rec rec') :
    Sim (m + 1) (parseExpressionIdentifier rec) (parseExpressionIdentifier rec') := by
  refine ⟨fun input hi => ?_⟩
  unfold parseExpressionIdentifier
  refine Safe.cases (safe_of_sim input (sim_opt sim_parseMemoryReferenceWithBrackets))
    (fun v rest ho => ?_) ⟨rfl, trivial⟩ ⟨rfl, trivial⟩
  cases v with
  | some r => exact ⟨rfl, ho⟩
  | none =>
    dsimp only
    split
    · exact ⟨rfl, trivial⟩
    · rename_i ident remainder
      have hfc := fun f => (sim_parseFunctionCall h f).alike_cons (Nat.lt_of_le_of_lt ho hi) ho
      have hok : ∀ e : PExpr, Alike input (.ok e remainder) (.ok e remainder) :=
        fun e => ⟨rfl, Nat.le_trans (Nat.le_succ _) ho⟩
      exact alike_ite (hfc _) <| alike_ite (hfc _) <| alike_ite (hfc _) <| alike_ite (hok _) <| alike_ite (hok _) <|
        alike_ite (hfc _) <| alike_ite (hfc _) (hok _)
    · exact ⟨rfl, trivial⟩

/-- safe relative to `remainder`, not to the whole input: the rest is strictly shorter than the input, which is what
lets the fuel of `parseLoop` go down (`alike_parseLoop`) -/
theorem alike_parseInfix (h : RecSim m rec rec') (o : Operator) (remainder : List Token) (left : PExpr)
    (hi : remainder.length < m) :
    Alike remainder (parseInfix rec (.operator o :: remainder) left)
      (parseInfix rec' (.operator o :: remainder) left) := by
  simp only [parseInfix]
  exact alike_cases ((h (precOfOperator o)).alike remainder hi) (fun _ _ hr => ⟨rfl, hr⟩) ⟨rfl, trivial⟩ ⟨rfl, trivial⟩

theorem alike_parseLoop (h : RecSim m rec rec') (prec : Prec) :
    ∀ (k : Nat) (input : List Token) (left : PExpr), input.length < k → input.length < m + 1 →
      Alike input (parseLoop rec prec k input left) (parseLoop rec' prec k input left) := by
  intro k
  induction k with
  | zero => intro input _ hk; exact absurd hk (Nat.not_lt_zero _)
  | succ k ih =>
    intro input left hk hm
    unfold parseLoop
    split
    · split
      · exact ⟨rfl, Nat.le_refl _⟩
      · rename_i o rest' _
        simp only [List.length_cons] at hk hm
        refine alike_cases (alike_parseInfix h o rest' left (by omega)) (fun e rest hr => ?_) ⟨rfl, trivial⟩
          ⟨rfl, trivial⟩
        exact (ih rest e (by omega) (by omega)).imp id (Safe.mono · (by simp only [List.length_cons]; omega))
      · exact ⟨rfl, Nat.le_refl _⟩
    · exact ⟨rfl, Nat.le_refl _⟩

theorem sim_parseOperand (h : RecSim m rec rec') (imm : Option CBits) :
    Sim (m + 1) (parseOperand rec imm) (parseOperand rec' imm) := by
  refine ⟨fun input hi => ?_⟩
  unfold parseOperand
  split
  · exact ⟨rfl, Nat.le_refl _⟩
  · split
    · exact ⟨rfl, trivial⟩
    · exact ⟨rfl, Nat.le_succ _⟩
    · exact (sim_parseExpressionIdentifier h).alike _ hi
    · exact (sim_parseGroupedExpression h).alike_cons hi (Nat.le_refl _)
    · exact ⟨rfl, trivial⟩

theorem parseBody_eq (rec : ExprRec) (prec : Prec) : (fun i => parseBody rec i prec) =
    Parser.bind (opt parsePrefix) fun pfx => Parser.bind (opt parseImmediateValue) fun imm =>
    Parser.bind (parseOperand rec imm) fun left input =>
      parseLoop rec prec (input.length + 1) input (match pfx with | some op => .pre op left | none => left) := by
  funext i
  unfold parseBody Parser.bind
  cases opt parsePrefix i with
  | ok pfx i1 =>
    dsimp only
    cases opt parseImmediateValue i1 with
    | ok imm i2 => dsimp only; cases parseOperand rec imm i2 <;> rfl
    | _ => rfl
  | _ => rfl

theorem sim_parseBody (h : RecSim m rec rec') : RecSim (m + 1) (parseBody rec) (parseBody rec') := by
  intro prec
  rw [parseBody_eq, parseBody_eq]
  exact sim_bind (sim_opt sim_parsePrefix) fun _ => sim_bind (sim_opt sim_parseImmediateValue) fun imm =>
    sim_bind (sim_parseOperand h imm) fun _ => ⟨fun i hi => alike_parseLoop h prec _ i _ (Nat.lt_succ_self _) hi⟩

end

/-- the expression knot: below a depth budget the parser is safe — a budget larger than the number of tokens
is never exhausted, and nothing else crashes — and any two such budgets give the same outcome
(`m + 1 ≤ d` leaves no case `d = 0`) -/
theorem sim_parse : ∀ (m d d' : Nat), m ≤ d → m ≤ d' → RecSim m (parse d) (parse d')
  | 0, _, _, _, _ => fun _ => sim_zero _ _
  | m + 1, d + 1, d' + 1, hd, hd' =>
    sim_parseBody (sim_parse m d d' (Nat.le_of_succ_le_succ hd) (Nat.le_of_succ_le_succ hd'))

theorem sim_parseExpressionAt {d d' : Nat} (hd : m ≤ d) (hd' : m ≤ d') :
    Sim m (parseExpressionAt d) (parseExpressionAt d') :=
  sim_parse m d d' hd hd' Prec.lowest

theorem sim_parseArithmetic (op : ArithmeticOperator) : Sim m (parseArithmetic op) (parseArithmetic op) :=
  sim_bind sim_parseMemoryReference fun _ => sim_bind sim_parseArithmeticOperand fun _ => sim_pure

theorem sim_parseComparison (op : ComparisonOperator) : Sim m (parseComparison op) (parseComparison op) :=
  sim_bind sim_parseMemoryReference fun _ => sim_bind sim_parseMemoryReference fun _ =>
  sim_bind sim_parseComparisonOperand fun _ => sim_pure

theorem sim_parseLogicalBinary (op : BinaryOperator) : Sim m (parseLogicalBinary op) (parseLogicalBinary op) :=
  sim_bind sim_parseMemoryReference fun _ => sim_bind sim_parseBinaryLogicOperand fun _ => sim_pure

theorem sim_parseLogicalUnary (op : UnaryOperator) : Sim m (parseLogicalUnary op) (parseLogicalUnary op) :=
  sim_bind sim_parseMemoryReference fun _ => sim_pure

theorem sim_parseDeclare : Sim m parseDeclare parseDeclare :=
  sim_bind sim_tokIdentifier fun _ => sim_bind sim_parseVector fun _ => sim_bind sim_parseSharing fun _ => sim_pure

theorem sim_parseCallImmediate : Sim m parseCallImmediate parseCallImmediate :=
  sim_bind (sim_opt sim_tok) fun _ => sim_bind sim_parseImmediateValue fun _ => sim_of_safe fun input => by
    refine Safe.cases (safe_of_sim input (sim_opt (sim_alt
      (sim_preceded (sim_tok (t := .operator .plus)) sim_parseImmediateValue)
      (sim_pmap cNegate (sim_preceded (sim_tok (t := .operator .minus)) sim_parseImmediateValue)))))
      (fun second rest h => ?_) trivial trivial
    -- either the second value is taken and the rest is what follows it (`h`), or the input is given back untouched
    cases second with
    | none => exact Nat.le_refl _
    | some second =>
      dsimp only
      split <;> split <;> first | exact h | exact Nat.le_refl _

theorem sim_parseCallArgument : Sim m parseCallArgument parseCallArgument :=
  sim_alt (sim_pmap _ sim_parseMemoryReferenceWithBrackets)
    (sim_alt (sim_pmap _ sim_tokIdentifier) (sim_pmap _ sim_parseCallImmediate))

theorem sim_parseCall : Sim m parseCall parseCall :=
  sim_bind sim_tokIdentifier fun _ => sim_bind (sim_many0 sim_parseCallArgument) fun _ => sim_pure

theorem sim_parseCapture (h : Sim m pe pe') (b : Bool) : Sim m (parseCapture pe b) (parseCapture pe' b) :=
  sim_bind sim_parseFrameIdentifier fun _ => sim_bind (sim_parseWaveformInvocation h) fun _ =>
  sim_bind sim_parseMemoryReference fun _ => sim_pure

theorem sim_parseConvert : Sim m parseConvert parseConvert :=
  sim_bind sim_parseMemoryReference fun _ => sim_bind sim_parseMemoryReference fun _ => sim_pure

theorem sim_parseBlockInstruction (hi : Sim m pi pi') :
    Sim m (parseBlockInstruction pi) (parseBlockInstruction pi') :=
  sim_preceded sim_tok (sim_preceded sim_tok hi)

theorem sim_parseBlock (hi : Sim m pi pi') : Sim m (parseBlock pi) (parseBlock pi') :=
  sim_many1 (sim_parseBlockInstruction hi)

theorem sim_parseDefcalGate (h : Sim m pe pe') (hi : Sim m pi pi') :
    Sim m (parseDefcalGate pe pi) (parseDefcalGate pe' pi') :=
  sim_bind (sim_many0 sim_parseGateModifier) fun _ => sim_bind sim_tokIdentifier fun _ =>
  sim_bind (sim_parseParameters h) fun _ => sim_bind (sim_many0 sim_parseQubit) fun _ =>
  sim_bind sim_tok fun _ => sim_bind (sim_parseBlock hi) fun _ => sim_pure

theorem sim_parseMeasureName : Sim m parseMeasureName parseMeasureName :=
  sim_bind (sim_opt (sim_preceded sim_tok sim_tokIdentifier)) fun _ => sim_pure

theorem sim_parseDefcalMeasure (hi : Sim m pi pi') : Sim m (parseDefcalMeasure pi) (parseDefcalMeasure pi') :=
  sim_bind sim_parseMeasureName fun _ => sim_bind sim_parseQubit fun _ => sim_bind (sim_opt sim_tokIdentifier) fun _ =>
  sim_bind sim_tok fun _ => sim_bind (sim_parseBlock hi) fun _ => sim_pure

theorem sim_parseDefcal (h : Sim m pe pe') (hi : Sim m pi pi') : Sim m (parseDefcal pe pi) (parseDefcal pe' pi') :=
  sim_bind (sim_opt sim_tok) fun
    | some _ => sim_parseDefcalMeasure hi
    | none => sim_parseDefcalGate h hi

theorem sim_parseDefframe (h : Sim m pe pe') : Sim m (parseDefframe pe) (parseDefframe pe') :=
  sim_bind sim_parseFrameIdentifier fun _ => sim_bind sim_tok fun _ =>
  sim_bind (sim_many1 (sim_parseFrameAttribute h)) fun _ => sim_pure

theorem sim_parseVariableList : Sim m parseVariableList parseVariableList :=
  sim_bind (sim_opt (sim_delimited sim_tok (sim_separatedList0 sim_tok sim_tokVariable) sim_tok)) fun _ => sim_pure

theorem sim_parseGateType : Sim m parseGateType parseGateType :=
  sim_alt (sim_pmap _ sim_tok) (sim_alt (sim_pmap _ sim_tok) (sim_alt (sim_pmap _ sim_tok) (sim_pmap _ sim_tok)))

theorem sim_parseDefgate (h : Sim m pe pe') : Sim m (parseDefgate pe) (parseDefgate pe') :=
  sim_bind sim_tokIdentifier fun _ => sim_bind sim_parseVariableList fun _ =>
  sim_bind (sim_opt (sim_many0 sim_tokIdentifier)) fun _ =>
  sim_bind (sim_opt (sim_preceded sim_tok sim_parseGateType)) fun gateType => sim_bind sim_tok fun _ =>
  sim_bind (match gateType.getD .matrix with
    | .matrix => sim_pmap _ (sim_parseMatrix h)
    | .permutation => sim_pmap _ sim_parsePermutation
    | .pauliSum => sim_mapRes _ (sim_parsePauliTerms h)
    | .sequence => sim_mapRes _ (sim_parseSequenceElements h)) fun _ => sim_pure

theorem sim_parseDefwaveform (h : Sim m pe pe') : Sim m (parseDefwaveform pe) (parseDefwaveform pe') :=
  sim_bind sim_parseWaveformName fun _ => sim_bind sim_parseVariableList fun _ => sim_bind sim_tok fun _ =>
  sim_bind sim_tok fun _ => sim_bind sim_tok fun _ => sim_bind (sim_separatedList1 sim_tok h) fun _ => sim_pure

theorem sim_parseDefcircuit (hi : Sim m pi pi') : Sim m (parseDefcircuit pi) (parseDefcircuit pi') :=
  sim_bind sim_tokIdentifier fun _ => sim_bind sim_parseVariableList fun _ =>
  sim_bind (sim_many0 sim_parseVariableQubit) fun _ => sim_bind sim_tok fun _ =>
  sim_bind (sim_parseBlock hi) fun _ => sim_pure

theorem sim_parseDelayFrameNamesAndDuration (h : Sim m pe pe') :
    Sim m (parseDelayFrameNamesAndDuration pe) (parseDelayFrameNamesAndDuration pe') :=
  sim_bind (sim_many0 sim_tokString) fun _ => sim_bind h fun _ => sim_pure

theorem sliceFrom_ok (input : List Token) (k : Nat) (h : k ≤ input.length) :
    sliceFrom input k = .ok () (input.drop k) := by
  simp [sliceFrom, h]

theorem sliceTo_ok (input : List Token) (k : Nat) (h : k ≤ input.length) :
    sliceTo input k = .ok () (input.take k) := by
  simp [sliceTo, h]

section
variable {p p' : Parser α}

theorem alike_delayBacktrack (hp : Sim m p p') (input : List Token) (hi : input.length < m)
    (first : Outcome (α × Nat)) (hf : Safe first input) : ∀ k : Nat, k ≤ input.length →
      Alike input (delayBacktrack p input first k) (delayBacktrack p' input first k) := by
  intro k
  induction k with
  | zero => intro _; exact ⟨rfl, hf⟩
  | succ k ih =>
    intro hk
    unfold delayBacktrack
    rw [sliceFrom_ok input k (by omega)]
    refine alike_cases (hp.alike (input.drop k) (by simp; omega)) (fun v rest h => ?_) (ih (by omega)) (ih (by omega))
    simp at h ⊢; omega

theorem alike_delayAttempts (hp : Sim m p p') (input : List Token) (hi : input.length < m) (k : Nat)
    (hk : k ≤ input.length) : Alike input (delayAttempts p input k) (delayAttempts p' input k) := by
  unfold delayAttempts
  rw [sliceFrom_ok input k hk]
  refine alike_cases (hp.alike (input.drop k) (by simp; omega)) (fun v rest h => ?_)
    (alike_delayBacktrack hp input hi .err trivial k hk) (alike_delayBacktrack hp input hi .fail trivial k hk)
  simp at h ⊢; omega

end

/-- every qubit read is at least one token (`many0Fuel_length`), so `&input[qubits.len()..]` is in range -/
theorem sim_parseDelay (h : Sim m pe pe') : Sim m (parseDelay pe) (parseDelay pe') := by
  refine ⟨fun input hi => ?_⟩
  unfold parseDelay
  have hq := (sim_many0 sim_parseQubit).safe hi
  cases hqi : many0 parseQubit input with
  | ok qubits rest =>
    have hlen : qubits.length ≤ input.length :=
      Nat.le_of_add_right_le (many0Fuel_length sim_parseQubit _ input qubits rest hi hqi)
    dsimp only
    exact alike_cases (alike_delayAttempts (sim_parseDelayFrameNamesAndDuration h) input hi qubits.length hlen)
      (fun _ _ hres => ⟨rfl, hres⟩) ⟨rfl, trivial⟩ ⟨rfl, trivial⟩
  | err => exact ⟨rfl, trivial⟩
  | fail => exact ⟨rfl, trivial⟩
  | crash w => rw [hqi] at hq; exact hq.elim

theorem sim_parseExchange : Sim m parseExchange parseExchange :=
  sim_bind sim_parseMemoryReference fun _ => sim_bind sim_parseMemoryReference fun _ => sim_pure

theorem sim_parseFence : Sim m parseFence parseFence := sim_bind (sim_many0 sim_parseQubit) fun _ => sim_pure

theorem sim_parseJump : Sim m parseJump parseJump := sim_bind sim_tokTarget fun _ => sim_pure

theorem sim_parseJumpWhen : Sim m parseJumpWhen parseJumpWhen :=
  sim_bind sim_tokTarget fun _ => sim_bind sim_parseMemoryReference fun _ => sim_pure

theorem sim_parseJumpUnless : Sim m parseJumpUnless parseJumpUnless :=
  sim_bind sim_tokTarget fun _ => sim_bind sim_parseMemoryReference fun _ => sim_pure

theorem sim_parseLabel : Sim m parseLabel parseLabel := sim_bind sim_tokTarget fun _ => sim_pure

theorem sim_parseMove : Sim m parseMove parseMove :=
  sim_bind sim_parseMemoryReference fun _ => sim_bind sim_parseArithmeticOperand fun _ => sim_pure

theorem sim_parseLoad : Sim m parseLoad parseLoad :=
  sim_bind sim_parseMemoryReference fun _ => sim_bind sim_tokIdentifier fun _ =>
  sim_bind sim_parseMemoryReference fun _ => sim_pure

theorem sim_parseStore : Sim m parseStore parseStore :=
  sim_bind sim_tokIdentifier fun _ => sim_bind sim_parseMemoryReference fun _ =>
  sim_bind sim_parseArithmeticOperand fun _ => sim_pure

theorem sim_parsePragma : Sim m parsePragma parsePragma :=
  sim_bind sim_tokIdentifier fun _ =>
  sim_bind (sim_many0 (sim_alt (sim_pmap _ sim_tokIdentifier) (sim_pmap _ sim_tokInteger))) fun _ =>
  sim_bind (sim_opt sim_tokString) fun _ => sim_pure

theorem sim_parsePulse (h : Sim m pe pe') (b : Bool) : Sim m (parsePulse pe b) (parsePulse pe' b) :=
  sim_bind sim_parseFrameIdentifier fun _ => sim_bind (sim_parseWaveformInvocation h) fun _ => sim_pure

theorem sim_parseRawCapture (h : Sim m pe pe') (b : Bool) : Sim m (parseRawCapture pe b) (parseRawCapture pe' b) :=
  sim_bind sim_parseFrameIdentifier fun _ => sim_bind h fun _ => sim_bind sim_parseMemoryReference fun _ => sim_pure

theorem sim_parseReset : Sim m parseReset parseReset := sim_bind (sim_opt sim_parseQubit) fun _ => sim_pure

theorem sim_parseSetFrequency (h : Sim m pe pe') : Sim m (parseSetFrequency pe) (parseSetFrequency pe') :=
  sim_bind sim_parseFrameIdentifier fun _ => sim_bind h fun _ => sim_pure

theorem sim_parseSetPhase (h : Sim m pe pe') : Sim m (parseSetPhase pe) (parseSetPhase pe') :=
  sim_bind sim_parseFrameIdentifier fun _ => sim_bind h fun _ => sim_pure

theorem sim_parseSetScale (h : Sim m pe pe') : Sim m (parseSetScale pe) (parseSetScale pe') :=
  sim_bind sim_parseFrameIdentifier fun _ => sim_bind h fun _ => sim_pure

theorem sim_parseShiftFrequency (h : Sim m pe pe') : Sim m (parseShiftFrequency pe) (parseShiftFrequency pe') :=
  sim_bind sim_parseFrameIdentifier fun _ => sim_bind h fun _ => sim_pure

theorem sim_parseShiftPhase (h : Sim m pe pe') : Sim m (parseShiftPhase pe) (parseShiftPhase pe') :=
  sim_bind sim_parseFrameIdentifier fun _ => sim_bind h fun _ => sim_pure

theorem sim_parseSwapPhases : Sim m parseSwapPhases parseSwapPhases :=
  sim_bind sim_parseFrameIdentifier fun _ => sim_bind sim_parseFrameIdentifier fun _ => sim_pure

theorem sim_parseMeasurement : Sim m parseMeasurement parseMeasurement :=
  sim_bind sim_parseMeasureName fun _ => sim_bind sim_parseQubit fun _ =>
  sim_bind (sim_of_safe fun input => Safe.cases (safe_of_sim input sim_parseMemoryReference)
    (fun _ _ h => h) (Nat.le_refl _) (Nat.le_refl _)) fun _ => sim_pure

theorem sim_parseInclude : Sim m parseInclude parseInclude := sim_bind sim_tokString fun _ => sim_pure

theorem sim_parseCommand (h : Sim m pe pe') (hi : Sim m pi pi') :
    ∀ c : Command, Sim m (parseCommand pe pi c) (parseCommand pe' pi' c)
  | .add | .sub | .mul | .div => sim_parseArithmetic _
  | .and | .ashr | .ior | .shl | .shr | .xor => sim_parseLogicalBinary _
  | .eq | .ge | .gt | .le | .lt => sim_parseComparison _
  | .neg | .not => sim_parseLogicalUnary _
  | .halt | .nop | .wait => sim_pure
  | .call => sim_parseCall
  | .capture => sim_parseCapture h _
  | .convert => sim_parseConvert
  | .declare => sim_parseDeclare
  | .defCal => sim_parseDefcal h hi
  | .defCircuit => sim_parseDefcircuit hi
  | .defFrame => sim_parseDefframe h
  | .defGate => sim_parseDefgate h
  | .defWaveform => sim_parseDefwaveform h
  | .delay => sim_parseDelay h
  | .fence => sim_parseFence
  | .include => sim_parseInclude
  | .jump => sim_parseJump
  | .jumpUnless => sim_parseJumpUnless
  | .jumpWhen => sim_parseJumpWhen
  | .label => sim_parseLabel
  | .load => sim_parseLoad
  | .measure => sim_parseMeasurement
  | .move => sim_parseMove
  | .exchange => sim_parseExchange
  | .pragma => sim_parsePragma
  | .pulse => sim_parsePulse h _
  | .rawCapture => sim_parseRawCapture h _
  | .reset => sim_parseReset
  | .setFrequency => sim_parseSetFrequency h
  | .setPhase => sim_parseSetPhase h
  | .setScale => sim_parseSetScale h
  | .shiftFrequency => sim_parseShiftFrequency h
  | .shiftPhase => sim_parseShiftPhase h
  | .swapPhases => sim_parseSwapPhases
  | .store => sim_parseStore

/-- `parse_instruction`: with an expression parser safe below `m + 1` and a nested-instruction parser safe
below `m`, the body is safe below `m + 1` — the nested parser only ever sees inputs from which the command
token has already been removed, while `parse_gate` runs on the whole input and hands it to the expression parser,
which therefore has to be safe below `m + 1` too — and the slices `&input[..1]`, `&input[1..]` are taken of a
non-empty input. -/
theorem sim_parseInstructionBody (h : Sim (m + 1) pe pe') (hi : Sim m pi pi') :
    Sim (m + 1) (parseInstructionBody pe pi) (parseInstructionBody pe' pi') := by
  refine ⟨fun input0 hi0 => ?_⟩
  unfold parseInstructionBody
  refine Safe.cases (sim_skipNewlinesAndComments.safe hi0) (fun u input hs => ?_) ⟨rfl, trivial⟩ ⟨rfl, trivial⟩
  have hlen : input.length < m + 1 := by omega
  have h' : Sim m pe pe' := h.mono (Nat.le_succ m)
  dsimp only
  split
  · exact ⟨rfl, trivial⟩
  · rename_i c remainder
    obtain ⟨e, hc⟩ := (sim_parseCommand h' hi c).alike_cons hlen hs
    rw [← e, sliceTo_ok _ 1 (by simp)]
    exact hc.cases (fun _ _ hr => ⟨rfl, hr⟩) ⟨rfl, trivial⟩ ⟨rfl, trivial⟩
  · rename_i remainder
    split
    · exact (sim_parsePulse h' false).alike_cons (Nat.lt_of_succ_lt hlen) (Nat.le_of_succ_le hs)
    · exact (sim_parseCapture h' false).alike_cons (Nat.lt_of_succ_lt hlen) (Nat.le_of_succ_le hs)
    · exact (sim_parseRawCapture h' false).alike_cons (Nat.lt_of_succ_lt hlen) (Nat.le_of_succ_le hs)
    · rw [sliceFrom_ok _ 1 (by simp)]; exact ⟨rfl, trivial⟩
    · exact ⟨rfl, trivial⟩
    · exact ⟨rfl, trivial⟩
  · exact (sim_parseGate h).alike_of_le hlen hs
  · exact (sim_parseGate h).alike_of_le hlen hs
  · rw [sliceTo_ok _ 1 (by simp)]; exact ⟨rfl, trivial⟩

theorem sim_parseInstructionAt : ∀ (m d d' : Nat), m ≤ d → m ≤ d' →
    Sim m (parseInstructionAt d) (parseInstructionAt d')
  | 0, _, _, _, _ => sim_zero _ _
  | m + 1, d + 1, d' + 1, hd, hd' =>
    sim_parseInstructionBody (sim_parseExpressionAt hd hd')
      (sim_parseInstructionAt m d d' (Nat.le_of_succ_le_succ hd) (Nat.le_of_succ_le_succ hd'))

theorem sim_parseInstructionsAt {d d' : Nat} (hd : m ≤ d) (hd' : m ≤ d') :
    Sim m (parseInstructionsAt d) (parseInstructionsAt d') :=
  sim_allConsuming (sim_delimited sim_skipNewlinesAndComments (sim_many0 (sim_parseInstructionAt m d d' hd hd'))
    sim_skipNewlinesAndComments)

theorem parse_budget_irrelevant (d d' : Nat) (i : List Token) (p : Prec) (h : i.length < d) (h' : i.length < d') :
    parse d i p = parse d' i p :=
  eq_of_sim i (sim_parse _ d d' h h' p)

theorem parseExpressionAt_budget_irrelevant (d d' : Nat) (i : List Token) (h : i.length < d)
    (h' : i.length < d') : parseExpressionAt d i = parseExpressionAt d' i :=
  parse_budget_irrelevant d d' i Prec.lowest h h'

theorem parseInstructionAt_budget_irrelevant (d d' : Nat) (i : List Token) (h : i.length < d) (h' : i.length < d') :
    parseInstructionAt d i = parseInstructionAt d' i :=
  eq_of_sim i (sim_parseInstructionAt _ d d' h h')

/-! ## the parser without its budget

The entry points `parseExpression`, `parseInstruction`, `parseInstructions` run at the budget "tokens + 1".  The parser
at any budget `m` is `Sim m` to them (budgeted on the left, budget-free on the right), so `parse_instruction` and
`parse_instructions` satisfy the recursion equations of the Rust functions themselves: the budget is an artefact of the
model.  The program round trip (`QV.C02`) is built on these two equations. -/

theorem sim_parseExpression (m : Nat) : Sim m (parseExpressionAt m) parseExpression :=
  ⟨fun i hi => ⟨parseExpressionAt_budget_irrelevant m (budget i) i hi (Nat.lt_succ_self _),
    (sim_parseExpressionAt (Nat.le_refl m) (Nat.le_refl m)).safe hi⟩⟩

theorem sim_parseInstruction (m : Nat) : Sim m (parseInstructionAt m) parseInstruction :=
  ⟨fun i hi => ⟨parseInstructionAt_budget_irrelevant m (budget i) i hi (Nat.lt_succ_self _),
    (sim_parseInstructionAt m m m (Nat.le_refl m) (Nat.le_refl m)).safe hi⟩⟩

/-- `parse_instruction` (instruction.rs:38) as it is written: it calls `parse_expression` and itself.  (The budgets
are spelt out: left to unification, `parseInstruction ts` is unfolded into the whole model.) -/
theorem parseInstruction_eq (ts : List Token) :
    parseInstruction ts = parseInstructionBody parseExpression parseInstruction ts :=
  (sim_parseInstructionBody (sim_parseExpression (ts.length + 1)) (sim_parseInstruction ts.length)).eq
    (Nat.lt_succ_self ts.length)

/-- `parse_instructions` (instruction.rs:146) as it is written -/
theorem parseInstructions_eq (ts : List Token) :
    parseInstructions ts =
      allConsuming (delimited skipNewlinesAndComments (many0 parseInstruction) skipNewlinesAndComments) ts :=
  (sim_allConsuming (sim_delimited sim_skipNewlinesAndComments (sim_many0 (sim_parseInstruction (ts.length + 1)))
    sim_skipNewlinesAndComments)).eq (Nat.lt_succ_self ts.length)

end QV.C01
