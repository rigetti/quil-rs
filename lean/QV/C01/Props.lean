import QV.Shared.Parse
import QV.Shared.Lex
import QV.C01.Lemmas
import QV.C01.LemmasParse
import QV.C01.ErrorModel
/-!
C01 — parsing never panics or aborts on any input text.  The parser model `QV.Shared.Parse` has an explicit `crash`
outcome at every site where the Rust code can panic, and two budgets (recursion depth, loop fuel) whose exhaustion is a
`crash` too; "no entry point crashes, on ALL token lists" is therefore also the termination statement: every loop
iteration and every recursive call consumes a token.  The depth budget an input needs is unbounded (`depth_unbounded`).
-/
namespace QV.C01
open QV QV.Tok QV.Ast QV.Parse

/-- the property's statement about one outcome: it is a value or an error -/
def Returns {α : Type} (o : Outcome α) : Prop := (∃ v r, o = .ok v r) ∨ o = .err ∨ o = .fail

def returnsB {α : Type} (o : Outcome α) : Bool := !o.isCrash

theorem returnsB_iff {α : Type} (o : Outcome α) : returnsB o = true ↔ Returns o := by
  cases o <;> simp [returnsB, Returns, Outcome.isCrash]

theorem returns_iff_no_crash {α : Type} (o : Outcome α) : Returns o ↔ ∀ w, o ≠ .crash w := by
  cases o <;> simp [Returns]

theorem returns_of_safe {α : Type} {o : Outcome α} {i : List Token} (h : Safe o i) : Returns o :=
  (returns_iff_no_crash o).2 h.not_crash

theorem safe_disallowLeftover {α : Type} {o : Outcome α} {i : List Token} (h : Safe o i) :
    Safe (disallowLeftover o) i := by
  cases o with
  | ok v r => cases r <;> simp_all [disallowLeftover]
  | err => simp [disallowLeftover]
  | fail => simp [disallowLeftover]
  | crash w => exact absurd h (safe_crash w i)

theorem safe_parseInstructionsAt {d : Nat} {ts : List Token} (h : ts.length < d) :
    Safe (parseInstructionsAt d ts) ts :=
  (sim_parseInstructionsAt (Nat.le_refl d) (Nat.le_refl d)).safe h

/-- read at the RIGHT-hand parser: that is where `sim_parseExpression`, `sim_parseInstruction` put the entry point, so
`returns_of_sim ts (sim_F (sim_parseExpression _))` says that `F parseExpression` returns -/
theorem returns_of_sim {α : Type} {p q : Parser α} (ts : List Token) (h : Sim (ts.length + 1) p q) :
    Returns (disallowLeftover (q ts)) :=
  returns_of_safe (safe_disallowLeftover (eq_of_sim ts h ▸ safe_of_sim ts h))

/-- `parse_instructions` at ANY depth budget above the number of tokens: no crash, no exhausted budget. -/
theorem C01_program_no_crash_at (d : Nat) (ts : List Token) (h : ts.length < d) :
    Returns (parseProgramAt d ts) :=
  returns_of_safe (safe_disallowLeftover (safe_parseInstructionsAt h))

/-- `Program::from_str` (after lexing): for ALL token lists the parser returns a value or an error. -/
theorem C01_program_no_crash (ts : List Token) : Returns (parseProgram ts) :=
  C01_program_no_crash_at (budget ts) ts (by simp [budget])

theorem C01_program_never_crashes (ts : List Token) (w : String) : parseProgram ts ≠ .crash w :=
  (returns_iff_no_crash _).1 (C01_program_no_crash ts) w

/-- `Instruction::from_str` (after lexing) -/
theorem C01_instruction_no_crash (ts : List Token) : Returns (parseInstructionStr ts) := by
  unfold parseInstructionStr parseInstructions
  refine Safe.cases (safe_parseInstructionsAt (Nat.lt_succ_self ts.length)) (fun v r _ => ?_) (.inr (.inl rfl))
    (.inr (.inr rfl))
  split <;> simp_all [Returns]

/-- `Expression::from_str` (after lexing) -/
theorem C01_expression_no_crash (ts : List Token) : Returns (parseExpressionStr ts) :=
  returns_of_sim ts (sim_parseExpression _)

/-- `MemoryReference::from_str` (after lexing) -/
theorem C01_memory_reference_no_crash (ts : List Token) : Returns (parseMemoryReferenceStr ts) :=
  returns_of_sim ts sim_parseMemoryReference

/-- `FrameIdentifier::from_str` (after lexing) -/
theorem C01_frame_identifier_no_crash (ts : List Token) : Returns (parseFrameIdentifierStr ts) :=
  returns_of_sim ts sim_parseFrameIdentifier

/-- `ExternSignature::from_str` (after lexing; what `PRAGMA EXTERN` signatures go through) -/
theorem C01_extern_signature_no_crash (ts : List Token) : Returns (parseExternSignatureStr ts) :=
  returns_of_sim ts sim_parseExternSignature

/-- `parse_instructions` returns a rest that is not longer than its input.  (The same is the `Safe` half of
the `sim_…` lemma of every token-level parser; it is what keeps the slice `&input[qubits.len()..]` in range and
the loop fuel sufficient.) -/
theorem C01_rest_not_longer (ts : List Token) (is : List Instruction) (r : List Token)
    (h : parseInstructions ts = .ok is r) : r.length ≤ ts.length := by
  have hs : Safe (parseInstructionsAt (budget ts) ts) ts := safe_parseInstructionsAt (Nat.lt_succ_self _)
  unfold parseInstructions at h
  rw [h] at hs
  exact hs

/-! ## composed with the lexer: all character lists

The lexer model `QV.Lex.lex : List Char → Option (List Token)` has no crash outcome: the Rust lexer
(parser/lexer/mod.rs, quoted_strings.rs, wrapped_parsers.rs) was examined for panic sites — the only
`unwrap` is on the constant `from_utf8(&[b'0', PREFIX])` (mod.rs:357), the `input.slice(..len)` /
`input.slice(len..)` calls (mod.rs:305-331) use a `len` returned by `lexical` for the same ASCII text
(always a character boundary), there is no indexing, no `as` cast, no checked arithmetic.  (The `lexical`
crate itself is a dependency; its debug assertion on `1._0000000000000000001` was side-stepped in quil-rs
by c330f06 and that input is a regression case of the correspondence check.) -/

/-- a `from_str` entry point: lex, then the token-level entry; a lexing error is an error -/
def fromText {α : Type} (entry : List Token → Outcome α) (cs : List Char) : Outcome α :=
  match QV.Lex.lex cs with
  | some ts => entry ts
  | none => .err

theorem fromText_returns {α : Type} (entry : List Token → Outcome α) (h : ∀ ts, Returns (entry ts))
    (cs : List Char) : Returns (fromText entry cs) := by
  unfold fromText
  cases QV.Lex.lex cs with
  | some ts => exact h ts
  | none => simp [Returns]

theorem C01_program_from_text (cs : List Char) : Returns (fromText parseProgram cs) :=
  fromText_returns _ C01_program_no_crash cs
theorem C01_instruction_from_text (cs : List Char) : Returns (fromText parseInstructionStr cs) :=
  fromText_returns _ C01_instruction_no_crash cs
theorem C01_expression_from_text (cs : List Char) : Returns (fromText parseExpressionStr cs) :=
  fromText_returns _ C01_expression_no_crash cs
theorem C01_memory_reference_from_text (cs : List Char) : Returns (fromText parseMemoryReferenceStr cs) :=
  fromText_returns _ C01_memory_reference_no_crash cs
theorem C01_frame_identifier_from_text (cs : List Char) : Returns (fromText parseFrameIdentifierStr cs) :=
  fromText_returns _ C01_frame_identifier_no_crash cs

/-! ## the crash sites are real: non-vacuity

`crash` is not an unreachable constructor of the model: the slice helpers do crash out of range, a too
small depth budget is reported as a crash, and a parser with the pre-34d49dc operand code (`panic!` on an
operator other than minus before a literal) is refuted by the very input of the property text. -/

example : (sliceTo [] 1).isCrash = true := by decide
example : (sliceFrom [Token.colon] 2).isCrash = true := by decide
example : isDepthCrash (parseProgramAt 1 [.identifier ['R', 'X'], .lParenthesis, .lParenthesis, .integer 1,
    .rParenthesis, .rParenthesis, .integer 0]) = true := by decide

/-- the operand parser as it was before the fix 34d49dc: any operator token was accepted by the sign
position and `_ => panic!("Implement this error")` hit for operators other than minus -/
def parseArithmeticOperandOld : Parser ArithmeticOperand := fun i =>
  match i with
  | .operator .minus :: .integer v :: r => .ok (.literalInteger (-(v : Int))) r
  | .operator _ :: .integer _ :: _ => .crash "Implement this error"
  | .integer v :: r => .ok (.literalInteger v) r
  | _ => (pmap ArithmeticOperand.memoryReference parseMemoryReference) i

/-- `ADD ro +1` on the old operand parser: the crash the property text names -/
theorem old_operand_parser_crashes :
    ((do let _ ← parseMemoryReference; parseArithmeticOperandOld : Parser ArithmeticOperand)
      [.identifier ['r', 'o'], .operator .plus, .integer 1]).cls = .crash := by
  decide

/-- … and the current one rejects it (a `Failure`, because a command's errors are never recoverable) -/
example : (parseProgram [.command .add, .identifier ['r', 'o'], .operator .plus, .integer 1]).cls = .fail := by
  decide
example : (parseProgram [.nonBlocking]).cls = .fail := by decide
example : (parseProgram [.nonBlocking, .identifier ['X'], .integer 0]).cls = .fail := by decide
/-- `MOVE ro -9223372036854775808` is `i64::MIN`, one more is rejected, nothing wraps -/
example : (parseProgram [.command .move, .identifier ['r', 'o'], .operator .minus,
    .integer 9223372036854775808]).cls = .ok := by decide
example : (parseProgram [.command .move, .identifier ['r', 'o'], .operator .minus,
    .integer 9223372036854775809]).cls = .fail := by decide
example : (parseProgram [.command .move, .identifier ['r', 'o'], .integer 18446744073709551615]).cls = .fail := by
  decide

/-- … for every magnitude: `signed_integer` never wraps ("overflows an integer" in the property text; the literals
themselves are C05's): an accepted literal is the exact integer `± magnitude`, accepted exactly when it fits an `i64` -/
theorem signedInteger_exact (neg : Bool) (m : Nat) (z : Int) :
    signedInteger neg m = some z ↔
      (z = (if neg then -(m : Int) else (m : Int)) ∧ -9223372036854775808 ≤ z ∧ z ≤ 9223372036854775807) := by
  unfold signedInteger
  cases neg <;> simp <;> constructor <;> intro h <;> (try split at h) <;> (try split) <;> omega

theorem depthFrom_spec (ts : List Token) : ∀ k d : Nat, d ≤ depthFrom ts k d ∧ depthFrom ts k d ≤ d + k ∧
    (depthFrom ts k d < d + k → isDepthCrash (parseProgramAt (depthFrom ts k d) ts) = false) := by
  intro k
  induction k with
  | zero => intro d; simp [depthFrom]
  | succ k ih =>
    intro d
    unfold depthFrom
    split
    · obtain ⟨h1, h2, h3⟩ := ih (d + 1)
      exact ⟨by omega, by omega, fun h => h3 (by omega)⟩
    · rename_i hc
      exact ⟨Nat.le_refl d, by omega, fun _ => by simpa using hc⟩

theorem depthFrom_le (ts : List Token) : ∀ k d : Nat, depthFrom ts k d ≤ d + k :=
  fun k d => (depthFrom_spec ts k d).2.1

theorem depthFrom_ge_start (ts : List Token) : ∀ k d : Nat, d ≤ depthFrom ts k d :=
  fun k d => (depthFrom_spec ts k d).1

/-- the search for `depth` ends at the entry points' budget (which is enough: `C01_program_no_crash_at`) -/
theorem depth_le (ts : List Token) : depth ts ≤ ts.length + 1 := by
  have := depthFrom_le ts (budget ts) 0
  simpa [depth, budget] using this

theorem depthFrom_ge (ts : List Token) (k d j : Nat) (hj : j ≤ k)
    (h : ∀ d', d ≤ d' → d' < d + j → isDepthCrash (parseProgramAt d' ts) = true) : d + j ≤ depthFrom ts k d := by
  obtain ⟨h1, _, h3⟩ := depthFrom_spec ts k d
  refine Nat.le_of_not_lt fun hlt => ?_
  have := h _ h1 hlt
  rw [h3 (by omega)] at this
  cases this

/-- `RX(((…1…))) 0` with `n` extra pairs of parentheses -/
def nested (n : Nat) : List Token :=
  .identifier ['R', 'X'] :: .lParenthesis ::
    (List.replicate n .lParenthesis ++ .integer 1 :: (List.replicate n .rParenthesis ++ [.rParenthesis, .integer 0]))

/-- every `(` is read by `parse_grouped_expression` calling `parse` one level down before any token can be
rejected, so `n` of them exhaust a budget `d ≤ n` -/
theorem parse_nested_crash : ∀ (d n : Nat) (rest : List Token) (p : Prec), d ≤ n →
    parse d (List.replicate n .lParenthesis ++ rest) p = .crash depthExceeded := by
  intro d
  induction d with
  | zero => intro n rest p _; rfl
  | succ d ih =>
    intro n rest p h
    cases n with
    | zero => omega
    | succ n =>
      have := ih n rest Prec.lowest (by omega)
      simp [parse, parseBody, opt, parsePrefix, parseImmediateValue, parseOperand, parseGroupedExpression,
        List.replicate_succ, this]

theorem skipNewlinesAndComments_identifier (s : List Char) (r : List Token) :
    skipNewlinesAndComments (.identifier s :: r) = .ok () (.identifier s :: r) := by
  simp [skipNewlinesAndComments, many0, many0Fuel, alt, preceded, tok, tokComment, pmap, Parser.bind, Parser.pure,
    Outcome.map]

/-- `RX (` leads through `parse_gate` (its parameter list, `parseParameters`) into `parse` at the instruction's own
budget -/
theorem parseInstructionAt_nested_crash (d n : Nat) (h : d ≤ n) :
    parseInstructionAt d (nested n) = .crash depthExceeded := by
  cases d with
  | zero => rfl
  | succ d =>
    have := parse_nested_crash (d + 1) n
      (.integer 1 :: (List.replicate n .rParenthesis ++ [.rParenthesis, .integer 0])) Prec.lowest h
    simp [nested, parseInstructionAt, parseInstructionBody, skipNewlinesAndComments_identifier, parseGate, many0,
      many0Fuel, Parser.bind, parseGateModifier, tokModifier, tokIdentifier, parseParameters, opt, delimited, tok,
      separatedList0, parseExpressionAt, this]

theorem parseProgramAt_nested_crash (d n : Nat) (h : d ≤ n) :
    isDepthCrash (parseProgramAt d (nested n)) = true := by
  have := parseInstructionAt_nested_crash d n h
  unfold nested at this
  simp [parseProgramAt, parseInstructionsAt, allConsuming, delimited, Parser.bind, nested,
    skipNewlinesAndComments_identifier, many0, many0Fuel, this, disallowLeftover, isDepthCrash]

theorem depth_nested (n : Nat) : n + 1 ≤ depth (nested n) := by
  have := depthFrom_ge (nested n) (budget (nested n)) 0 (n + 1) (by simp [budget, nested]; omega)
    (fun d' _ h2 => parseProgramAt_nested_crash d' n (by omega))
  simpa [depth] using this

/-- The recursion depth is unbounded: no finite stack is enough for every input (the known finding
C01/deep-nesting; the model shows it is inherent in the grammar, the child process shows the abort). -/
theorem depth_unbounded : ∀ d : Nat, ∃ ts : List Token, d ≤ depth ts :=
  fun d => ⟨nested d, by have := depth_nested d; omega⟩

/-- … while the nested inputs are perfectly valid programs: at a sufficient budget they parse. -/
example : (parseProgram (nested 3)).isOk = true := by decide
example : depth (nested 3) = 4 := by decide

/-! ## the depth budget is irrelevant above the number of tokens

Any two budgets larger than the number of tokens give the same outcome, so `parseProgram ts` can be computed at any
convenient sufficient budget (the `example` below).  The program round trip (`QV.C02`, `QV.C04`) does not use these
equations but the budget-free recursion equations `parseInstruction_eq`, `parseInstructions_eq` of `LemmasParse.lean`;
`parseExpression_eq_at`, `parseInstruction_eq_at` are the equation half of the `sim_parseExpression`,
`sim_parseInstruction` those are proved from. -/

theorem parseProgramAt_budget_irrelevant (d d' : Nat) (ts : List Token) (h : ts.length < d)
    (h' : ts.length < d') : parseProgramAt d ts = parseProgramAt d' ts := by
  unfold parseProgramAt
  rw [eq_of_sim ts (sim_parseInstructionsAt h h')]

theorem parseProgram_eq_at (d : Nat) (ts : List Token) (h : ts.length < d) :
    parseProgram ts = parseProgramAt d ts :=
  parseProgramAt_budget_irrelevant (budget ts) d ts (by simp [budget]) h

theorem parseExpression_eq_at (d : Nat) (ts : List Token) (h : ts.length < d) :
    parseExpression ts = parseExpressionAt d ts :=
  ((sim_parseExpression d).eq h).symm

theorem parseInstruction_eq_at (d : Nat) (ts : List Token) (h : ts.length < d) :
    parseInstruction ts = parseInstructionAt d ts :=
  ((sim_parseInstruction d).eq h).symm

example : (parseProgramAt 1000000 (nested 3)).isOk = true := by
  rw [← parseProgramAt_budget_irrelevant 12 1000000 (nested 3) (by decide) (by decide)]; decide

/-! ## the error-construction path that touches the input text (parser/error/input.rs) -/

/-- the lex-error snippet as the code builds it never slices, hence never panics — for every position in
every text (the rest of the error path — Display, Debug, causes — is exercised by the harness only) -/
theorem snippet_never_crashes (before after : List Char) : ErrorModel.snippet before after ≠ .crash := by
  simp only [ErrorModel.snippet]; split <;> simp

/-- on text that is pure ASCII, `&s[..n]` with `n ≤ len` is a value (every byte offset is a character
boundary) -/
theorem sliceTo_ascii (s : List Char) (h : ∀ c ∈ s, c.toNat < 0x80) :
    ∀ n, n ≤ s.length → ErrorModel.sliceTo s n ≠ .crash := by
  induction s with
  | nil => intro n hn; simp at hn; subst hn; simp [ErrorModel.sliceTo]
  | cons c cs ih =>
    intro n hn
    cases n with
    | zero => simp [ErrorModel.sliceTo]
    | succ n =>
      have hc : ErrorModel.utf8Len c = 1 := by simp [ErrorModel.utf8Len, h c (by simp)]
      have := ih (fun c hc' => h c (by simp [hc'])) n (by simpa using hn)
      simp only [ErrorModel.sliceTo, hc]
      cases hh : ErrorModel.sliceTo cs n <;> simp_all

/-- the seeded variant (`&s[..100]`) panics on the witness: 99 ASCII bytes, then `é`, lex error at `é` -/
theorem snippetCapped_counterexample :
    ErrorModel.snippetCapped (List.replicate 99 'a') ['é'] = .crash := by decide

end QV.C01
