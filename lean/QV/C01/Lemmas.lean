import QV.Shared.Parse
import QV.Shared.ParseLemmas
/-!
`Safe o i`: the outcome `o` is not a crash and its rest is not longer than the input `i`.  `Sim m p q`: on every input
shorter than `m` the parsers `p` and `q` return the same outcome, and it is safe.  One lemma per nom combinator of the
model, all uniform in `m`, so that the recursive knots of the parser can be tied by induction on `m`.
-/
namespace QV.C01
open QV QV.Tok QV.Ast QV.Parse

variable {α β γ : Type}

@[simp] theorem bind_eq (p : Parser α) (f : α → Parser β) : (p >>= f) = Parser.bind p f := rfl
@[simp] theorem pure_eq (a : α) : (Pure.pure a : Parser α) = Parser.pure a := rfl
@[simp] theorem seq_unit_eq (p : Parser Unit) (q : Parser β) :
    (do p; q) = Parser.bind p (fun _ => q) := rfl

def Safe (o : Outcome α) (i : List Token) : Prop :=
  match o with
  | .ok _ r => r.length ≤ i.length
  | .err => True
  | .fail => True
  | .crash _ => False

@[simp] theorem safe_ok (v : α) (r i : List Token) : Safe (.ok v r) i ↔ r.length ≤ i.length := Iff.rfl
@[simp] theorem safe_err (i : List Token) : Safe (.err : Outcome α) i := trivial
@[simp] theorem safe_fail (i : List Token) : Safe (.fail : Outcome α) i := trivial
@[simp] theorem safe_crash (w : String) (i : List Token) : ¬ Safe (.crash w : Outcome α) i := id

theorem Safe.mono {o : Outcome α} {i j : List Token} (h : Safe o i) (hij : i.length ≤ j.length) : Safe o j := by
  cases o <;> simp_all [Safe]; omega

theorem Safe.not_crash {o : Outcome α} {i : List Token} (h : Safe o i) (w : String) : o ≠ .crash w := by
  intro e; subst e; exact h

theorem safe_map (f : α → β) {o : Outcome α} {i : List Token} (h : Safe o i) : Safe (o.map f) i := by
  cases o <;> simp_all [Safe, Outcome.map]

abbrev Alike (i : List Token) (o o' : Outcome α) : Prop := o = o' ∧ Safe o i

@[simp] theorem alike_iff (i : List Token) (o o' : Outcome α) : Alike i o o' ↔ o = o' ∧ Safe o i := Iff.rfl

theorem Alike.map (f : α → β) {i : List Token} {o o' : Outcome α} (h : Alike i o o') :
    Alike i (o.map f) (o'.map f) :=
  h.imp (congrArg _) (safe_map f)

@[elab_as_elim] theorem Safe.cases {motive : Outcome α → Prop} {o : Outcome α} {i : List Token} (h : Safe o i)
    (ok : ∀ v r, r.length ≤ i.length → motive (.ok v r)) (err : motive .err) (fail : motive .fail) : motive o := by
  cases o with
  | ok v r => exact ok v r h
  | err => exact err
  | fail => exact fail
  | crash w => exact h.elim

@[elab_as_elim] theorem alike_cases {motive : Outcome α → Outcome α → Prop} {o o' : Outcome α} {i : List Token}
    (h : Alike i o o') (ok : ∀ v r, r.length ≤ i.length → motive (.ok v r) (.ok v r)) (err : motive .err .err)
    (fail : motive .fail .fail) : motive o o' := by
  obtain ⟨rfl, h⟩ := h
  exact h.cases ok err fail

theorem alike_ite {c : Prop} [Decidable c] {a a' b b' : Outcome α} {i : List Token} (ha : Alike i a a')
    (hb : Alike i b b') : Alike i (if c then a else b) (if c then a' else b') := by
  split <;> assumption

variable {m : Nat}

/-- The parser functions take as arguments the parsers they call back into (`parse`, `parseInstructionAt` at a smaller
depth budget), so one lemma `Sim m pe pe' → Sim m (F pe) (F pe')` per function says both that `F` is safe and that it
cannot tell two budgets apart.  For a parser without callback it reads `Sim m p p` for every `m`: safe on every input
(`safe_of_sim`). -/
structure Sim (m : Nat) (p q : Parser α) : Prop where
  alike : ∀ i : List Token, i.length < m → Alike i (p i) (q i)

theorem Sim.eq {p q : Parser α} (h : Sim m p q) {i : List Token} (hi : i.length < m) : p i = q i :=
  (h.alike i hi).1

theorem Sim.safe {p q : Parser α} (h : Sim m p q) {i : List Token} (hi : i.length < m) : Safe (p i) i :=
  (h.alike i hi).2

theorem Sim.alike_of_le {p q : Parser α} (h : Sim m p q) {r i : List Token} (hr : r.length < m)
    (hle : r.length ≤ i.length) : Alike i (p r) (q r) :=
  (h.alike r hr).imp id (·.mono hle)

/-- the contractive step of the two knots (`sim_parse`, `sim_parseInstructionAt`): a parser run on what follows a token
sees an input shorter than `m` when the whole was shorter than `m + 1` (`i` is the input the caller answers for) -/
theorem Sim.alike_cons {p q : Parser α} (h : Sim m p q) {t : Token} {r i : List Token}
    (ht : (t :: r).length < m + 1) (hi : (t :: r).length ≤ i.length) : Alike i (p r) (q r) :=
  h.alike_of_le (Nat.lt_of_succ_lt_succ ht) (Nat.le_of_succ_le hi)

theorem safe_of_sim {p q : Parser α} (i : List Token) (h : Sim (i.length + 1) p q) : Safe (p i) i :=
  h.safe (Nat.lt_succ_self _)

theorem eq_of_sim {p q : Parser α} (i : List Token) (h : Sim (i.length + 1) p q) : p i = q i :=
  h.eq (Nat.lt_succ_self _)

theorem Sim.mono {k : Nat} {p q : Parser α} (h : Sim m p q) (hk : k ≤ m) : Sim k p q :=
  ⟨fun i hi => h.alike i (Nat.lt_of_lt_of_le hi hk)⟩

theorem sim_zero (p q : Parser α) : Sim 0 p q := ⟨fun _ hi => absurd hi (Nat.not_lt_zero _)⟩

theorem sim_of_safe {p : Parser α} (h : ∀ i, Safe (p i) i) : Sim m p p := ⟨fun i _ => ⟨rfl, h i⟩⟩

theorem sim_pure {a : α} : Sim m (Parser.pure a) (Parser.pure a) := sim_of_safe fun i => Nat.le_refl i.length

/-- why `Safe` carries the length bound: the continuation only ever sees a rest that is no longer than the input,
hence shorter than `m` too -/
theorem sim_bind {p p' : Parser α} {f f' : α → Parser β} (hp : Sim m p p') (hf : ∀ a, Sim m (f a) (f' a)) :
    Sim m (Parser.bind p f) (Parser.bind p' f') := by
  refine ⟨fun i hi => ?_⟩
  unfold Parser.bind
  refine alike_cases (hp.alike i hi) (fun v r h => ?_) ⟨rfl, trivial⟩ ⟨rfl, trivial⟩
  exact (hf v).alike_of_le (Nat.lt_of_le_of_lt h hi) h

theorem sim_ite {c : Prop} [Decidable c] {p p' q q' : Parser α} (hp : Sim m p p') (hq : Sim m q q') :
    Sim m (if c then p else q) (if c then p' else q') := by
  split <;> assumption

theorem sim_tok {t : Token} : Sim m (tok t) (tok t) :=
  sim_of_safe fun i => by unfold tok; split <;> (try split) <;> simp

theorem sim_tokIdentifier : Sim m tokIdentifier tokIdentifier :=
  sim_of_safe fun i => by unfold tokIdentifier; split <;> simp
theorem sim_tokInteger : Sim m tokInteger tokInteger :=
  sim_of_safe fun i => by unfold tokInteger; split <;> simp
theorem sim_tokFloat : Sim m tokFloat tokFloat :=
  sim_of_safe fun i => by unfold tokFloat; split <;> simp
theorem sim_tokString : Sim m tokString tokString :=
  sim_of_safe fun i => by unfold tokString; split <;> simp
theorem sim_tokVariable : Sim m tokVariable tokVariable :=
  sim_of_safe fun i => by unfold tokVariable; split <;> simp
theorem sim_tokTarget : Sim m tokTarget tokTarget :=
  sim_of_safe fun i => by unfold tokTarget; split <;> simp
theorem sim_tokDataType : Sim m tokDataType tokDataType :=
  sim_of_safe fun i => by unfold tokDataType; split <;> simp
theorem sim_tokModifier : Sim m tokModifier tokModifier :=
  sim_of_safe fun i => by unfold tokModifier; split <;> simp
theorem sim_tokComment : Sim m tokComment tokComment :=
  sim_of_safe fun i => by unfold tokComment; split <;> simp

section
variable {p p' q q' : Parser α}

theorem sim_opt (hp : Sim m p p') : Sim m (opt p) (opt p') := by
  refine ⟨fun i hi => ?_⟩
  unfold opt
  refine alike_cases (hp.alike i hi) (fun v r h => ?_) ?_ ?_ <;> simp [*]

theorem sim_alt (hp : Sim m p p') (hq : Sim m q q') : Sim m (alt p q) (alt p' q') := by
  refine ⟨fun i hi => ?_⟩
  unfold alt
  refine alike_cases (hp.alike i hi) (fun v r h => ?_) ?_ ?_ <;> simp [*]
  exact hq.alike i hi

theorem sim_cut (hp : Sim m p p') : Sim m (cut p) (cut p') := by
  refine ⟨fun i hi => ?_⟩
  unfold cut
  refine alike_cases (hp.alike i hi) (fun v r h => ?_) ?_ ?_ <;> simp [*]

theorem sim_pmap (f : α → β) (hp : Sim m p p') : Sim m (pmap f p) (pmap f p') :=
  ⟨fun i hi => (hp.alike i hi).map f⟩

theorem sim_mapRes (f : α → Option β) (hp : Sim m p p') : Sim m (mapRes p f) (mapRes p' f) := by
  refine ⟨fun i hi => ?_⟩
  unfold mapRes
  refine alike_cases (hp.alike i hi) (fun v r h => ?_) ?_ ?_ <;> simp only [alike_iff, safe_err, safe_fail, and_self]
  cases f v <;> simp [h]

theorem sim_allConsuming (hp : Sim m p p') : Sim m (allConsuming p) (allConsuming p') := by
  refine ⟨fun i hi => ?_⟩
  unfold allConsuming
  refine alike_cases (hp.alike i hi) (fun v r h => ?_) ?_ ?_ <;> simp only [alike_iff, safe_err, safe_fail, and_self]
  cases r <;> simp

end

section
variable {p p' : Parser α} {q q' : Parser β}

theorem sim_preceded (hp : Sim m p p') (hq : Sim m q q') : Sim m (preceded p q) (preceded p' q') :=
  sim_bind hp fun _ => hq

theorem sim_pair (hp : Sim m p p') (hq : Sim m q q') : Sim m (pair p q) (pair p' q') :=
  sim_bind hp fun _ => sim_bind hq fun _ => sim_pure

theorem sim_delimited {r r' : Parser γ} (hp : Sim m p p') (hq : Sim m q q') (hr : Sim m r r') :
    Sim m (delimited p q r) (delimited p' q' r') :=
  sim_bind hp fun _ => sim_bind hq fun _ => sim_bind hr fun _ => sim_pure

end

/-! ## loops: every iteration consumes a token, so fuel above the length of the input is never exhausted -/

section
variable {p p' : Parser α}

theorem alike_many0Fuel (hp : Sim m p p') : ∀ (k : Nat) (i : List Token), i.length < k → i.length < m →
    Alike i (many0Fuel p k i) (many0Fuel p' k i) := by
  intro k
  induction k with
  | zero => intro i h; exact absurd h (Nat.not_lt_zero _)
  | succ k ih =>
    intro i hk hm
    unfold many0Fuel
    refine alike_cases (hp.alike i hm) (fun v r h => ?_) (by simp) (by simp)
    dsimp only
    split
    · simp
    · rename_i hne
      have hlt : r.length < i.length := by simp only [beq_iff_eq] at hne; omega
      exact ((ih r (by omega) (by omega)).map _).imp id (·.mono h)

theorem sim_many0 (hp : Sim m p p') : Sim m (many0 p) (many0 p') :=
  ⟨fun i hi => alike_many0Fuel hp _ i (Nat.lt_succ_self _) hi⟩

/-- every iteration of `many0` consumes a token (or the whole is an error), so it returns no more values than
it consumed tokens: what keeps `&input[qubits.len()..]` of `parse_delay` in range (`sim_parseDelay`) -/
theorem many0Fuel_length (hp : Sim m p p') : ∀ (k : Nat) (i : List Token) (vs : List α) (rest : List Token),
    i.length < m → many0Fuel p k i = .ok vs rest → vs.length + rest.length ≤ i.length := by
  intro k
  induction k with
  | zero => intro i vs rest _ h; cases h
  | succ k ih =>
    intro i vs rest hi
    unfold many0Fuel
    refine Safe.cases (hp.safe hi) (fun v r hr => ?_) ?_ ?_
    · dsimp only
      split
      · intro h; cases h
      · rename_i hne
        intro h
        obtain ⟨vs', h', rfl⟩ := ok_of_map_eq_ok h
        have := ih r vs' rest (by omega) h'
        simp only [beq_iff_eq] at hne
        simp only [List.length_cons]
        omega
    · intro h; cases h; simp
    · intro h; cases h

theorem sim_many1 (hp : Sim m p p') : Sim m (many1 p) (many1 p') := by
  rw [many1_eq, many1_eq]; exact sim_bind hp fun _ => sim_pmap _ (sim_many0 hp)

variable {sep sep' : Parser β}

theorem alike_sepLoopFuel (hs : Sim m sep sep') (hp : Sim m p p') :
    ∀ (k : Nat) (i : List Token), i.length < k → i.length < m →
      Alike i (sepLoopFuel sep p k i) (sepLoopFuel sep' p' k i) := by
  intro k
  induction k with
  | zero => intro i h; exact absurd h (Nat.not_lt_zero _)
  | succ k ih =>
    intro i hk hm
    unfold sepLoopFuel
    refine alike_cases (hs.alike i hm) (fun u i1 h => ?_) (by simp) (by simp)
    dsimp only
    split
    · simp
    · rename_i hne
      have hlt : i1.length < i.length := by simp only [beq_iff_eq] at hne; omega
      refine alike_cases (hp.alike i1 (by omega)) (fun v i2 h1 => ?_) (by simp) (by simp)
      dsimp only
      exact ((ih i2 (by omega) (by omega)).map _).imp id (Safe.mono · (by omega))

theorem sim_sepLoop (hs : Sim m sep sep') (hp : Sim m p p') :
    Sim m (fun r => sepLoopFuel sep p (r.length + 1) r) (fun r => sepLoopFuel sep' p' (r.length + 1) r) :=
  ⟨fun i hi => alike_sepLoopFuel hs hp _ i (Nat.lt_succ_self _) hi⟩

theorem sim_separatedList1 (hs : Sim m sep sep') (hp : Sim m p p') :
    Sim m (separatedList1 sep p) (separatedList1 sep' p') := by
  rw [separatedList1_eq, separatedList1_eq]; exact sim_bind hp fun _ => sim_pmap _ (sim_sepLoop hs hp)

theorem sim_separatedList0 (hs : Sim m sep sep') (hp : Sim m p p') :
    Sim m (separatedList0 sep p) (separatedList0 sep' p') := by
  refine ⟨fun i hi => ?_⟩
  unfold separatedList0
  refine alike_cases (hp.alike i hi) (fun v r h => ?_) (by simp) (by simp)
  exact (sim_pmap _ (sim_sepLoop hs hp)).alike_of_le (Nat.lt_of_le_of_lt h hi) h

end

/-! ## the two halves of `Sim`, stated on their own

`Good m p` is the diagonal `Sim m p p`, `Agree m p q` the equation half of `Sim m p q`.  The proofs of this directory
go through `Sim`, none through these. -/

structure Good (m : Nat) (p : Parser α) : Prop where
  safe : ∀ i : List Token, i.length < m → Safe (p i) i

theorem good_of_forall {m : Nat} {p : Parser α} (h : ∀ i, i.length < m → Safe (p i) i) : Good m p := ⟨h⟩

structure Agree (m : Nat) (p q : Parser α) : Prop where
  eq : ∀ i : List Token, i.length < m → p i = q i

theorem Sim.agree {p q : Parser α} (h : Sim m p q) : Agree m p q := ⟨fun _ hi => h.eq hi⟩

theorem Agree.sim {p q : Parser α} (h : Agree m p q) (g : Good m p) : Sim m p q :=
  ⟨fun i hi => ⟨h.eq i hi, g.safe i hi⟩⟩

theorem Sim.good {p q : Parser α} (h : Sim m p q) : Good m p := ⟨fun _ hi => h.safe hi⟩

theorem Good.sim {p : Parser α} (h : Good m p) : Sim m p p := ⟨fun i hi => ⟨rfl, h.safe i hi⟩⟩

theorem good_error (m : Nat) : Good m (Parser.error : Parser α) := ⟨fun _ _ => trivial⟩
theorem good_failure (m : Nat) : Good m (Parser.failure : Parser α) := ⟨fun _ _ => trivial⟩

theorem good_delimited {m : Nat} {l : Parser α} {p : Parser β} {r : Parser γ} (hl : Good m l) (hp : Good m p)
    (hr : Good m r) : Good m (delimited l p r) :=
  (sim_delimited hl.sim hp.sim hr.sim).good

theorem agree_pair {m : Nat} {p p' : Parser α} {q q' : Parser β} (hp : Agree m p p') (gp : Good m p)
    (hq : Agree m q q') (gq : Good m q) : Agree m (pair p q) (pair p' q') :=
  (sim_pair (hp.sim gp) (hq.sim gq)).agree

theorem agree_delimited {m : Nat} {l l' : Parser α} {p p' : Parser β} {r r' : Parser γ} (hl : Agree m l l')
    (gl : Good m l) (hp : Agree m p p') (gp : Good m p) (hr : Agree m r r') (gr : Good m r) :
    Agree m (delimited l p r) (delimited l' p' r') :=
  (sim_delimited (hl.sim gl) (hp.sim gp) (hr.sim gr)).agree

end QV.C01
