import QV.C18.Spec
import QV.C17.Expansion
/-
C18 — Calibration expansion always terminates without crashing.

The statement is FALSE of the code (known finding `C18/growing-parameter`): `growing_diverges` proves that
for `DEFCAL RX(%t) 0: RX(%t+1) 0` the expansion of `RX(0) 0` is out of fuel for EVERY fuel — no instruction
ever repeats, so the breadcrumb check never fires; the running code recurses until the stack overflows (the
abort itself is observed in a child process by the harness).  What holds, for all calibration sets, instructions
and oracles: termination when the matched instructions the expansion can reach are finitely many
(`expand_terminates`), and the error is reported iff some instruction would be expanded again while it is already
being expanded, the error carrying that instruction (`error_iff_revisit`, `error_carries_revisited`).
-/
namespace QV.C18
open QV QV.Ast QV.C17

section
variable {κ : Type} [DecidableEq κ] (E : Env κ) (S : Subst) (cals : Cals)

/-- the measure: the breadcrumbs are duplicate-free keys of members of `R`, so there are at most `|R|` of
them, and `|R| + 1 ≤ fuel + |prev|` is kept by every level of the recursion -/
theorem terminates_aux (R : List Instruction) (hc : Closed E S cals R) :
    ∀ (fuel : Nat) (prev : List κ) (i : Instruction), prev.Nodup → (∀ k ∈ prev, k ∈ R.map E.key) →
      (i ∈ R ∨ oneStep E S cals i = none) → R.length + 1 ≤ fuel + prev.length →
      expandInnerWith E S cals fuel prev i ≠ .outOfFuel := by
  intro fuel
  induction fuel with
  | zero =>
    intro prev i hnd hsub _ hlen
    have := hnd.length_le_of_subset hsub
    simp only [List.length_map] at this
    omega
  | succ fuel ih =>
    intro prev i hnd hsub hi hlen
    by_cases hkey : E.key i ∈ prev
    · rw [expandInnerWith_of_mem hkey]; nofun
    cases hs : oneStep E S cals i with
    | none => rw [expandInnerWith_of_none hkey hs]; nofun
    | some r =>
      obtain ⟨body, src⟩ := r
      have hiR : i ∈ R := hi.resolve_right (by rw [hs]; nofun)
      rw [expandInnerWith_of_some hkey hs, Ne, Outcome.map_eq_outOfFuel]
      refine expandSeq_ne_outOfFuel fun j hj => ih _ j (List.nodup_cons.mpr ⟨hkey, hnd⟩) ?_ ?_ ?_
      · intro k hk
        rcases List.mem_cons.mp hk with rfl | hk
        · exact List.mem_map_of_mem hiR
        · exact hsub k hk
      · by_cases hj1 : oneStep E S cals j = none
        · exact Or.inr hj1
        · exact Or.inl (hc i hiR body src hs j hj hj1)
      · simp only [List.length_cons]; omega

/-- **C18 (termination)**: if the matched instructions reachable from `i` lie in a finite list `R` closed
under one step of expansion, then `|R| + 1` levels of recursion are enough — `Calibrations::expand` returns
an expansion or the recursive-calibration error, it does not run out of fuel. -/
theorem expand_terminates (R : List Instruction) (hc : Closed E codeSubst cals R) (i : Instruction)
    (hi : i ∈ R ∨ oneStep E codeSubst cals i = none) :
    expandFuel E (R.length + 1) cals i ≠ .outOfFuel :=
  terminates_aux E codeSubst cals R hc (R.length + 1) [] i List.nodup_nil (by simp) hi (by simp)

theorem expand_terminates_ge (R : List Instruction) (hc : Closed E codeSubst cals R) (i : Instruction)
    (hi : i ∈ R ∨ oneStep E codeSubst cals i = none) (n : Nat) (hn : R.length + 1 ≤ n) :
    expandFuel E n cals i ≠ .outOfFuel :=
  terminates_aux E codeSubst cals R hc n [] i List.nodup_nil (by simp) hi (by simpa using hn)

theorem expandLoop_ne_outOfFuel (src : Prog) (fuel : Nat) :
    ∀ (is : List Instruction) (idx : Nat) (np : Prog) (sm : Option (List Entry)),
      (∀ i ∈ is, expandInnerWith E S src.cals fuel [] i ≠ .outOfFuel) →
      expandLoop E S src fuel is idx np sm ≠ .outOfFuel := by
  intro is idx np sm hall h
  have hw := expandLoop_fst E S src fuel is idx np sm
  rw [h] at hw
  exact expandSeq_ne_outOfFuel hall ((Outcome.map_eq_outOfFuel _ _).mp hw.symm)

private theorem classOf_map_eq_outOfFuel {α β : Type} (f : α → β) (o : Outcome α) :
    classOf (o.map f) = .outOfFuel ↔ o = .outOfFuel := by cases o <;> simp [classOf, Outcome.map]

/-- **C18 (termination) at the program level**: if every body instruction lies in a finite closed list `R`
(or has no match), `Program::expand_calibrations` returns the expanded program or the error with `|R| + 1`
levels of recursion. -/
theorem program_expand_terminates (p : Prog) (R : List Instruction) (hc : Closed E codeSubst p.cals R)
    (hall : ∀ i ∈ p.instructions, i ∈ R ∨ oneStep E codeSubst p.cals i = none) :
    classOf (expandCalibrations E p (R.length + 1)) ≠ .outOfFuel := by
  rw [expandCalibrations_eq, Ne, classOf_map_eq_outOfFuel]
  exact expandSeq_ne_outOfFuel fun i hi => expand_terminates E p.cals R hc i (hall i hi)

theorem recursive_revisit :
    ∀ (fuel : Nat) (prev : List κ) (i j : Instruction),
      expandInnerWith E S cals fuel prev i = .recursiveCalibration j → Revisit E S cals prev i j := by
  intro fuel
  induction fuel with
  | zero => intro prev i j h; cases h
  | succ fuel ih =>
    intro prev i j h
    by_cases hm : E.key i ∈ prev
    · rw [expandInnerWith_of_mem hm] at h; cases h; exact .here hm
    cases hs : oneStep E S cals i with
    | none => rw [expandInnerWith_of_none hm hs] at h; cases h
    | some r =>
      obtain ⟨body, src⟩ := r
      rw [expandInnerWith_of_some hm hs, Outcome.map_eq_recursiveCalibration] at h
      obtain ⟨k, hk, hr⟩ := expandSeq_recursive h
      exact .deeper hm hs hk (ih _ _ _ hr)

/-- `j'` need not be `j`: `Revisit` follows any instruction of a body, the walk stops at the first error -/
theorem revisit_recursive {prev : List κ} {i j : Instruction} (h : Revisit E S cals prev i j) :
    ∀ fuel, expandInnerWith E S cals fuel prev i ≠ .outOfFuel →
      ∃ j', expandInnerWith E S cals fuel prev i = .recursiveCalibration j' := by
  induction h with
  | @here prev i hmem =>
    rintro (_ | fuel) hne
    · exact absurd rfl hne
    · exact ⟨i, expandInnerWith_of_mem hmem fuel⟩
  | @deeper prev i body src k j hnot hs hk _ ih =>
    rintro (_ | fuel) hne
    · exact absurd rfl hne
    · rw [expandInnerWith_of_some hnot hs, Ne, Outcome.map_eq_outOfFuel] at hne
      simp only [expandInnerWith_of_some hnot hs, Outcome.map_eq_recursiveCalibration]
      -- the walk over the body is not out of fuel; were it to succeed, so would `k`
      cases hseq : expandSeq (expandInnerWith E S cals fuel (E.key i :: prev)) body with
      | ok out =>
        obtain ⟨r, hr⟩ := expandSeq_ok_all hseq k hk
        obtain ⟨j', hj'⟩ := ih fuel (by rw [hr]; nofun)
        rw [hr] at hj'; cases hj'
      | recursiveCalibration j' => exact ⟨j', rfl⟩
      | outOfFuel => exact absurd hseq hne

/-- **C18 (the error)**: whenever the expansion does not run out of fuel, it reports the recursive-
calibration error iff some instruction would be expanded again while it is already being expanded
(`Revisit`, stated on the breadcrumb path). -/
theorem error_iff_revisit (fuel : Nat) (prev : List κ) (i : Instruction)
    (hne : expandInnerWith E S cals fuel prev i ≠ .outOfFuel) :
    (∃ j, expandInnerWith E S cals fuel prev i = .recursiveCalibration j) ↔ ∃ j, Revisit E S cals prev i j :=
  ⟨fun ⟨j, h⟩ => ⟨j, recursive_revisit E S cals fuel prev i j h⟩,
   fun ⟨_, h⟩ => revisit_recursive E S cals h fuel hne⟩

theorem error_carries_revisited (fuel : Nat) (prev : List κ) (i j : Instruction)
    (h : expandInnerWith E S cals fuel prev i = .recursiveCalibration j) : Revisit E S cals prev i j :=
  recursive_revisit E S cals fuel prev i j h

theorem ok_iff_no_revisit (fuel : Nat) (prev : List κ) (i : Instruction)
    (hne : expandInnerWith E S cals fuel prev i ≠ .outOfFuel) :
    (∃ r, expandInnerWith E S cals fuel prev i = .ok r) ↔ ¬ ∃ j, Revisit E S cals prev i j := by
  rw [← error_iff_revisit E S cals fuel prev i hne]
  cases h : expandInnerWith E S cals fuel prev i <;> simp_all

theorem expandLoop_recursive (src : Prog) (fuel : Nat) :
    ∀ (is : List Instruction) (idx : Nat) (np : Prog) (sm : Option (List Entry)) (j : Instruction),
      expandLoop E S src fuel is idx np sm = .recursiveCalibration j →
      ∃ i ∈ is, expandInnerWith E S src.cals fuel [] i = .recursiveCalibration j := by
  intro is idx np sm j h
  have hw := expandLoop_fst E S src fuel is idx np sm
  rw [h] at hw
  exact expandSeq_recursive ((Outcome.map_eq_recursiveCalibration _ _).mp hw.symm)

theorem expandLoop_ok_all (src : Prog) (fuel : Nat) :
    ∀ (is : List Instruction) (idx : Nat) (np : Prog) (sm : Option (List Entry))
      (r : Prog × Option (List Entry)),
      expandLoop E S src fuel is idx np sm = .ok r →
      ∀ i ∈ is, ∃ o, expandInnerWith E S src.cals fuel [] i = .ok o := by
  intro is idx np sm r h
  have hw := expandLoop_fst E S src fuel is idx np sm
  rw [h] at hw
  obtain ⟨out, hs, _⟩ := (Outcome.map_eq_ok _ _).mp hw.symm
  exact expandSeq_ok_all hs

private theorem seq_error_iff_revisit (fuel : Nat) (prev : List κ) (body : List Instruction)
    (hne : expandSeq (expandInnerWith E S cals fuel prev) body ≠ .outOfFuel) :
    (∃ j, expandSeq (expandInnerWith E S cals fuel prev) body = .recursiveCalibration j) ↔
      ∃ i ∈ body, ∃ j, Revisit E S cals prev i j := by
  cases hs : expandSeq (expandInnerWith E S cals fuel prev) body with
  | ok out =>
    refine ⟨nofun, fun ⟨i, hi, j, hj⟩ => ?_⟩
    obtain ⟨o, ho⟩ := expandSeq_ok_all hs i hi
    obtain ⟨j', hj'⟩ := revisit_recursive E S cals hj fuel (by rw [ho]; nofun)
    rw [ho] at hj'; cases hj'
  | recursiveCalibration j =>
    obtain ⟨i, hi, hr⟩ := expandSeq_recursive hs
    exact ⟨fun _ => ⟨i, hi, j, recursive_revisit E S cals fuel prev i j hr⟩, fun _ => ⟨j, rfl⟩⟩
  | outOfFuel => exact absurd hs hne

/-- **C18 (the error) for `Program::expand_calibrations`**: provided the fuel suffices, the program-level
expansion reports the recursive-calibration error iff the expansion of some body instruction would expand an
instruction again while it is already being expanded. -/
theorem program_error_iff_revisit (p : Prog) (fuel : Nat)
    (hne : classOf (expandCalibrations E p fuel) ≠ .outOfFuel) :
    (∃ j, expandCalibrations E p fuel = .recursiveCalibration j) ↔
      ∃ i ∈ p.instructions, ∃ j, Revisit E codeSubst p.cals [] i j := by
  rw [expandCalibrations_eq] at hne ⊢
  rw [Ne, classOf_map_eq_outOfFuel] at hne
  rw [← seq_error_iff_revisit E codeSubst p.cals fuel [] p.instructions hne]
  simp only [Outcome.map_eq_recursiveCalibration]

theorem revisitB_sound :
    ∀ (fuel : Nat) (prev : List κ) (i : Instruction), revisitB E S cals fuel prev i = true →
      ∃ j, Revisit E S cals prev i j := by
  intro fuel
  induction fuel with
  | zero => intro prev i h; simp [revisitB] at h
  | succ fuel ih =>
    intro prev i h
    unfold revisitB at h
    split at h
    · rename_i hc
      exact ⟨i, Revisit.here (by simpa using hc)⟩
    · rename_i hnc
      split at h
      · cases h
      · rename_i body src hs
        obtain ⟨k, hk, hkr⟩ := List.any_eq_true.mp h
        obtain ⟨j, hj⟩ := ih _ _ hkr
        exact ⟨j, Revisit.deeper (by simpa using hnc) hs hk hj⟩

theorem revisitB_complete {prev : List κ} {i j : Instruction} (h : Revisit E S cals prev i j) :
    ∃ n, ∀ m, n ≤ m → revisitB E S cals m prev i = true := by
  induction h with
  | @here prev i hmem =>
    refine ⟨1, fun m hm => ?_⟩
    obtain ⟨m, rfl⟩ : ∃ m', m = m' + 1 := ⟨m - 1, by omega⟩
    simp [revisitB, hmem]
  | @deeper prev i body src k j hnot hs hk _ ih =>
    obtain ⟨n, hn⟩ := ih
    refine ⟨n + 1, fun m hm => ?_⟩
    obtain ⟨m, rfl⟩ : ∃ m', m = m' + 1 := ⟨m - 1, by omega⟩
    have hc : prev.contains (E.key i) = false := by simpa using hnot
    unfold revisitB
    simp only [hc, Bool.false_eq_true, if_false, hs]
    exact List.any_eq_true.mpr ⟨k, hk, hn m (by omega)⟩

end

section
variable {κ : Type} [DecidableEq κ] (E : Env κ)

theorem growArg_size (k : Nat) : (growArg k).size = 2 * k + 1 := by
  induction k with
  | zero => rfl
  | succ k ih => simp [growArg, Expr.size, one, ih]; omega

theorem growArg_injective {a b : Nat} (h : growArg a = growArg b) : a = b := by
  have := congrArg Expr.size h
  rw [growArg_size, growArg_size] at this
  omega

omit [DecidableEq κ] in
/-- `hsimp` is what lets `%t` match every argument: `CalibrationIdentifier::matches` accepts anything for a
calibration parameter that SIMPLIFIES to a variable -/
theorem oneStep_growing (hsimp : E.simp (.var "t") = .var "t") (e : PExpr) :
    oneStep E codeSubst growingCals (rx e) =
      some ([rx (.bin e .plus one)], .calibration growingCal.identifier) := by
  simp [oneStep, rx, growingCals, getMatchForGate, toCals16, toGate16, toCal16, toParam16, growingCal,
    C16.getMatchForGate, C16.gateLoop, C16.matchesB, C16.allZip, C16.qubitMatch, C16.paramMatch,
    C16.gateStep, toQubit16, hsimp, codeSubst, gateSubstCode, qubitExpansions, variableExpansions,
    substituteQubitVariables, substituteQubitVariable, applyToExpressions, QV.subst, List.lookup, one]

theorem growing_aux (hsimp : E.simp (.var "t") = .var "t") (hkey : Function.Injective E.key) :
    ∀ (n k : Nat) (prev : List κ), (∀ x ∈ prev, ∃ j, j < k ∧ x = E.key (rx (growArg j))) →
      expandInnerWith E codeSubst growingCals n prev (rx (growArg k)) = .outOfFuel := by
  intro n
  induction n with
  | zero => intro k prev _; rfl
  | succ n ih =>
    intro k prev hprev
    have hrec : expandInnerWith E codeSubst growingCals n (E.key (rx (growArg k)) :: prev)
        (rx (.bin (growArg k) .plus one)) = .outOfFuel := by
      refine ih (k + 1) _ fun x hx => ?_
      rcases List.mem_cons.mp hx with rfl | hx
      · exact ⟨k, by omega, rfl⟩
      · obtain ⟨j, hj, hjk⟩ := hprev x hx
        exact ⟨j, by omega, hjk⟩
    -- a breadcrumb is the key of an earlier argument, and the arguments are all different
    have hnc : E.key (rx (growArg k)) ∉ prev := by
      intro hm
      obtain ⟨j, hj, hjk⟩ := hprev _ hm
      have h1 := hkey hjk
      simp only [rx, Instruction.gate.injEq, Gate.mk.injEq, List.cons.injEq, and_true, true_and] at h1
      have := growArg_injective h1
      omega
    rw [expandInnerWith_of_some hnc (oneStep_growing E hsimp _), expandSeq_cons, hrec]
    rfl

/-- **C18 is false of the code (known finding `C18/growing-parameter`)**: for
`DEFCAL RX(%t) 0: RX(%t+1) 0` the expansion of `RX(0) 0` is out of fuel for EVERY amount of fuel — with any
simplifier that leaves a variable alone and any faithful (injective) instruction key.  No instruction ever
repeats (`RX(0) 0`, `RX(0+1) 0`, `RX(0+1+1) 0`, …), so the breadcrumb check never fires and the Rust recursion
has no other bound. -/
theorem growing_diverges (hsimp : E.simp (.var "t") = .var "t") (hkey : Function.Injective E.key) :
    ∀ n, expandFuel E n growingCals (rx zero) = .outOfFuel := by
  intro n
  exact growing_aux E hsimp hkey n 0 [] (by simp)

/-- hence no finite closed set contains `RX(0) 0`: the hypothesis of `expand_terminates` fails here -/
theorem growing_not_closed (hsimp : E.simp (.var "t") = .var "t") (hkey : Function.Injective E.key)
    (R : List Instruction) (hc : Closed E codeSubst growingCals R) : rx zero ∉ R := by
  intro hmem
  exact expand_terminates E growingCals R hc (rx zero) (Or.inl hmem)
    (growing_diverges E hsimp hkey (R.length + 1))

end

/-- the oracles assumed by `growing_diverges` exist: identity simplifier, identity key (classical equality) -/
example : ∃ (E : Env Instruction), E.simp (.var "t") = .var "t" ∧ Function.Injective E.key :=
  ⟨{ simp := id, key := id }, rfl, fun _ _ h => h⟩

/-- `Closed` is satisfiable non-trivially: with no calibrations every list is closed -/
example (κ : Type) [DecidableEq κ] (E : Env κ) : Closed E codeSubst {} [rx zero, .nop] := by
  intro i hi body src h
  simp only [List.mem_cons, List.not_mem_nil, or_false] at hi
  rcases hi with rfl | rfl <;>
    simp [oneStep, rx, getMatchForGate, C16.getMatchForGate, C16.gateLoop, toCals16] at h

example (κ : Type) [DecidableEq κ] (E : Env κ) (i : Instruction) :
    Revisit E codeSubst {} [E.key i] i i := Revisit.here (by simp)

end QV.C18
