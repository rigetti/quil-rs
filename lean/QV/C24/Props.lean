import QV.Shared.SchedFrames
import QV.Shared.Chk
import QV.C24.Spec
import QV.C23.Lemmas
import QV.Shared.HandlerLemmas
/-
C24 — Frame conflicts are ordered and every frame edge is justified.
The invariant of the queues lives in `QV.Shared.SchedLemmas`, what holds of a built block (`build_facts`) in
`QV.Shared.SchedFrames`.
-/
namespace QV.C24
open QV.Sched

/-- hypotheses: the frames one instruction uses/blocks are pairwise distinct (true of `FrameSet::filter`,
frame.rs:47-63, which removes the used frames from the blocked ones), and the terminator instruction is a
control-flow instruction (true of `BasicBlockTerminator::into_instruction` with the default handler) -/
def Hyp (b : Block) : Prop :=
  (∀ p ∈ b.items, ((frameAcc p.2).map (·.1)).Nodup) ∧ (∀ t, b.term = some t → t.role = .controlFlow)

/-- **C24, block level.** Whenever `build` succeeds on a block satisfying `Hyp`, the graph satisfies the frame
specification: instructions conflicting on a frame are ordered through `StableOrdering` edges and, when both are
timed, through `Scheduled` edges; everything that touches a frame comes after the block start; every `Scheduled` /
`StableOrdering` edge goes forward and is justified by a frame conflict, a block boundary, or (for `StableOrdering`)
a classical instruction. -/
theorem C24_build_frameSpec (b : Block) (es : List Edge) (h : buildBlock b = .ok es) (hyp : Hyp b) :
    FrameSpec b es := by
  obtain ⟨hnd, hterm⟩ := hyp
  obtain ⟨st, rfl, inv⟩ := build_facts h
  have touchO : ∀ {x f k}, (⟨x, f, k⟩ : Access) ∈ ordLog b.items → TouchesF b false x f k := fun hin =>
    let ⟨ins, hp, hf⟩ := mem_accLog.1 hin; ⟨ins, hp, hf, fun h => nomatch h⟩
  have touchT : ∀ {x f k}, (⟨x, f, k⟩ : Access) ∈ timedLog b.items → TouchesF b true x f k := fun hin =>
    let ⟨ins, hp, hf⟩ := mem_accLog.1 hin; ⟨ins, hp, (mem_timedAccesses.1 hf).2, fun _ => (mem_timedAccesses.1 hf).1⟩
  -- an edge of a frame queue joins an earlier access of the frame — by an earlier item, since the frames of one item
  -- are distinct — or the block start, to a later access
  have just : ∀ {t : Bool} {f : Instr → List (Nat × Kind)} {lab : Dep → Label} {e : Edge},
      (∀ p ∈ b.items, ((f p.2).map (·.1)).Nodup) →
      (∀ {x r k}, (⟨x, r, k⟩ : Access) ∈ accLog f b.items → TouchesF b t x r k) →
      DepEdgeFrom (QMap.empty Queue.frameInit) (accLog f b.items) noKeep lab e →
      e.src.pos b.instrs.length < e.dst.pos b.instrs.length ∧ FrameJust b t e := by
    intro t f lab e hndf touch he
    obtain ⟨a, d, ha, -, rfl, hc, ⟨hin, hpos⟩ | hin⟩ := he.earlier (Q := fun x y => x.1 ≠ y.1)
      frameInit_ok.1 frameInit_ok.2 (items_sorted b)
      fun p hp => List.pairwise_map.1 (hndf p hp)
    · exact ⟨hpos.resolve_left fun h => h.2 rfl, a.res, d.kind, a.kind, .inr (touch hin), touch ha, hc⟩
    · obtain rfl : (⟨.write, .start⟩ : Dep) = d := Option.some.inj hin
      exact ⟨let ⟨_, hp, _⟩ := touch ha; items_pos b _ hp, a.res, .write, a.kind, .inl ⟨rfl, rfl⟩, touch ha, hc⟩
  -- what is pending in a frame queue at the end: the block start or a body instruction touching a frame
  have pendingEdge : ∀ {t : Bool} {m : QMap} {R : Node → Node → Prop} {log : List Access} (l : Label),
      QInv Queue.frameInit m R log → (∀ {x f k}, (⟨x, f, k⟩ : Access) ∈ log → TouchesF b t x f k) →
      ∀ d ∈ m.pendingAll, d.node.pos b.instrs.length < b.instrs.length + 1 ∧ EndJust b t ⟨d.node, .stop, l⟩ := by
    intro t m R log l hq touch d hd
    rcases hq.pending_logged hd with h0 | ⟨r, k, hlog⟩
    · obtain rfl : (⟨.write, .start⟩ : Dep) = d := Option.some.inj h0
      exact ⟨Nat.succ_pos _, rfl, .inl rfl⟩
    · obtain ⟨ins, hp, hf, hs⟩ := touch hlog
      obtain ⟨i, (h1 : d.node = .instr i), h2, -⟩ :=
        body_of_role hterm hp (by rw [role_of_mem_frameAccesses hf]; simp)
      exact ⟨h1 ▸ Nat.succ_lt_succ h2, rfl, .inr ⟨r, k, ins, hp, hf, hs⟩⟩
  refine ⟨?_, ?_, ?_, ?_⟩
  · refine ((pairwise_of_accLog inv.ord.ordered).and (pairwise_of_accLog inv.timed.ordered)).imp ?_
    rintro p q ⟨hpq, hpq'⟩ f k1 k2 h1 h2 hc
    exact ⟨hpq (f, k1) h1 (f, k2) h2 rfl hc, fun s1 s2 =>
      hpq' (f, k1) (mem_timedAccesses.2 ⟨s1, h1⟩) (f, k2) (mem_timedAccesses.2 ⟨s2, h2⟩) rfl hc⟩
  · intro p hp hne
    obtain ⟨a, ha⟩ := List.exists_mem_of_ne_nil _ hne
    exact ⟨inv.ord.afterInit ⟨.write, .start⟩ rfl ⟨p.1, a.1, a.2⟩ (mem_accLog.2 ⟨p.2, hp, ha⟩), fun hs =>
      inv.timed.afterInit ⟨.write, .start⟩ rfl ⟨p.1, a.1, a.2⟩ (mem_accLog.2 ⟨p.2, hp, mem_timedAccesses.2 ⟨hs, ha⟩⟩)⟩
  · intro e he hl
    rcases finish_scheduled he hl with hin | ⟨d, hd, rfl⟩
    · rcases inv.origin e hin with ⟨_, _, _, _, rfl⟩ | ⟨_, _, _, _, rfl⟩ | h1 | ⟨_, _, rfl⟩
      · cases hl
      · cases hl
      · exact (just (fun p hp => timedAccesses_nodup (hnd p hp)) touchT h1).imp id .inl
      · cases hl
    · exact (pendingEdge .scheduled inv.timed touchT d hd).imp id .inr
  · intro e he hl
    rcases finish_stable he hl with hin | ⟨t, htt, rfl⟩ | ⟨d, hd, rfl⟩ | ⟨hemp, rfl⟩
    · rcases inv.origin e hin with ⟨_, _, _, _, rfl⟩ | h1 | ⟨_, _, _, _, rfl⟩ | ⟨n, hn, rfl⟩
      · cases hl
      · exact (just hnd touchO h1).imp id .inl
      · cases hl
      · obtain ⟨ins, hp, hr⟩ := mem_classicalNodes.1 hn
        exact ⟨items_pos b _ hp, .inr (.inr (show ClassicalJust b _ from .inl ⟨rfl, ins, hp, hr⟩))⟩
    · obtain ⟨ins, hp, hp2⟩ := mem_classicalNodes.1 (inv.trailing t htt)
      obtain ⟨i, (h1 : t = .instr i), h2, -⟩ := body_of_role hterm hp (by rw [hp2]; simp)
      exact ⟨h1 ▸ Nat.succ_lt_succ h2,
        .inr (.inr (show ClassicalJust b _ from .inr (.inl ⟨⟨ins, hp, hp2⟩, rfl⟩)))⟩
    · exact (pendingEdge .stable inv.ord touchO d hd).imp id fun h => .inr (.inl h)
    · exact ⟨Nat.succ_pos _, .inr (.inr (show ClassicalJust b _ from .inr (.inr ⟨rfl, rfl, hemp⟩)))⟩

private theorem ReachVia.toC23 {E : List Edge} {P : Edge → Prop} {u v : Node} (h : ReachVia E P u v) :
    C23.ReachVia E P u v := by
  induction h with
  | refl => exact .refl _
  | step _ he hp ih => exact .step ih he hp

/-- **C24, last clause (per frame).** In any graph satisfying the specification: if no node positioned from `u`
to `v` uses frame `f` (so `u`, `v` and everything between at most block it), then no path made of
`StableOrdering` (resp. `Scheduled`) edges that `f` justifies leads from `u` to a different node `v`. -/
theorem C24_blockers_unordered (b : Block) (es : List Edge) (hs : FrameSpec b es) (timed : Bool) (f : Nat)
    (u v : Node) (hne : u ≠ v)
    (hbetween : ∀ x k, TouchesF b false x f k → u.pos b.instrs.length ≤ x.pos b.instrs.length →
      x.pos b.instrs.length ≤ v.pos b.instrs.length → k = .read) :
    ¬ ReachVia es (JustByFrame b timed (if timed then isScheduled else isStable) f) u v := by
  refine fun hreach => C23.ReachVia.not_between_reads (T := fun x k => TouchesF b false x f k) ?_ hne hbetween
    hreach.toC23
  rintro e he ⟨hl, k1, k2, ⟨i1, a1, b1, _⟩, ⟨i2, a2, b2, _⟩, hc⟩
  refine ⟨?_, k1, k2, ⟨i1, a1, b1, fun h => nomatch h⟩, ⟨i2, a2, b2, fun h => nomatch h⟩, hc⟩
  cases timed
  · exact (hs.stableJust e he (isStable_iff.1 hl)).1
  · exact (hs.schedJust e he (isScheduled_iff.1 hl)).1

/-- **C24, queue level.** With the block start as initial writer:
conflicting accesses are ordered by the induced edges, and every access is ordered after the start. -/
theorem C24_history (h : List Access) :
    h.Pairwise (fun a c => a.res = c.res → Conflict a.kind c.kind →
      Reach (historyEdges (QMap.empty Queue.frameInit) h) anyLabel a.node c.node) ∧
    (∀ a ∈ h, Reach (historyEdges (QMap.empty Queue.frameInit) h) anyLabel .start a.node) := by
  have := history_qinv (C := anyLabel) (h := h) frameInit_ok.1 frameInit_ok.2 (fun _ => rfl) (fun _ _ h => h)
    fun e => mem_historyEdges.2
  exact ⟨this.ordered, this.afterInit ⟨.write, .start⟩ rfl⟩

/-- **C24, queue level, exact (all use/block histories).** With `use ↦ write`, `block ↦ read`: at every step the
frame queue reports exactly the most recent earlier user of the frame — the block start if there is none —
plus, when the access is itself a use, every instruction that blocked the frame since that use. Blockers never
depend on blockers. -/
theorem C24_history_exact (h : List Access) :
    C23.AllExact Queue.frameInit [] h (runHistory (QMap.empty Queue.frameInit) h).2 :=
  C23.history_exact _ h _ [] (C23.Exact.empty _ rfl)

private theorem mem_accOf {b : Block} {t : Bool} {x : Node} {a : Nat × Kind} (h : a ∈ accOf b t x) :
    TouchesF b t x a.1 a.2 := by
  simp only [accOf, List.mem_flatMap] at h
  obtain ⟨p, hp, hin⟩ := h
  split at hin
  · rename_i hpx
    exact ⟨p.2, hpx.1 ▸ hp, hin, hpx.2⟩
  · simp at hin

private theorem orderedB_sound (fuel : Nat) (es : List Edge) : ∀ (items : List (Node × Instr)),
    orderedB fuel es items = true →
    items.Pairwise fun p q => ∀ f k1 k2, (f, k1) ∈ frameAcc p.2 → (f, k2) ∈ frameAcc q.2 →
      Conflict k1 k2 → Reach es isStable p.1 q.1 ∧
        (p.2.scheduled = true → q.2.scheduled = true → Reach es isScheduled p.1 q.1) :=
  pairwise_of_checkB (fun _ _ => rfl) fun p q h f k1 k2 h1 h2 hc => by
    simp only [List.all_eq_true] at h
    have := Chk.guard_iff.1 (h (f, k1) h1 (f, k2) h2) (conflictB_iff.2 ⟨rfl, hc⟩)
    rw [Bool.and_eq_true] at this
    exact ⟨reachFrom_sound this.1, fun s1 s2 => reachFrom_sound (Chk.guard_iff.1 this.2 (by rw [s1, s2]; rfl))⟩

private theorem frameJustB_sound {b : Block} {t : Bool} {e : Edge} (h : frameJustB b t e = true) :
    FrameJust b t e := by
  simp only [frameJustB, List.any_eq_true, Bool.or_eq_true, decide_eq_true_eq, Bool.and_eq_true] at h
  obtain ⟨c, hc, h | ⟨a, ha, hac, hconf⟩⟩ := h
  · exact ⟨c.1, .write, c.2, .inl ⟨h, rfl⟩, mem_accOf hc, .inl rfl⟩
  · exact ⟨c.1, a.2, c.2, .inr (hac ▸ mem_accOf ha), mem_accOf hc, hconf⟩

private theorem endJustB_sound {b : Block} {t : Bool} {e : Edge} (h : endJustB b t e = true) :
    EndJust b t e := by
  simp only [endJustB, Bool.and_eq_true, decide_eq_true_eq, Bool.or_eq_true, Bool.not_eq_true',
    List.isEmpty_eq_false_iff] at h
  refine ⟨h.1, h.2.imp id fun hne => ?_⟩
  obtain ⟨a, ha⟩ := List.exists_mem_of_ne_nil _ hne
  exact ⟨a.1, a.2, mem_accOf ha⟩

private theorem isClassicalB_sound {b : Block} {x : Node} (h : isClassicalB b x = true) : IsClassical b x := by
  simp only [isClassicalB, List.any_eq_true, Bool.and_eq_true, decide_eq_true_eq] at h
  obtain ⟨p, hp, h1, h2⟩ := h
  exact ⟨p.2, h1 ▸ hp, h2⟩

private theorem classicalJustB_sound {b : Block} {e : Edge} (h : classicalJustB b e = true) : ClassicalJust b e := by
  simp only [classicalJustB, Bool.or_eq_true, Bool.and_eq_true, decide_eq_true_eq, List.isEmpty_iff] at h
  exact h.elim (.imp (.imp_right isClassicalB_sound) fun h => .inl (.imp_left isClassicalB_sound h))
    fun h => .inr (.inr ⟨h.1.1, h.1.2, h.2⟩)

theorem C24_checker_sound (b : Block) (es : List Edge) (h : frameSpecB b es = true) : FrameSpec b es := by
  simp only [frameSpecB, edgesJustB, fromStartB, Bool.and_eq_true, List.all_eq_true, Bool.or_eq_true,
    List.isEmpty_iff, Bool.not_eq_true'] at h
  obtain ⟨⟨h1, h2⟩, h3⟩ := h
  refine ⟨orderedB_sound _ _ _ h1, fun p hp hne => ?_, fun e he hl => ?_, fun e he hl => ?_⟩
  · obtain ⟨h, h'⟩ := (h2 p hp).resolve_left hne
    exact ⟨reachFrom_sound h, fun hs => reachFrom_sound (h'.resolve_left (by simp [hs]))⟩
  all_goals
    have := h3 e he
    simp only [hl, Bool.and_eq_true, decide_eq_true_eq, Bool.or_eq_true] at this
  · exact ⟨this.1, this.2.imp frameJustB_sound endJustB_sound⟩
  · exact ⟨this.1, this.2.elim (.imp frameJustB_sound fun h => .inl (endJustB_sound h))
      fun h => .inr (.inr (classicalJustB_sound h))⟩

theorem C24_hyp_checker (b : Block) (h : hypB b = true) : Hyp b := by
  simp only [hypB, Bool.and_eq_true, List.all_eq_true, decide_eq_true_eq] at h
  refine ⟨h.1, ?_⟩
  intro t ht
  have := h.2
  rw [ht] at this
  simpa using this

/-! ### Composition with C26: the frame clauses over the SPECIFICATION of which frames an instruction uses / blocks

`HandlerFromAst.answersOf` computes `matching_frames` from the shared full AST through C26's proved model;
`FrameAccessA p i f .write` / `.read` is C26's specification "`i` uses / blocks the defined frame `f`"
(`UsedBy` / `BlockedBy`, with the program's used qubits).  The hypothesis `Hyp` of `C24_build_frameSpec` is a
THEOREM here (`schedBlock_hyp`): used and blocked frames are disjoint sets of defined frames, the terminator is
a control-flow instruction. -/

open QV.HandlerFromAst in
/-- `TouchesF` with C26's specification `FrameAccessA` in place of the handler's answer -/
def ATouches (p : AProgram) (ab : ABlock) (timed : Bool) (x : Node) (f : C26.Frame) (k : Kind) : Prop :=
  ∃ i, (x, i) ∈ ab.items ∧ FrameAccessA p i f k ∧ (timed = true → HandlerFromAst.isScheduled i = true)

open QV.HandlerFromAst in
structure AstFrameSpec (p : AProgram) (ab : ABlock) (es : List Edge) : Prop where
  /-- instructions in block order of which one uses a frame the other uses or blocks (C26's specification) are
  ordered through `StableOrdering` edges, and through `Scheduled` edges when both are timed -/
  ordered : ab.items.Pairwise fun x y => ∀ f k1 k2, FrameAccessA p x.2 f k1 → FrameAccessA p y.2 f k2 →
    Conflict k1 k2 → Reach es isStable x.1 y.1 ∧
      (HandlerFromAst.isScheduled x.2 = true → HandlerFromAst.isScheduled y.2 = true →
        Reach es isScheduled x.1 y.1)
  fromStart : ∀ x ∈ ab.items, (∃ f k, FrameAccessA p x.2 f k) → Reach es isStable .start x.1 ∧
    (HandlerFromAst.isScheduled x.2 = true → Reach es isScheduled .start x.1)
  /-- every `Scheduled` edge goes forward and joins timed instructions conflicting on a frame, or a block boundary -/
  schedJust : ∀ e ∈ es, e.label = .scheduled →
    e.src.pos ab.instrs.length < e.dst.pos ab.instrs.length ∧
    ((∃ f k1 k2, ((e.src = .start ∧ k1 = .write) ∨ ATouches p ab true e.src f k1) ∧ ATouches p ab true e.dst f k2 ∧
        Conflict k1 k2) ∨
     (e.dst = .stop ∧ (e.src = .start ∨ ∃ f k, ATouches p ab true e.src f k)))
  /-- every `StableOrdering` edge goes forward and is frame-justified, a boundary edge, or a classical one -/
  stableJust : ∀ e ∈ es, e.label = .stable →
    e.src.pos ab.instrs.length < e.dst.pos ab.instrs.length ∧
    ((∃ f k1 k2, ((e.src = .start ∧ k1 = .write) ∨ ATouches p ab false e.src f k1) ∧ ATouches p ab false e.dst f k2 ∧
        Conflict k1 k2) ∨
     (e.dst = .stop ∧ (e.src = .start ∨ ∃ f k, ATouches p ab false e.src f k)) ∨
     ((e.src = .start ∧ ∃ i, (e.dst, i) ∈ ab.items ∧ HandlerFromAst.role i = .classical) ∨
      ((∃ i, (e.src, i) ∈ ab.items ∧ HandlerFromAst.role i = .classical) ∧ e.dst = .stop) ∨
      (e.src = .start ∧ e.dst = .stop ∧ ab.instrs = [])))

open QV.HandlerFromAst in
private theorem frameAccessA_defined {p : AProgram} {i : Ast.Instruction} {f : C26.Frame} {k : Kind}
    (h : FrameAccessA p i f k) : f ∈ definedFrames p := by
  cases k
  · exact h.1
  · exact h.1
  · exact h.elim

open QV.HandlerFromAst in
private theorem touchesF_ast {p : AProgram} {ab : ABlock} {t : Bool} {x : Node} {fid : Nat} {k : Kind}
    (h : TouchesF (schedBlock p ab) t x fid k) :
    ∃ f, fid = frameId p f ∧ f ∈ definedFrames p ∧ ATouches p ab t x f k := by
  obtain ⟨ins, hi, hm, ht⟩ := h
  obtain ⟨i, hxi, rfl⟩ := mem_schedBlock_items.1 hi
  obtain ⟨f, hf1, hf2⟩ := (mem_frameAccesses_answers p i (fid, k)).1 hm
  exact ⟨f, hf1, frameAccessA_defined hf2, i, hxi, hf2, ht⟩

open QV.HandlerFromAst in
/-- **C24 ∘ C26 (every AST program, every block).** The frame clauses hold for the graph built from the default
handler's answers computed from the AST, with "uses / blocks frame f" meaning C26's specification — and without
any hypothesis about the handler. -/
theorem C24_ast_frameSpec (p : AProgram) (ab : ABlock) (hab : ab ∈ astBlocks p) (es : List Edge)
    (h : buildBlock (schedBlock p ab) = .ok es) : AstFrameSpec p ab es := by
  have hspec := C24_build_frameSpec _ es h (schedBlock_hyp p ab hab)
  have hlen := schedBlock_length p ab
  have toF : ∀ (x : Node × Ast.Instruction) f k, FrameAccessA p x.2 f k →
      (frameId p f, k) ∈ frameAcc (answersOf p x.2) :=
    fun x f k hf => (mem_frameAccesses_answers p x.2 (frameId p f, k)).2 ⟨f, rfl, hf⟩
  have frameJust : ∀ t e, FrameJust (schedBlock p ab) t e →
      ∃ f k1 k2, ((e.src = .start ∧ k1 = .write) ∨ ATouches p ab t e.src f k1) ∧ ATouches p ab t e.dst f k2 ∧
        Conflict k1 k2 := by
    rintro t e ⟨fid, k1, k2, hsrc, hdst, hc⟩
    obtain ⟨g, hg1, hgd, hg2⟩ := touchesF_ast hdst
    rcases hsrc with hs | hs
    · exact ⟨g, k1, k2, .inl hs, hg2, hc⟩
    · obtain ⟨f, hf1, hfd, hf2⟩ := touchesF_ast hs
      -- both are defined frames with the same number
      obtain rfl : f = g := indexIn_inj _ f g hfd hgd (hf1.symm.trans hg1)
      exact ⟨f, k1, k2, .inr hf2, hg2, hc⟩
  have endJust : ∀ t e, EndJust (schedBlock p ab) t e →
      e.dst = .stop ∧ (e.src = .start ∨ ∃ f k, ATouches p ab t e.src f k) := by
    rintro t e ⟨h1, h2⟩
    refine ⟨h1, h2.imp id ?_⟩
    rintro ⟨fid, k, ht⟩
    obtain ⟨f, -, -, hf⟩ := touchesF_ast ht
    exact ⟨f, k, hf⟩
  have classical : ∀ x, IsClassical (schedBlock p ab) x → ∃ i, (x, i) ∈ ab.items ∧ role i = .classical := by
    rintro x ⟨ins, hi, hr⟩
    obtain ⟨i, hxi, rfl⟩ := mem_schedBlock_items.1 hi
    exact ⟨i, hxi, hr⟩
  refine ⟨?_, ?_, ?_, ?_⟩
  · have ho := hspec.ordered
    rw [schedBlock_items, List.pairwise_map] at ho
    exact ho.imp fun hxy f k1 k2 h1 h2 hc => hxy (frameId p f) k1 k2 (toF _ f k1 h1) (toF _ f k2 h2) hc
  · intro x hx ⟨f, k, hf⟩
    exact hspec.fromStart (x.1, answersOf p x.2) (mem_schedBlock_items.2 ⟨x.2, hx, rfl⟩)
      (List.ne_nil_of_mem (toF x f k hf))
  · intro e he hl
    obtain ⟨hpos, hj⟩ := hspec.schedJust e he hl
    exact ⟨hlen ▸ hpos, hj.imp (frameJust true e) (endJust true e)⟩
  · intro e he hl
    obtain ⟨hpos, hj⟩ := hspec.stableJust e he hl
    exact ⟨hlen ▸ hpos, hj.imp (frameJust false e) (.imp (endJust false e) (.imp (.imp_right (classical _))
      (.imp (.imp_left (classical _)) (.imp_right (.imp_right fun h3 => by simpa [schedBlock] using h3)))))⟩

/-- frames 0,1: pulse on 0 blocking 1; nonblocking pulse on 1; an untimed RESET-like use of 0; a fence (uses
0 and 1); a classical instruction; HALT -/
private def exBlock : Block :=
  { instrs := [
      ⟨.rf, true, false, [], [], [], some ([0], [1])⟩,
      ⟨.rf, true, false, [], [], [], some ([1], [])⟩,
      ⟨.rf, false, false, [], [], [], some ([0], [])⟩,
      ⟨.rf, true, false, [], [], [], some ([0, 1], [])⟩,
      ⟨.classical, false, false, [], [], [], none⟩],
    term := some ⟨.controlFlow, false, false, [], [], [], none⟩ }

example : hypB exBlock = true := by decide +kernel

example : ∃ es, buildBlock exBlock = .ok es ∧ frameSpecB exBlock es = true ∧
    (⟨.instr 0, .instr 1, .scheduled⟩ : Edge) ∈ es ∧ (⟨.instr 2, .instr 3, .stable⟩ : Edge) ∈ es ∧
    (⟨.instr 2, .instr 3, .scheduled⟩ : Edge) ∉ es :=
  ⟨_, rfl, by decide +kernel, by decide +kernel, by decide +kernel, by decide +kernel⟩

/-- the checker rejects a graph from which the timed edge 0 → 1 (0 blocks frame 1, 1 uses it) was removed… -/
example : ∃ es, buildBlock exBlock = .ok es ∧
    frameSpecB exBlock (es.filter fun e => e ≠ ⟨.instr 0, .instr 1, .scheduled⟩) = false :=
  ⟨_, rfl, by decide +kernel⟩

/-- … and one with a timed edge out of the untimed instruction 2 -/
example : ∃ es, buildBlock exBlock = .ok es ∧
    frameSpecB exBlock (⟨.instr 2, .instr 3, .scheduled⟩ :: es) = false :=
  ⟨_, rfl, by decide +kernel⟩

end QV.C24
