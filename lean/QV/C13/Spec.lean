import QV.Shared.Expr
/-
C13 — specification side (imports only the shared expression model; the driver evaluates the Bool checkers on the
IMPLEMENTATION's outputs, Props.lean proves them equivalent to the Props).

Written without reference to how `evaluate` / the iterator / `substitute_variables` compute.
-/
namespace QV.C13
open QV

variable {K : Type}

/-- "the memory address `r` occurs in the expression" — one rule per way of containing a subexpression -/
inductive Occurs (r : MemRef) : Expr K → Prop where
  | here : Occurs r (.address r)
  | call {f e} : Occurs r e → Occurs r (.call f e)
  | binL {l o r'} : Occurs r l → Occurs r (.bin l o r')
  | binR {l o r'} : Occurs r r' → Occurs r (.bin l o r')
  | pre {o e} : Occurs r e → Occurs r (.pre o e)

theorem occurs_iff_mem_addrs (r : MemRef) (e : Expr K) : Occurs r e ↔ r ∈ e.addrs := by
  constructor
  · intro h
    induction h with
    | here => simp [Expr.addrs]
    | call _ ih => simpa [Expr.addrs] using ih
    | binL _ ih => simp [Expr.addrs, ih]
    | binR _ ih => simp [Expr.addrs, ih]
    | pre _ ih => simpa [Expr.addrs] using ih
  · intro h
    induction e with
    | address a => simp [Expr.addrs] at h; subst h; exact .here
    | call f e ih => exact .call (ih (by simpa [Expr.addrs] using h))
    | bin l o r' ihl ihr =>
      simp only [Expr.addrs, List.mem_append] at h
      exact h.elim (fun h => .binL (ihl h)) (fun h => .binR (ihr h))
    | number z => simp [Expr.addrs] at h
    | pi => simp [Expr.addrs] at h
    | pre o e ih => exact .pre (ih (by simpa [Expr.addrs] using h))
    | var x => simp [Expr.addrs] at h

/-- number of `Address` nodes -/
def countAddr : Expr K → Nat
  | .address _ => 1
  | .call _ e => countAddr e
  | .bin l _ r => countAddr l + countAddr r
  | .pre _ e => countAddr e
  | _ => 0

/-- the memory cell `a` is supplied: its region is present and the index is inside the vector -/
def CellSupplied (μ : MemEnv K) (a : MemRef) : Prop :=
  ∃ vs, μ a.name = some vs ∧ a.index < vs.length

/-- "every variable and referenced memory cell is supplied" -/
def Supplied (ρ : VarEnv K) (μ : MemEnv K) (e : Expr K) : Prop :=
  (∀ x ∈ e.vars, (ρ x).isSome) ∧ (∀ a ∈ e.addrs, CellSupplied μ a)

/-- Bool form of `Supplied`, from the domain of the variable map and the lengths of the memory vectors. -/
def suppliedB (dom : String → Bool) (len : String → Option Nat) (e : Expr K) : Bool :=
  e.vars.all dom && e.addrs.all fun a =>
    match len a.name with
    | some n => decide (a.index < n)
    | none => false

end QV.C13
