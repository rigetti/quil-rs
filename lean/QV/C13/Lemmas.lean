import QV.C13.Spec
/-
C13 — what `evaluate` returns, in one statement: a value exactly when everything is supplied, `Incomplete`
otherwise.  The three theorems of `Props.lean` about success and failure of evaluation are read off it.
-/
namespace QV.C13
open QV

variable {K : Type}

theorem supplied_bin {ρ : VarEnv K} {μ : MemEnv K} {l r : Expr K} {o : InfixOp} :
    Supplied ρ μ (.bin l o r) ↔ Supplied ρ μ l ∧ Supplied ρ μ r := by
  simp only [Supplied, Expr.vars, Expr.addrs, List.forall_mem_append, and_and_and_comm]

theorem eval_cases [Scalar K] (ρ : VarEnv K) (μ : MemEnv K) (e : Expr K) :
    (Supplied ρ μ e ∧ ∃ v, eval ρ μ e = .ok v) ∨
      (¬ Supplied ρ μ e ∧ eval ρ μ e = .error .incomplete) := by
  induction e with
  | address r =>
    simp only [eval, Supplied, Expr.vars, Expr.addrs, List.mem_singleton, forall_eq, CellSupplied,
      List.not_mem_nil, false_imp_iff, implies_true, true_and]
    cases μ r.name with
    | none => simp
    | some vs =>
      cases h : vs[r.index]? with
      | none =>
        have : vs.length ≤ r.index := by simpa using h
        exact .inr ⟨fun ⟨_, hv, hlt⟩ => by cases hv; omega, by simp [h]⟩
      | some v => exact .inl ⟨⟨vs, rfl, (List.getElem?_eq_some_iff.mp h).1⟩, v, by simp [h]⟩
  | call f e ih =>
    rcases ih with ⟨hs, v, hv⟩ | ⟨hs, hv⟩
    · exact .inl ⟨hs, calcFn f v, by simp only [eval, hv]⟩
    · exact .inr ⟨hs, by simp only [eval, hv]⟩
  | bin l o r ihl ihr =>
    rw [supplied_bin]
    rcases ihl with ⟨hl, a, ha⟩ | ⟨hl, ha⟩
    · rcases ihr with ⟨hr, b, hb⟩ | ⟨hr, hb⟩
      · exact .inl ⟨⟨hl, hr⟩, calcInfix a o b, by simp only [eval, ha, hb]⟩
      · exact .inr ⟨fun h => hr h.2, by simp only [eval, ha, hb]⟩
    · exact .inr ⟨fun h => hl h.1, by simp only [eval, ha]⟩
  | pre o e ih =>
    rcases ih with ⟨hs, v, hv⟩ | ⟨hs, hv⟩
    · exact .inl ⟨hs, by cases o <;> simp [eval, hv]⟩
    · exact .inr ⟨hs, by simp only [eval, hv]⟩
  | var x =>
    simp only [eval, Supplied, Expr.vars, Expr.addrs, List.mem_singleton, forall_eq, List.not_mem_nil,
      false_imp_iff, implies_true, and_true]
    cases ρ x <;> simp
  | _ => exact .inl ⟨⟨nofun, nofun⟩, _, rfl⟩

end QV.C13
