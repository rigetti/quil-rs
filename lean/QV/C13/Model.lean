import QV.Shared.Expr
/-
C13 — model of the three functions the property is about.

* `Expression::evaluate`            = `QV.eval`   (QV/Shared/Expr.lean, shared with C12/C03)
* `Expression::substitute_variables` = `QV.subst`  (QV/Shared/Expr.lean)
* `Expression::memory_references()` = the explicit-stack iterator `MemoryReferences`
  (quil-rs/src/program/memory.rs:126 ff.), modelled here as the stack machine it is.

Plus the two `HashMap`s of `evaluate` / the one of `substitute_variables` as association lists with
first-match lookup (the harness sends duplicate-free lists, a `HashMap` has unique keys).
-/
namespace QV.C13
open QV

variable {K : Type}

/-! ### The `MemoryReferences` iterator (program/memory.rs:133-216)

State: `stack : Vec<&Expression>`; the model's list has the *top of the stack at its head*
(`stack.push(x)` = `x :: stack`, `stack.pop()` = head). -/

/-- Result of the inner `loop` on one popped expression. -/
inductive Step (K : Type) where
  /-- `return Some(reference)`; the rest of the stack is the iterator's new state -/
  | found : MemRef → List (Expr K) → Step K
  /-- `continue 'stack_search` with this stack -/
  | exhausted : List (Expr K) → Step K

/--
The inner `loop { match expr { … } }` (memory.rs:173-210) started on `expr` with the given stack:
`Number | PiConstant | Variable` ⇒ `continue 'stack_search`; `Address(r)` ⇒ `return Some(r)`;
`FunctionCall | Prefix` ⇒ `expr = expression` (tail call); `Infix` ⇒ `stack.push(right); expr = left`.
-/
def descend : Expr K → List (Expr K) → Step K
  | .number _, st => .exhausted st
  | .pi, st => .exhausted st
  | .var _, st => .exhausted st
  | .address r, st => .found r st
  | .call _ e, st => descend e st
  | .pre _ e, st => descend e st
  | .bin l _ r, st => descend l (r :: st)

/-- total number of nodes on the stack: the termination measure of `next` -/
def stackSize : List (Expr K) → Nat
  | [] => 0
  | e :: st => e.size + stackSize st

theorem descend_size (e : Expr K) (st : List (Expr K)) :
    (match descend e st with
      | .found _ st' => stackSize st'
      | .exhausted st' => stackSize st') < e.size + stackSize st := by
  induction e generalizing st with
  | address r => simp [descend, Expr.size]
  | call f e ih => have := ih st; simp only [descend, Expr.size]; omega
  | bin l o r ihl ihr =>
    have := ihl (r :: st); simp only [descend, Expr.size, stackSize] at *; omega
  | number z => simp [descend, Expr.size]
  | pi => simp [descend, Expr.size]
  | pre o e ih => have := ih st; simp only [descend, Expr.size]; omega
  | var x => simp [descend, Expr.size]

/--
`Iterator::next` (memory.rs:133-216): `'stack_search: while let Some(expr) = stack.pop() { loop … }`, then
`None`.  Returns the item and the iterator's new state (after `None` the stack is empty, which makes the
iterator fused).  Terminates because every round strictly decreases the number of nodes on the stack.
-/
def next : List (Expr K) → Option MemRef × List (Expr K)
  | [] => (none, [])
  | e :: st =>
    match h : descend e st with
    | .found r st' => (some r, st')
    | .exhausted st' => next st'
termination_by st => stackSize st
decreasing_by
  have := descend_size e st
  rw [h] at this
  simpa [stackSize] using this

theorem next_found {e : Expr K} {st st' : List (Expr K)} {r : MemRef} (h : descend e st = .found r st') :
    next (e :: st) = (some r, st') := by
  rw [next]; split <;> simp_all

theorem next_exhausted {e : Expr K} {st st' : List (Expr K)} (h : descend e st = .exhausted st') :
    next (e :: st) = next st' := by
  rw [next]; split <;> simp_all

theorem next_size (st : List (Expr K)) : ∀ r st', next st = (some r, st') → stackSize st' < stackSize st := by
  induction st using next.induct with
  | case1 => intro r st' h; simp [next] at h
  | case2 e st r0 st0 hd =>
    intro r st' h
    have := descend_size e st
    rw [hd] at this
    rw [next_found hd] at h
    cases h
    simpa [stackSize] using this
  | case3 e st st0 hd ih =>
    intro r st' h
    have := descend_size e st
    rw [hd] at this
    rw [next_exhausted hd] at h
    have := ih r st' h
    simp only [stackSize] at *
    omega

/-- Drain the iterator (`.collect()`): call `next` until it returns `None`. -/
def drain (st : List (Expr K)) : List MemRef :=
  match h : next st with
  | (some r, st') => r :: drain st'
  | (none, _) => []
termination_by stackSize st
decreasing_by exact next_size st r st' h

theorem drain_some {st st' : List (Expr K)} {r : MemRef} (h : next st = (some r, st')) :
    drain st = r :: drain st' := by
  rw [drain]; split <;> simp_all

theorem drain_none {st st' : List (Expr K)} (h : next st = (none, st')) : drain st = [] := by
  rw [drain]; split <;> simp_all

/-- `expr.memory_references().collect()`: the iterator is created with `stack: vec![self]` (memory.rs:224). -/
def memoryReferences (e : Expr K) : List MemRef := drain [e]

/-- `j` calls of `next` (what `advance_by(j)` / the first `j` steps of any adaptor do): the items yielded and
the iterator's state afterwards.  Every mid-iteration state of the real iterator is `(nextN j [e]).2`. -/
def nextN : Nat → List (Expr K) → List MemRef × List (Expr K)
  | 0, st => ([], st)
  | j + 1, st =>
    match next st with
    | (some r, st') => (r :: (nextN j st').1, (nextN j st').2)
    | (none, st') => ([], st')

/-- std's default `Iterator::fold` (`while let Some(x) = self.next() { acc = f(acc, x) }`) — and therefore
`for_each`, `count`, `last`, `sum`, `max*`/`min*`/`reduce` (one `next` + `fold`) — run on the stack machine
from an arbitrary state. -/
def foldFrom {β : Type} (f : β → MemRef → β) (init : β) (st : List (Expr K)) : β :=
  match h : next st with
  | (some r, st') => foldFrom f (f init r) st'
  | (none, _) => init
termination_by stackSize st
decreasing_by exact next_size st r st' h

theorem foldFrom_some {β : Type} (f : β → MemRef → β) (init : β) {st st' : List (Expr K)} {r : MemRef}
    (h : next st = (some r, st')) : foldFrom f init st = foldFrom f (f init r) st' := by
  rw [foldFrom]; split <;> simp_all

theorem foldFrom_none {β : Type} (f : β → MemRef → β) (init : β) {st st' : List (Expr K)}
    (h : next st = (none, st')) : foldFrom f init st = init := by
  rw [foldFrom]; split <;> simp_all

/-! ### `HashMap`s as association lists -/

/-- `&HashMap<_, Complex64>` / `&HashMap<_, Vec<f64>>` / `&HashMap<_, Expression>` → the partial function -/
def lookupFn {α : Type} (m : List (String × α)) : String → Option α := fun k => m.lookup k

/-- The environment "σ's numbers bound to the variables, on top of ρ" (σ wins). -/
def override (σ ρ : VarEnv K) : VarEnv K := fun x =>
  match σ x with
  | some v => some v
  | none => ρ x

/-- A numeric substitution as the `HashMap<_, Expression>` `substitute_variables` takes. -/
def numSubst (σ : VarEnv K) : String → Option (Expr K) := fun x => (σ x).map Expr.number

end QV.C13
