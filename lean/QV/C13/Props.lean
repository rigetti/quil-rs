import QV.C13.Model
import QV.C13.Lemmas
/-
C13 — Substitution, evaluation and memory-reference listing agree.

  "Substituting variables by numbers and then evaluating gives the same value as evaluating with those
   numbers bound to the variables.  The memory references an expression reports are exactly the memory
   addresses occurring in it, and evaluation succeeds iff every variable and referenced memory cell is
   supplied."

No laws are assumed of `Scalar K`, so the theorems also hold for the rounding `CFloat` the driver runs.

The iterator theorems all go through `pending` (what a stack still has to deliver) and `next_spec` (one `next` takes
the head off `pending`), which stand first; the theorems about success and failure of `evaluate` through `eval_cases`
(`Lemmas.lean`).
-/
namespace QV.C13
open QV

variable {K : Type}

/-- what a stack still has to deliver: the pre-order listings of its entries, top first -/
def pending (st : List (Expr K)) : List MemRef := st.flatMap Expr.addrs

@[simp] theorem pending_nil : pending ([] : List (Expr K)) = [] := rfl
@[simp] theorem pending_cons (e : Expr K) (st : List (Expr K)) : pending (e :: st) = e.addrs ++ pending st :=
  List.flatMap_cons

def Step.out : Step K → List MemRef
  | .found r st => r :: pending st
  | .exhausted st => pending st

theorem descend_out (e : Expr K) (st : List (Expr K)) :
    (descend e st).out = e.addrs ++ pending st := by
  induction e generalizing st with
  | address r => simp [descend, Step.out, Expr.addrs]
  | call f e ih => simpa [descend, Expr.addrs] using ih st
  | bin l o r ihl ihr =>
    have := ihl (r :: st)
    simpa [descend, Expr.addrs, List.append_assoc] using this
  | number z => simp [descend, Step.out, Expr.addrs]
  | pi => simp [descend, Step.out, Expr.addrs]
  | pre o e ih => simpa [descend, Expr.addrs] using ih st
  | var x => simp [descend, Step.out, Expr.addrs]

theorem next_spec (st : List (Expr K)) :
    (∀ r st', next st = (some r, st') → pending st = r :: pending st') ∧
    (∀ st', next st = (none, st') → pending st = [] ∧ st' = []) := by
  induction st using next.induct with
  | case1 => simp [next]
  | case2 e st r0 st0 hd =>
    have ho := descend_out e st
    rw [hd] at ho
    constructor
    · intro r st' h
      rw [next_found hd] at h
      cases h
      simpa [Step.out] using ho.symm
    · intro st' h; rw [next_found hd] at h; cases h
  | case3 e st st0 hd ih =>
    have ho := descend_out e st
    rw [hd] at ho
    have hp : pending (e :: st) = pending st0 := by
      simpa [Step.out] using ho.symm
    rw [next_exhausted hd, hp]
    exact ih

theorem drain_eq_pending (st : List (Expr K)) : drain st = pending st := by
  induction st using drain.induct with
  | case1 st r st' h ih => rw [drain_some h, ih, (next_spec st).1 r st' h]
  | case2 st st' h => rw [drain_none h, ((next_spec st).2 st' h).1]

/-- **C13 (memory references, order and multiplicity).**  What `e.memory_references()` yields — the
explicit-stack machine of program/memory.rs — is exactly the recursive left-to-right listing of the `Address`
nodes of `e`. -/
theorem C13_iterator_eq_preorder (e : Expr K) : memoryReferences e = e.addrs := by
  simp [memoryReferences, drain_eq_pending]

/-- **C13 (memory references, membership).**  A reference is reported iff it occurs in the expression,
`Occurs` being the independent inductive definition of "occurs in" (Spec.lean). -/
theorem C13_reported_iff_occurs (e : Expr K) (r : MemRef) : r ∈ memoryReferences e ↔ Occurs r e := by
  rw [C13_iterator_eq_preorder]
  exact (occurs_iff_mem_addrs r e).symm

theorem C13_reported_count (e : Expr K) : (memoryReferences e).length = countAddr e := by
  rw [C13_iterator_eq_preorder]
  induction e <;> simp_all [Expr.addrs, countAddr]

/-- On the empty stack `next` returns `None` and leaves the stack empty (with the `st' = []` clause of `next_spec`:
the iterator is fused). -/
theorem C13_iterator_fused : next ([] : List (Expr K)) = (none, []) := by simp [next]

example : memoryReferences (K := Nat)
    (.bin (.call .sin (.address ⟨"a", 1⟩)) .plus (.bin (.var "x") .star (.pre .minus (.address ⟨"b", 0⟩))))
    = [⟨"a", 1⟩, ⟨"b", 0⟩] := by
  rw [C13_iterator_eq_preorder]; rfl

/-! ### Every way of consuming the iterator, from ANY state (fresh or mid-iteration)

std's adaptors and provided methods (`for_each count last nth skip step_by take peekable max_by_key …`) are
compositions of `next` and `fold`; the two theorems below say what those two do on the model's stack machine
from an arbitrary stack, in terms of `pending st` only.  (That std's default implementations are such
compositions is trusted; that the REAL iterator agrees on every route is what the `c13iter` cases check.) -/

theorem C13_foldFrom_eq_foldl {β : Type} (f : β → MemRef → β) (init : β) (st : List (Expr K)) :
    foldFrom f init st = (pending st).foldl f init := by
  induction init, st using foldFrom.induct (f := f) with
  | case1 init st r st' h ih => rw [foldFrom_some f init h, ih, (next_spec st).1 r st' h, List.foldl_cons]
  | case2 init st st' h => rw [foldFrom_none f init h, ((next_spec st).2 st' h).1]; rfl

theorem C13_nextN_spec (j : Nat) (st : List (Expr K)) :
    (nextN j st).1 = (pending st).take j ∧ pending (nextN j st).2 = (pending st).drop j := by
  induction j generalizing st with
  | zero => simp [nextN]
  | succ j ih =>
    rw [nextN]
    rcases hn : next st with ⟨o, st'⟩
    cases o with
    | none =>
      obtain ⟨hp, hs⟩ := (next_spec st).2 st' hn
      subst hs
      rw [hp]
      exact ⟨by simp, by simp⟩
    | some r =>
      have hp := (next_spec st).1 r st' hn
      obtain ⟨h1, h2⟩ := ih st'
      simp [hp, h1, h2]

/-- Mid-iteration, fold-based consumption. -/
theorem C13_fold_after_nexts {β : Type} (e : Expr K) (j : Nat) (f : β → MemRef → β) (init : β) :
    foldFrom f init (nextN j [e]).2 = (e.addrs.drop j).foldl f init := by
  rw [C13_foldFrom_eq_foldl, (C13_nextN_spec j [e]).2]; simp

/-- Mid-iteration, `next`-based consumption (`collect`, `for` loops). -/
theorem C13_drain_after_nexts (e : Expr K) (j : Nat) :
    (nextN j [e]).1 = e.addrs.take j ∧ drain (nextN j [e]).2 = e.addrs.drop j := by
  rw [drain_eq_pending, (C13_nextN_spec j [e]).2, (C13_nextN_spec j [e]).1]; simp

/-- `count()` from any state. -/
theorem C13_count_from (st : List (Expr K)) :
    foldFrom (fun n _ => n + 1) 0 st = (pending st).length := by
  rw [C13_foldFrom_eq_foldl]
  have : ∀ (l : List MemRef) (k : Nat), l.foldl (fun n _ => n + 1) k = k + l.length := by
    intro l; induction l with
    | nil => simp
    | cons a as ih => intro k; simp [ih]; omega
  simpa using this (pending st) 0

example : foldFrom (K := Nat) (fun acc r => r.index :: acc) []
    (nextN 1 [.bin (.bin (.bin (.address ⟨"a", 0⟩) .plus (.address ⟨"a", 1⟩)) .star (.address ⟨"b", 2⟩)) .minus
      (.call .sin (.address ⟨"c", 7⟩))]).2 = [7, 2, 1] := by
  rw [C13_fold_after_nexts]; rfl

section
variable [Scalar K]

/-- `evaluate` only ever fails with `Incomplete` (never `NumberNotReal` / `NotANumber`). -/
theorem C13_eval_error_is_incomplete (ρ : VarEnv K) (μ : MemEnv K) (e : Expr K) (err : EvalError) :
    eval ρ μ e = .error err → err = .incomplete := by
  intro h
  rcases eval_cases ρ μ e with ⟨_, v, hv⟩ | ⟨_, hv⟩ <;> rw [hv] at h <;> cases h
  rfl

/-- **C13 (success criterion).**  Evaluation returns a value iff every variable of the expression is
assigned and every memory reference names a supplied region and an index inside it. -/
theorem C13_eval_ok_iff_supplied (ρ : VarEnv K) (μ : MemEnv K) (e : Expr K) :
    (∃ v, eval ρ μ e = .ok v) ↔ Supplied ρ μ e := by
  rcases eval_cases ρ μ e with ⟨hs, hv⟩ | ⟨hs, hv⟩
  · exact iff_of_true hv hs
  · exact iff_of_false (fun ⟨v, h⟩ => by rw [hv] at h; cases h) hs

theorem C13_eval_incomplete_iff (ρ : VarEnv K) (μ : MemEnv K) (e : Expr K) :
    eval ρ μ e = .error .incomplete ↔ ¬ Supplied ρ μ e := by
  rcases eval_cases ρ μ e with ⟨hs, v, hv⟩ | ⟨hs, hv⟩
  · exact iff_of_false (by rw [hv]; nofun) (not_not_intro hs)
  · exact iff_of_true hv hs

omit [Scalar K] in
/-- The Bool checker the driver evaluates is the Prop. -/
theorem C13_suppliedB_iff (dom : String → Bool) (len : String → Option Nat) (ρ : VarEnv K) (μ : MemEnv K)
    (hd : ∀ x, dom x = (ρ x).isSome) (hl : ∀ n, len n = (μ n).map List.length) (e : Expr K) :
    suppliedB dom len e = true ↔ Supplied ρ μ e := by
  simp only [suppliedB, Supplied, Bool.and_eq_true, List.all_eq_true, CellSupplied]
  constructor
  · rintro ⟨h1, h2⟩
    refine ⟨fun x hx => by simpa [hd] using h1 x hx, fun a ha => ?_⟩
    have := h2 a ha
    rw [hl] at this
    cases hm : μ a.name with
    | none => simp [hm] at this
    | some vs => simp [hm] at this; exact ⟨vs, rfl, this⟩
  · rintro ⟨h1, h2⟩
    refine ⟨fun x hx => by simpa [hd] using h1 x hx, fun a ha => ?_⟩
    obtain ⟨vs, hm, hlt⟩ := h2 a ha
    simp [hl, hm, hlt]

/-- **C13 (substitute then evaluate), general form** for substitution by arbitrary expressions (what
`substitute_variables` accepts): evaluating the substituted expression is evaluating the original one in
the environment that binds each substituted variable to the value of its replacement (unbound if the
replacement itself cannot be evaluated) and leaves the other variables to ρ. -/
theorem C13_subst_eval_general (σ : String → Option (Expr K)) (ρ : VarEnv K) (μ : MemEnv K) (e : Expr K) :
    eval ρ μ (subst σ e) =
      eval (fun x => match σ x with
              | some t => (eval ρ μ t).toOption
              | none => ρ x) μ e := by
  induction e with
  | address r => rfl
  | call f e ih => simp only [subst, eval, ih]
  | bin l o r ihl ihr => simp only [subst, eval, ihl, ihr]
  | number z => rfl
  | pi => rfl
  | pre o e ih => simp only [subst, eval, ih]
  | var x =>
    simp only [subst, eval]
    cases hσ : σ x with
    | none => simp [eval]
    | some t =>
      simp only
      cases ht : eval ρ μ t with
      | ok v => simp [Except.toOption]
      | error err =>
        have := C13_eval_error_is_incomplete ρ μ t err ht
        subst this; simp [Except.toOption]

/-- **C13 (substitute then evaluate = evaluate with the numbers bound).**  For a numeric substitution σ,
`evaluate(substitute_variables(e, σ), ρ, μ) = evaluate(e, σ overriding ρ, μ)` — the same value, or the same
error. -/
theorem C13_subst_eval (σ ρ : VarEnv K) (μ : MemEnv K) (e : Expr K) :
    eval ρ μ (subst (numSubst σ) e) = eval (override σ ρ) μ e := by
  rw [C13_subst_eval_general]
  congr 1
  funext x
  simp only [numSubst, override]
  cases σ x <;> simp [eval, Except.toOption]

theorem eval_congr_vars (ρ ρ' : VarEnv K) (μ : MemEnv K) (e : Expr K) (h : ∀ x ∈ e.vars, ρ x = ρ' x) :
    eval ρ μ e = eval ρ' μ e := by
  induction e with
  | call f e ih => simp only [eval, ih h]
  | bin l o r ihl ihr =>
    simp only [Expr.vars, List.mem_append] at h
    simp only [eval, ihl fun x hx => h x (.inl hx), ihr fun x hx => h x (.inr hx)]
  | pre o e ih => simp only [eval, ih h]
  | var x => simp only [eval, h x (List.mem_singleton_self x)]
  | _ => rfl

theorem C13_subst_all_closed (σ ρ ρ' : VarEnv K) (μ : MemEnv K) (e : Expr K)
    (h : ∀ x ∈ e.vars, (σ x).isSome) :
    eval ρ μ (subst (numSubst σ) e) = eval ρ' μ (subst (numSubst σ) e) := by
  rw [C13_subst_eval, C13_subst_eval]
  refine eval_congr_vars _ _ μ e fun x hx => ?_
  obtain ⟨v, hv⟩ := Option.isSome_iff_exists.mp (h x hx)
  simp only [override, hv]

omit [Scalar K] in
theorem C13_subst_vars_general (σ : String → Option (Expr K)) (e : Expr K) :
    (subst σ e).vars = e.vars.flatMap (fun x => match σ x with | some t => t.vars | none => [x]) := by
  induction e with
  | call f e ih => exact ih
  | bin l o r ihl ihr => simp only [subst, Expr.vars, ihl, ihr, List.flatMap_append]
  | pre o e ih => exact ih
  | var x =>
    simp only [subst, Expr.vars, List.flatMap_cons, List.flatMap_nil, List.append_nil]
    cases σ x <;> rfl
  | _ => rfl

omit [Scalar K] in
/-- **C13 (what substitution leaves).**  The variables of `substitute_variables(e, σ)` for numeric σ are
exactly the variables of `e` that σ does not assign — same order, same multiplicity. -/
theorem C13_subst_leaves_unassigned (σ : VarEnv K) (e : Expr K) :
    (subst (numSubst σ) e).vars = e.vars.filter (fun x => (σ x).isNone) := by
  rw [C13_subst_vars_general]
  -- a number has no variables: an assigned variable contributes `[]`, an unassigned one itself
  induction e.vars with
  | nil => rfl
  | cons x xs ih =>
    rw [List.flatMap_cons, List.filter_cons, ih]
    cases h : σ x <;> simp [numSubst, h, Expr.vars]

omit [Scalar K] in
theorem C13_subst_keeps_addresses (σ : VarEnv K) (e : Expr K) :
    memoryReferences (subst (numSubst σ) e) = memoryReferences e := by
  rw [C13_iterator_eq_preorder, C13_iterator_eq_preorder]
  induction e with
  | call f e ih => exact ih
  | bin l o r ihl ihr => simp only [subst, Expr.addrs, ihl, ihr]
  | pre o e ih => exact ih
  | var x => simp only [subst, numSubst]; cases σ x <;> rfl
  | _ => rfl

/-- Corollary tying the three clauses together: after a numeric substitution, evaluation succeeds iff the
variables σ left are assigned by ρ and every reported memory reference is supplied. -/
theorem C13_subst_eval_ok_iff (σ ρ : VarEnv K) (μ : MemEnv K) (e : Expr K) :
    (∃ v, eval ρ μ (subst (numSubst σ) e) = .ok v) ↔
      (∀ x ∈ e.vars, (σ x).isNone → (ρ x).isSome) ∧
      (∀ a ∈ memoryReferences e, CellSupplied μ a) := by
  rw [C13_eval_ok_iff_supplied, Supplied, C13_subst_leaves_unassigned,
    ← C13_iterator_eq_preorder, C13_subst_keeps_addresses]
  simp [List.mem_filter]

end

private instance toy : Scalar Nat where
  add := (· + ·)
  sub := (· - ·)
  mul := (· * ·)
  div := (· / ·)
  pow := (· ^ ·)
  neg := id
  sin := id
  cos := id
  exp := id
  sqrt := id
  cis := id
  pi := 3
  zero := 0
  one := 1

private def exE : Expr Nat := .bin (.var "x") .plus (.bin (.address ⟨"a", 1⟩) .star (.var "y"))
private def exρ : VarEnv Nat := fun x => if x = "y" then some 5 else none
private def exσ : VarEnv Nat := fun x => if x = "x" then some 2 else none
private def exμ : MemEnv Nat := fun n => if n = "a" then some [7, 4] else none

example : eval exρ exμ (subst (numSubst exσ) exE) = .ok 22 := by rfl
example : eval (override exσ exρ) exμ exE = .ok 22 := by rfl
example : eval exρ exμ exE = .error .incomplete := by rfl
example : (subst (numSubst exσ) exE).vars = ["y"] := by decide
example : Supplied (override exσ exρ) exμ exE := by
  rw [← C13_eval_ok_iff_supplied]; exact ⟨22, by rfl⟩
example : ¬ Supplied exρ exμ exE := by
  rw [← C13_eval_incomplete_iff]; rfl

end QV.C13
