import QV.Shared.RenderLemmas
/-
The render theorems (lean/QV/Shared/RenderLemmas.lean, docs/Render.md) restated here so that `./check C06`
builds them and audits their axioms on every run (they rest on the C05, C06 and C07 property theorems).
-/
namespace QV.C06
open QV.Tok QV.Lex QV.Render

theorem Render_lex_renderForms (st : Style) (ts : List Token) (fs : List Form)
    (hren : renderableF st ts fs = true) (hfl : ∀ b, Token.float b ∈ ts → FmtOk st.fmt b) :
    lex (renderForms st ts fs) = some ts := lex_renderForms st ts fs hren hfl

theorem Render_lex_renderGaps (st : Style) (ts : List Token) (gs : List Bool)
    (hren : renderable st ts gs = true) (hfl : ∀ b, Token.float b ∈ ts → FmtOk st.fmt b) :
    lex (renderGaps st ts gs) = some ts := lex_renderGaps st ts gs hren hfl

theorem Render_lex_renderWith (st : Style) (sp : Token → Token → Bool) (hsp : SafePolicy sp) (ts : List Token)
    (hall : allTokOk ts = true) (hfl : ∀ b, Token.float b ∈ ts → FmtOk st.fmt b) :
    lex (renderWith st sp ts) = some ts := lex_renderWith st sp hsp ts hall hfl

theorem Render_lex_render (st : Style) (ts : List Token) (hall : allTokOk ts = true)
    (hfl : ∀ b, Token.float b ∈ ts → FmtOk st.fmt b) : lex (render st ts) = some ts :=
  lex_render st ts hall hfl

end QV.C06
