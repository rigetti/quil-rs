import QV.C06.Model
import QV.C06.Spec
import QV.Shared.LexLemmas
/-! Lemmas for C06: the model's character classes are the specification's, and `lex_identifier_raw`
(leading run, middle run, dash-group loop) returns `(s, rest)` exactly when the input is `s ++ rest` with `s` a
valid identifier and `rest` not continuing it: what it returns is such a splitting (`lexIdentifierRaw_sound`),
and a text has only one (`wordy_unique`). -/
namespace QV.C06
open QV.Tok QV.Lex

theorem isLeading_eq (c : Char) : isLeading c = Spec.isStartChar c := by
  simp [isLeading, Spec.isStartChar, isAsciiAlpha, Spec.isLetter, Bool.or_comm]
theorem isEnd_eq (c : Char) : isEnd c = Spec.isWordChar c := by
  simp only [isEnd, isLeading, Spec.isWordChar, isAsciiAlpha, Spec.isLetter, isAsciiDigit, Spec.isDigit]
  cases (decide (97 ≤ c.toNat) && decide (c.toNat ≤ 122)) <;>
    cases (decide (65 ≤ c.toNat) && decide (c.toNat ≤ 90)) <;>
    cases (c == '_') <;> cases (decide (48 ≤ c.toNat) && decide (c.toNat ≤ 57)) <;> rfl

theorem dash_not_end : isEnd '-' = false := by decide
theorem end_not_dash (c : Char) (h : isEnd c = true) : isDash c = false := by
  cases hd : isDash c with
  | false => rfl
  | true =>
    have : c = '-' := by simpa [isDash] using hd
    subst this
    simp [dash_not_end] at h
theorem leading_is_end (c : Char) (h : isLeading c = true) : isEnd c = true := by
  simp [isEnd, h]

/-- the two equations of the specification's `stopsIdent`: a dash is skipped, any other character decides -/
theorem stopsIdent_dash (r : List Char) : Spec.stopsIdent ('-' :: r) = Spec.stopsIdent r := rfl

theorem stopsIdent_cons {c : Char} (h : c ≠ '-') (r : List Char) : Spec.stopsIdent (c :: r) = !isEnd c := by
  simp [Spec.stopsIdent, h, isEnd_eq]

theorem stopsIdent_eq_span (rest : List Char) :
    Spec.stopsIdent rest = stops isEnd (span isDash rest).2 := by
  induction rest with
  | nil => rfl
  | cons c cs ih =>
    by_cases hc : c = '-'
    · subst hc
      have : isDash '-' = true := rfl
      simp only [stopsIdent_dash, span, this, if_true]
      exact ih
    · have hd : isDash c = false := by simp [isDash, hc]
      simp [stopsIdent_cons hc, span, hd]

/-- the text of an identifier after its first character, and of any sequence of dash groups: word characters
and dashes, not ending in a dash -/
def Wordy (x : List Char) : Prop :=
  (∀ c ∈ x, isEnd c = true ∨ isDash c = true) ∧ x.getLast? ≠ some '-'

theorem validIdent_iff (s : List Char) :
    Spec.validIdent s = true ↔ ∃ c cs, s = c :: cs ∧ isLeading c = true ∧ Wordy s := by
  cases s with
  | nil => simp [Spec.validIdent]
  | cons c cs =>
    simp [Spec.validIdent, Wordy, isLeading_eq, isEnd_eq, isDash, and_assoc]

theorem getLast?_append_ne (a b : List Char) (hb : b ≠ []) : (a ++ b).getLast? = b.getLast? := by
  rw [List.getLast?_append, List.getLast?_eq_some_getLast hb]; rfl

theorem Wordy.nil : Wordy [] := ⟨by simp, by simp⟩

theorem Wordy.word_append {w g : List Char} (hw : ∀ c ∈ w, isEnd c = true) (hg : Wordy g) :
    Wordy (w ++ g) := by
  refine ⟨fun c hc => (List.mem_append.1 hc).elim (fun h => .inl (hw c h)) (hg.1 c), ?_⟩
  by_cases hgn : g = []
  · subst hgn
    rw [List.append_nil]
    exact fun hl => absurd (end_not_dash _ (hw _ (List.mem_of_getLast? hl))) (by decide)
  · rw [getLast?_append_ne _ g hgn]
    exact hg.2

theorem Wordy.dash_append {d x : List Char} (hd : ∀ c ∈ d, isDash c = true) (hne : x ≠ []) (hx : Wordy x) :
    Wordy (d ++ x) :=
  ⟨fun c hc => (List.mem_append.1 hc).elim (fun h => .inr (hd c h)) (hx.1 c),
    by rw [getLast?_append_ne _ x hne]; exact hx.2⟩

/-- one unfolding of the loop: no group, or a group (dashes `d`, then a word `w`) behind which the loop goes on.
In the first case the caller, coming from a `span isEnd`, knows that the input does not start with a word
character; the loop stopping then means that nothing continues the identifier -/
theorem dashGroups_succ (f : Nat) (inp : List Char) :
    (dashGroups (f + 1) inp = ([], inp) ∧ (stops isEnd inp = true → Spec.stopsIdent inp = true)) ∨
    ∃ d w r, d ≠ [] ∧ (∀ c ∈ d, isDash c = true) ∧ w ≠ [] ∧ (∀ c ∈ w, isEnd c = true) ∧
      stops isEnd r = true ∧ inp = d ++ (w ++ r) ∧
      dashGroups (f + 1) inp = (d ++ w ++ (dashGroups f r).1, (dashGroups f r).2) := by
  cases h1 : takeWhile1 isDash inp with
  | none =>
    refine .inl ⟨by simp [dashGroups, h1], fun hs => ?_⟩
    rw [stopsIdent_eq_span, takeWhile1_none _ _ h1]; exact hs
  | some p1 =>
    obtain ⟨d, r1⟩ := p1
    obtain ⟨hdne, rfl, hd2, -, hdsp⟩ := takeWhile1_some _ _ _ _ h1
    cases h2 : takeWhile1 isEnd r1 with
    | none =>
      refine .inl ⟨by simp [dashGroups, h1, h2], fun _ => ?_⟩
      rw [stopsIdent_eq_span, hdsp]
      obtain ⟨_, _, hsp, _, _, hs⟩ := span_spec isEnd r1
      rw [takeWhile1_none _ _ h2] at hsp
      cases hsp
      exact hs
    | some p2 =>
      obtain ⟨w, r2⟩ := p2
      obtain ⟨hwne, rfl, hw2, hw3, -⟩ := takeWhile1_some _ _ _ _ h2
      exact .inr ⟨d, w, r2, hdne, hd2, hwne, hw2, hw3, rfl, by simp only [dashGroups, h1, h2]⟩

theorem dashGroups_sound (fuel : Nat) : ∀ (inp g r : List Char), dashGroups fuel inp = (g, r) →
    inp = g ++ r ∧ Wordy g ∧
    (stops isEnd inp = true → inp.length ≤ fuel → Spec.stopsIdent r = true) := by
  induction fuel with
  | zero =>
    intro inp g r h
    cases h
    refine ⟨rfl, .nil, fun _ hl => ?_⟩
    have : inp = [] := by cases inp <;> simp_all
    subst this; rfl
  | succ f ih =>
    intro inp g r h
    rcases dashGroups_succ f inp with ⟨e, hs⟩ | ⟨d, w, r2, hdne, hd, hwne, hw, hr2, rfl, e⟩ <;>
      rw [e] at h <;> cases h
    · exact ⟨rfl, .nil, fun h _ => hs h⟩
    · obtain ⟨e3, hv3, hst3⟩ := ih r2 _ _ rfl
      refine ⟨?_, ?_, fun _ hl => hst3 hr2 ?_⟩
      · simp only [List.append_assoc]; rw [← e3]
      · rw [List.append_assoc]
        exact .dash_append hd (by simp [hwne]) (.word_append hw hv3)
      · have := List.length_pos_iff.2 hdne
        simp only [List.length_append] at hl
        omega

theorem stopsIdent_append_false (x rest : List Char) (hne : x ≠ []) (hx : Wordy x) :
    Spec.stopsIdent (x ++ rest) = false := by
  induction x with
  | nil => exact absurd rfl hne
  | cons c xs ih =>
    by_cases hc : c = '-'
    · -- a leading dash is skipped; it is not the last character, so the rest of `x` is as `x`
      subst hc
      have hxs : xs ≠ [] := by rintro rfl; exact hx.2 rfl
      rw [List.cons_append, stopsIdent_dash]
      exact ih hxs ⟨fun c h => hx.1 c (by simp [h]),
        fun h => hx.2 ((getLast?_append_ne ['-'] xs hxs).trans h)⟩
    · have he : isEnd c = true := (hx.1 c (by simp)).resolve_right (by simp [isDash, hc])
      rw [List.cons_append, stopsIdent_cons hc, he]; rfl

/-- of two splittings into identifier text and something that does not continue it, the longer identifier text
would continue the shorter -/
theorem wordy_unique {t rest g r : List Char} (ht : Wordy t) (hrest : Spec.stopsIdent rest = true)
    (hg : Wordy g) (hr : Spec.stopsIdent r = true) (e : t ++ rest = g ++ r) : g = t ∧ r = rest := by
  have key : ∀ {t x r : List Char}, Wordy (t ++ x) → Spec.stopsIdent (x ++ r) = true → x = [] := by
    intro t x r hv hr
    apply Classical.byContradiction
    intro hne
    rw [stopsIdent_append_false x r hne ⟨fun c hc => hv.1 c (by simp [hc]),
      by rw [← getLast?_append_ne t x hne]; exact hv.2⟩] at hr
    cases hr
  rcases List.append_eq_append_iff.1 e with ⟨a, rfl, rfl⟩ | ⟨a, rfl, rfl⟩
  · have := key hg hrest
    subst this; simp
  · have := key ht hr
    subst this; simp

theorem lexIdentifierRaw_sound (inp s rest : List Char) (h : lexIdentifierRaw inp = .ok s rest) :
    inp = s ++ rest ∧ Spec.validIdent s = true ∧ Spec.stopsIdent rest = true := by
  unfold lexIdentifierRaw at h
  cases h1 : takeWhile1 isLeading inp with
  | none => simp [h1] at h
  | some p1 =>
    obtain ⟨l, r1⟩ := p1
    obtain ⟨hlne, rfl, hl2, _, _⟩ := takeWhile1_some _ _ _ _ h1
    obtain ⟨m, r2, hsm, rfl, hm2, hm3⟩ := span_spec isEnd r1
    cases hg : dashGroups r2.length r2 with
    | mk g r3 =>
      simp [h1, hsm, hg] at h
      obtain ⟨rfl, rfl⟩ := h
      obtain ⟨rfl, hv3, hst3⟩ := dashGroups_sound _ r2 g r3 hg
      refine ⟨by simp [List.append_assoc], ?_, hst3 hm3 (Nat.le_refl _)⟩
      cases l with
      | nil => exact absurd rfl hlne
      | cons c cs =>
        exact (validIdent_iff _).2 ⟨c, _, rfl, hl2 c (by simp),
          .word_append (fun x hx => leading_is_end x (hl2 x hx)) (.word_append hm2 hv3)⟩

theorem lexIdentifierRaw_valid (s rest : List Char) (hs : Spec.validIdent s = true)
    (hr : Spec.stopsIdent rest = true) : lexIdentifierRaw (s ++ rest) = .ok s rest := by
  obtain ⟨c, cs, rfl, hc, hw⟩ := (validIdent_iff s).1 hs
  cases h : lexIdentifierRaw (c :: cs ++ rest) with
  | ok s' rest' =>
    obtain ⟨e, hs', hr'⟩ := lexIdentifierRaw_sound _ _ _ h
    obtain ⟨_, _, _, _, hw'⟩ := (validIdent_iff s').1 hs'
    obtain ⟨rfl, rfl⟩ := wordy_unique hw hr hw' hr' e
    rfl
  | error => simp [lexIdentifierRaw, takeWhile1, span, hc] at h
  | failure => simp [lexIdentifierRaw, takeWhile1, span, hc] at h

theorem lexToken_word (s rest : List Char) (hs : Spec.validIdent s = true)
    (hr : Spec.stopsIdent rest = true) :
    lexToken (s ++ rest) = .ok (keywordOrIdentifier s) rest := by
  have hraw := lexIdentifierRaw_valid s rest hs hr
  obtain ⟨c, cs, rfl, hc, _⟩ := (validIdent_iff s).1 hs
  rw [List.cons_append] at hraw ⊢
  rw [lexToken_of_isEnd (leading_is_end c hc), lexKeywordOrIdentifier, hraw]
  rfl

theorem toToken_not_identifier (k : KeywordToken) (t : List Char) : k.toToken ≠ .identifier t := by
  cases k <;> simp [KeywordToken.toToken]

theorem lowerAscii_eq (c : Char) : lowerAscii c = Spec.lowerChar c := rfl

end QV.C06
