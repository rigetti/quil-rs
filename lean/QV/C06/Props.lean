import QV.C06.Lemmas
/-
C06 — Names are preserved exactly and consistently by parsing.  The specification side (`Spec.validIdent`: a flat
character-class predicate; `Spec.stopsIdent`; `Spec.exprReserved`) is independent of the scanning functions of the
model (`QV.Lex.lexIdentifierRaw`: leading run, middle run, dash-group loop — the shape of the Rust code).
-/
namespace QV.C06
open QV.Tok QV.Lex

/-- **C06 (the identifier scanner returns exactly the identifier)**: for every valid identifier `s`
(starts with `[A-Za-z_]`, consists of `[A-Za-z0-9_-]`, does not end in `-`; any length, any number of
interior dash runs) and every continuation `rest` that does not extend it, `lex_identifier_raw` on
`s ++ rest` returns `s` — byte for byte, same case — and leaves exactly `rest`. -/
theorem C06_lex_identifier_raw (s rest : List Char) (hs : Spec.validIdent s = true)
    (hr : Spec.stopsIdent rest = true) : lexIdentifierRaw (s ++ rest) = .ok s rest :=
  lexIdentifierRaw_valid s rest hs hr

/-- **C06 (the scanner returns nothing but valid identifiers, maximal)**: whenever `lex_identifier_raw` succeeds,
what it returns is a prefix of the input, is a valid identifier, and the rest does not continue it. -/
theorem C06_lex_identifier_raw_sound (inp s rest : List Char) (h : lexIdentifierRaw inp = .ok s rest) :
    inp = s ++ rest ∧ Spec.validIdent s = true ∧ Spec.stopsIdent rest = true :=
  lexIdentifierRaw_sound inp s rest h

/-- **C06 (keyword classification never alters a spelling)**: the token made from a scanned word is
either a reserved token or `Identifier` carrying exactly the scanned spelling; it is `Identifier` exactly
when the word is not one of the reserved spellings (case-sensitively). -/
theorem C06_keyword_keeps_spelling (s : List Char) :
    (∀ t, keywordOrIdentifier s = .identifier t → t = s) ∧
    (keywordOrIdentifier s = .identifier s ↔ isReservedWord s = false) := by
  unfold keywordOrIdentifier isReservedWord
  cases h1 : KeywordToken.ofString? s with
  | some k => simp [toToken_not_identifier]
  | none =>
    cases h2 : Command.ofString? s with
    | some c => simp
    | none =>
      cases h3 : DataType.ofString? s with
      | some d => simp
      | none =>
        cases h4 : Modifier.ofString? s with
        | some m => simp
        | none => simp

/-- **C06 (identifiers through `lex_token`)**: a valid identifier that is not a reserved word, followed
by text that does not continue it, lexes to the single token `Identifier s` — same bytes, same case —
and leaves exactly the rest. -/
theorem C06_lexToken_identifier (s rest : List Char) (hs : Spec.validIdent s = true)
    (hk : isReservedWord s = false) (hr : Spec.stopsIdent rest = true) :
    lexToken (s ++ rest) = .ok (.identifier s) rest := by
  rw [lexToken_word s rest hs hr, (C06_keyword_keeps_spelling s).2.2 hk]

/-- **C06 (labels)**: `@name` lexes to `Target name` for every valid identifier, reserved word or not. -/
theorem C06_lexToken_target (s rest : List Char) (hs : Spec.validIdent s = true)
    (hr : Spec.stopsIdent rest = true) :
    lexToken ('@' :: s ++ rest) = .ok (.target s) rest := by
  rw [List.cons_append, lexToken_at, lexIdentifierRaw_valid s rest hs hr]; rfl

/-- **C06 (variables)**: `%name` lexes to `Variable name` for every valid identifier. -/
theorem C06_lexToken_variable (s rest : List Char) (hs : Spec.validIdent s = true)
    (hr : Spec.stopsIdent rest = true) :
    lexToken ('%' :: s ++ rest) = .ok (.variable s) rest := by
  rw [List.cons_append, lexToken_percent, lexIdentifierRaw_valid s rest hs hr]; rfl

/-- **C06 (names inside expressions)**: a bare identifier inside an expression is read as the memory
region of exactly that spelling (index 0) unless its lower-cased form is one of pi, i, sin, cos, sqrt,
exp, cis — and in that case it is never read as a region. -/
theorem C06_expr_identifier (s : List Char) :
    (Spec.exprReserved s = false → classifyExprIdent s = .address ⟨s, 0⟩) ∧
    (Spec.exprReserved s = true → ∀ m, classifyExprIdent s ≠ .address m) := by
  -- `exprReserved` says that one of the seven tests of `classifyExprIdent` succeeds
  have hr : Spec.exprReserved s = true ↔
      ∃ w ∈ Spec.exprReservedWords, String.ofList (toLowercase s) = w := by
    simp only [Spec.exprReserved, List.any_eq_true, beq_iff_eq, toLowercase, funext lowerAscii_eq]
    exact exists_congr fun w => and_congr_right fun _ =>
      ⟨fun h => by rw [← h, String.ofList_toList], fun h => by rw [← h, String.toList_ofList]⟩
  unfold classifyExprIdent
  generalize String.ofList (toLowercase s) = l at hr
  constructor
  · intro h
    have hn : ∀ w ∈ Spec.exprReservedWords, l ≠ w := fun w hw e =>
      absurd (hr.2 ⟨w, hw, e⟩) (by simp [h])
    simp only [hn "cis" (by decide), hn "cos" (by decide), hn "exp" (by decide), hn "i" (by decide),
      hn "pi" (by decide), hn "sin" (by decide), hn "sqrt" (by decide), if_false]
  · intro h m
    obtain ⟨w, hw, rfl⟩ := hr.1 h
    simp only [Spec.exprReservedWords, List.mem_cons, List.not_mem_nil, or_false] at hw
    rcases hw with rfl | rfl | rfl | rfl | rfl | rfl | rfl <;> simp

/-- **C06 (indexed regions inside expressions)**: with brackets, EVERY identifier — reserved words
included — is the region of that spelling. -/
theorem C06_expr_bracketed (s : List Char) (i : Nat) (rest : List Token) :
    parseExpressionIdentifier (.identifier s :: .lBracket :: .integer i :: .rBracket :: rest) =
      .ok (.address ⟨s, i⟩) rest := by
  simp [parseExpressionIdentifier, parseMemoryReferenceWithBrackets]

/-- **C06 (every name-taking site stores the token's string)**: the identifier / target / variable
carried by the token is what each site puts in the AST, unchanged. -/
theorem C06_sites (s : List Char) (i : Nat) (rest : List Token) :
    takeIdentifier (.identifier s :: rest) = .ok s rest ∧
    takeTarget (.target s :: rest) = .ok s rest ∧
    takeVariable (.variable s :: rest) = .ok s rest ∧
    parseMemoryReference (.identifier s :: .lBracket :: .integer i :: .rBracket :: rest) = .ok ⟨s, i⟩ rest ∧
    parseMemoryReferenceWithBrackets (.identifier s :: .lBracket :: .integer i :: .rBracket :: rest) =
      .ok ⟨s, i⟩ rest ∧
    parseQubit (.identifier s :: rest) = .ok (.variable s) rest ∧
    parseQubit (.variable s :: rest) = .ok (.variable s) rest ∧
    parseVariableQubit (.identifier s :: rest) = .ok s rest ∧
    parseVariableQubit (.variable s :: rest) = .ok s rest := by
  refine ⟨?_, ?_, ?_, ?_, ?_, ?_, ?_, ?_, ?_⟩ <;>
    simp [takeIdentifier, takeTarget, takeVariable, parseMemoryReference, parseMemoryReferenceWithBrackets,
      parseQubit, parseVariableQubit]

theorem C06_waveform_name (a b : List Char) (rest : List Token) :
    parseWaveformName (.identifier a :: .operator .slash :: .identifier b :: rest) =
      .ok (a ++ '/' :: b) rest := by
  simp [parseWaveformName]

/-- **C06 (the same spelling denotes the same region everywhere)**: for a valid identifier `s` that is
neither a reserved word of the lexer nor one of the expression words, the text `s` lexes to the one token
`Identifier s`; a declaration / operand position (`token!(Identifier)`, `parse_memory_reference`) stores
the name `s`, and the expression parser reads the memory region `s` — the very same string. -/
theorem C06_consistent (s : List Char) (hs : Spec.validIdent s = true)
    (hk : isReservedWord s = false) (he : Spec.exprReserved s = false) :
    lex s = some [.identifier s] ∧
    takeIdentifier [.identifier s] = .ok s [] ∧
    parseMemoryReference [.identifier s] = .ok ⟨s, 0⟩ [] ∧
    parseExpressionIdentifier [.identifier s] = .ok (.address ⟨s, 0⟩) [] := by
  have hT := C06_lexToken_identifier s [] hs hk rfl
  rw [List.append_nil] at hT
  obtain ⟨c, cs, rfl, hc, _⟩ := (validIdent_iff s).1 hs
  have hI := lexItem_of_isEnd (r := cs) (leading_is_end c hc)
  rw [hT] at hI
  refine ⟨lex_single _ _ hI, ?_, ?_, ?_⟩
  · simp [takeIdentifier]
  · simp [parseMemoryReference]
  · simp [parseExpressionIdentifier, parseMemoryReferenceWithBrackets, (C06_expr_identifier (c :: cs)).1 he]

example : Spec.validIdent "Alpha-Beta--9_z".toList = true := by decide +kernel
example : Spec.validIdent "a-".toList = false := by decide
example : Spec.stopsIdent "- b".toList = true := by decide
example : Spec.stopsIdent "-b".toList = false := by decide
example : lexIdentifierRaw "Alpha-Beta--9_z- b".toList = .ok "Alpha-Beta--9_z".toList "- b".toList := by decide +kernel
example : isReservedWord "DEFGATE".toList = true ∧ isReservedWord "Defgate".toList = false ∧
    isReservedWord "mut".toList = true ∧ isReservedWord "MUT".toList = false := by decide +kernel
example : lex "Defgate".toList = some [.identifier "Defgate".toList] := by decide +kernel
example : lex "@DEFGATE %mut".toList = some [.target "DEFGATE".toList, .variable "mut".toList] := by decide +kernel
/-- a mixed-case region name keeps its case inside expressions -/
example : classifyExprIdent "Theta".toList = .address ⟨"Theta".toList, 0⟩ := by decide +kernel
example : classifyExprIdent "Pi".toList = .pi ∧ classifyExprIdent "I".toList = .imaginaryUnit ∧
    classifyExprIdent "SIN".toList = .function .sine := by decide +kernel
example : Spec.exprReserved "sQrT".toList = true ∧ Spec.exprReserved "i2".toList = false := by decide +kernel

end QV.C06
