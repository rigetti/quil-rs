import QV.C26.Spec
import QV.Shared.Chk
/-
`Sat`, the declarative meaning of a `FrameMatchCondition`, and `mem_getMatching`: `getMatching frames c` holds
exactly the frames of `frames` satisfying `c` (mutual structural induction over the nested condition type, so any
nesting depth and width).
-/
namespace QV.C26

theorem subset_iff {α} [DecidableEq α] (a b : List α) : subset a b = true ↔ ∀ x, x ∈ a → x ∈ b :=
  Chk.all_contains_iff a b

theorem sameSet_iff {α} [DecidableEq α] (a b : List α) : sameSet a b = true ↔ ∀ x, x ∈ a ↔ x ∈ b :=
  Chk.sameSet_iff a b

theorem mem_dedup {α} [DecidableEq α] (l : List α) (x : α) : x ∈ dedup l ↔ x ∈ l := by
  induction l generalizing x with
  | nil => simp [dedup]
  | cons y ys ih =>
    simp only [dedup]
    split
    · rename_i h
      have hy : y ∈ dedup ys := by simpa using h
      rw [ih, List.mem_cons]
      constructor
      · exact Or.inr
      · rintro (rfl | h)
        · exact (ih _).1 hy
        · exact h
    · simp [ih]

theorem nodup_dedup {α} [DecidableEq α] (l : List α) : (dedup l).Nodup := by
  induction l with
  | nil => simp [dedup]
  | cons y ys ih =>
    simp only [dedup]
    split
    · exact ih
    · rename_i h
      exact List.nodup_cons.2 ⟨by simpa using h, ih⟩

theorem mem_foldl_inter (rest : List (List Frame)) (s : List Frame) (f : Frame) :
    f ∈ rest.foldl (fun acc el => acc.filter (fun v => el.contains v)) s ↔
      f ∈ s ∧ ∀ el, el ∈ rest → f ∈ el := by
  induction rest generalizing s with
  | nil => simp
  | cons e es ih =>
    simp only [List.foldl_cons, ih, List.mem_filter, List.contains_iff_mem, List.mem_cons,
      forall_eq_or_imp]
    constructor
    · rintro ⟨⟨h1, h2⟩, h3⟩; exact ⟨h1, h2, h3⟩
    · rintro ⟨h1, h2, h3⟩; exact ⟨⟨h1, h2⟩, h3⟩

theorem mem_reduceInter (ss : List (List Frame)) (f : Frame) :
    f ∈ reduceInter ss ↔ ss ≠ [] ∧ ∀ s, s ∈ ss → f ∈ s := by
  cases ss with
  | nil => simp [reduceInter]
  | cons s rest =>
    simp only [reduceInter]
    rw [mem_foldl_inter]
    simp

theorem foldl_inter_sublist (rest : List (List Frame)) (s : List Frame) :
    (rest.foldl (fun acc el => acc.filter (fun v => el.contains v)) s).Sublist s := by
  induction rest generalizing s with
  | nil => simp
  | cons e es ih => exact (ih _).trans List.filter_sublist

mutual
/-- `.and []` is unsatisfiable, as in the code: `reduce(..).unwrap_or_default()` (`reduceInter`) returns no frame for
an empty conjunction. -/
def Sat : Cond → Frame → Prop
  | .all, _ => True
  | .anyOfNames names, f => f.name ∈ names
  | .anyOfQubits qs, f => Touches f qs
  | .exactQubits qs, f => OnExactly f qs
  | .specific fr, f => f = fr
  | .and cs, f => cs ≠ [] ∧ SatAll cs f
  | .or cs, f => SatAny cs f
def SatAll : List Cond → Frame → Prop
  | [], _ => True
  | c :: cs, f => Sat c f ∧ SatAll cs f
def SatAny : List Cond → Frame → Prop
  | [], _ => False
  | c :: cs, f => Sat c f ∨ SatAny cs f
end

theorem touchesB_iff (f : Frame) (qs : List Qubit) : touchesB f qs = true ↔ Touches f qs := by
  simp [touchesB, Touches]

theorem onExactlyB_iff (f : Frame) (qs : List Qubit) : onExactlyB f qs = true ↔ OnExactly f qs :=
  sameSet_iff f.qubits qs

mutual
theorem mem_getMatching (frames : List Frame) (f : Frame) :
    (c : Cond) → (f ∈ getMatching frames c ↔ f ∈ frames ∧ Sat c f)
  | .all => by simp [getMatching, Sat]
  | .anyOfNames names => by simp [getMatching, Sat]
  | .anyOfQubits qs => by simp [getMatching, Sat, Touches]
  | .exactQubits qs => by
      simp only [getMatching, Sat, List.mem_filter, sameSet_iff, OnExactly]
  | .specific fr => by
      simp only [getMatching, Sat]
      by_cases h : fr ∈ frames
      · simp only [List.contains_iff_mem, h, if_true, List.mem_singleton]
        exact ⟨fun e => ⟨e ▸ h, e⟩, And.right⟩
      · simp only [List.contains_iff_mem, h, if_false, List.not_mem_nil, false_iff]
        exact fun ⟨hf, e⟩ => h (e ▸ hf)
  | .and cs => by
      -- no sub-results reduce to the empty set although `SatAll [] f` holds: hence `cs ≠ []` in `Sat` and below
      simp only [getMatching, Sat, mem_reduceInter]
      have h := mem_getMatchingEach frames f cs
      constructor
      · rintro ⟨hne, hall⟩
        have hcs : cs ≠ [] := by
          intro e; subst e; simp [getMatchingEach] at hne
        obtain ⟨hfr, hsat⟩ := (h.1 hcs).1 hall
        exact ⟨hfr, hcs, hsat⟩
      · rintro ⟨hfr, hcs, hsat⟩
        refine ⟨?_, (h.1 hcs).2 ⟨hfr, hsat⟩⟩
        intro e; cases cs with
        | nil => exact hcs rfl
        | cons c cs => simp [getMatchingEach] at e
  | .or cs => by
      simp only [getMatching, Sat, mem_dedup]
      exact (mem_getMatchingEach frames f cs).2
/-- only the `∀`-half needs `cs ≠ []`: over no sub-results it holds of every `f`, while the right side still asks for
`f ∈ frames` -/
theorem mem_getMatchingEach (frames : List Frame) (f : Frame) :
    (cs : List Cond) →
      ((cs ≠ [] → ((∀ s, s ∈ getMatchingEach frames cs → f ∈ s) ↔ f ∈ frames ∧ SatAll cs f)) ∧
       (f ∈ (getMatchingEach frames cs).flatten ↔ f ∈ frames ∧ SatAny cs f))
  | [] => by simp [getMatchingEach, SatAny]
  | c :: cs => by
      have hc := mem_getMatching frames f c
      have hcs := mem_getMatchingEach frames f cs
      refine ⟨fun _ => ?_, ?_⟩
      · simp only [getMatchingEach, List.mem_cons, forall_eq_or_imp, SatAll, hc]
        cases cs with
        | nil => simp [getMatchingEach, SatAll]
        | cons d ds =>
          rw [hcs.1 (by simp)]
          constructor
          · rintro ⟨⟨h1, h2⟩, _, h3⟩; exact ⟨h1, h2, h3⟩
          · rintro ⟨h1, h2, h3⟩; exact ⟨⟨h1, h2⟩, h1, h3⟩
      · simp only [getMatchingEach, List.flatten_cons, List.mem_append, hc, hcs.2, SatAny]
        constructor
        · rintro (⟨h1, h2⟩ | ⟨h1, h2⟩)
          · exact ⟨h1, Or.inl h2⟩
          · exact ⟨h1, Or.inr h2⟩
        · rintro ⟨h1, h2 | h2⟩
          · exact Or.inl ⟨h1, h2⟩
          · exact Or.inr ⟨h1, h2⟩
end

/-- `hn` holds of the real key list: it is a `HashMap`'s key set. -/
theorem nodup_getMatching (frames : List Frame) (hn : frames.Nodup) :
    (c : Cond) → (getMatching frames c).Nodup
  | .all => by simpa [getMatching] using hn
  | .anyOfNames _ => by simp only [getMatching]; exact List.Nodup.sublist List.filter_sublist hn
  | .anyOfQubits _ => by simp only [getMatching]; exact List.Nodup.sublist List.filter_sublist hn
  | .exactQubits _ => by simp only [getMatching]; exact List.Nodup.sublist List.filter_sublist hn
  | .specific fr => by simp only [getMatching]; split <;> simp
  | .and cs => by
      simp only [getMatching]
      cases cs with
      | nil => simp [getMatchingEach, reduceInter]
      | cons c cs =>
        simp only [getMatchingEach, reduceInter]
        exact List.Nodup.sublist (foldl_inter_sublist _ _) (nodup_getMatching frames hn c)
  | .or cs => by simpa [getMatching] using nodup_dedup _

end QV.C26
