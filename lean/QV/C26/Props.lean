import QV.C26.Lemmas
/-
C26 — Default frame matching follows the Quil-T frame rules.

The specification (`Correct`, `UsedBy`, `BlockedBy` in Spec.lean) is a per-frame reading of the property's sentences;
the model (`matchingFrames`, Model.lean) mirrors the Rust condition builder + condition evaluator + `filter`.  Every
statement is over ALL programs (any frames, qubit lists with repetitions / variables, any `add_instruction` history)
and ALL instructions; nothing is bounded.
-/
namespace QV.C26

/-- `get_matching_keys_for_condition` returns exactly the defined frames that satisfy the condition,
for every condition form at any nesting (`And []` matches nothing, as in the code). -/
theorem C26_getMatching_iff (frames : List Frame) (c : Cond) (f : Frame) :
    f ∈ getMatching frames c ↔ f ∈ frames ∧ Sat c f :=
  mem_getMatching frames f c

example : getMatching [⟨"a", [.fixed 0]⟩, ⟨"b", [.fixed 0, .fixed 1]⟩, ⟨"a", [.fixed 1]⟩]
    (.and [.anyOfQubits [.fixed 0], .or [.anyOfNames ["b"], .specific ⟨"a", [.fixed 1]⟩]])
    = [⟨"b", [.fixed 0, .fixed 1]⟩] := by decide

theorem C26_filter_used (frames : List Frame) (c : Conds) (f : Frame) :
    f ∈ (filter frames c).used ↔ ∃ cu, c.used = some cu ∧ f ∈ frames ∧ Sat cu f := by
  cases hc : c.used with
  | none => simp [filter, hc]
  | some cu => simp [filter, hc, mem_getMatching]

/-- `filter` removes from `blocked` exactly what is in `used` (the `!used.is_empty()` test is only an
optimisation). -/
theorem C26_filter_blocked (frames : List Frame) (c : Conds) (f : Frame) :
    f ∈ (filter frames c).blocked ↔
      (∃ cb, c.blocked = some cb ∧ f ∈ frames ∧ Sat cb f) ∧ f ∉ (filter frames c).used := by
  cases hb : c.blocked with
  | none => simp [filter, hb]
  | some cb =>
    cases hu : c.used with
    | none => simp [filter, hb, hu, mem_getMatching]
    | some cu =>
      simp only [filter, hb, hu]
      split
      · simp [mem_getMatching]
      · rename_i h
        have he : getMatching frames cu = [] := by simpa using h
        simp [he, mem_getMatching]

theorem C26_filter_disjoint (frames : List Frame) (c : Conds) (f : Frame)
    (hu : f ∈ (filter frames c).used) : f ∉ (filter frames c).blocked := by
  intro hb
  exact ((C26_filter_blocked frames c f).1 hb).2 hu

theorem C26_filter_defined (frames : List Frame) (c : Conds) (f : Frame)
    (h : f ∈ (filter frames c).used ∨ f ∈ (filter frames c).blocked) : f ∈ frames := by
  rcases h with h | h
  · obtain ⟨_, _, hf, _⟩ := (C26_filter_used frames c f).1 h; exact hf
  · obtain ⟨⟨_, _, hf, _⟩, _⟩ := (C26_filter_blocked frames c f).1 h; exact hf

private theorem correct_of_conds {p : Prog} {i : Instr} {cs : Conds}
    (hc : defaultFrameMatchCondition (usedQubits p) i = some cs) (hF : IsFrameInstr i)
    (hU : ∀ f, UsedBy (usedQubits p) i f ↔ ∃ cu, cs.used = some cu ∧ Sat cu f)
    (hB : ∀ f, BlockedBy (usedQubits p) i f ↔
      (∃ cb, cs.blocked = some cb ∧ Sat cb f) ∧ ¬ UsedBy (usedQubits p) i f) :
    Correct p i (matchingFrames p i) := by
  have hm : matchingFrames p i = some (filter p.frames cs) := by rw [matchingFrames, hc]; rfl
  have used : ∀ f, f ∈ (filter p.frames cs).used ↔ f ∈ p.frames ∧ UsedBy (usedQubits p) i f := by
    intro f
    rw [C26_filter_used, hU]
    exact ⟨fun ⟨cu, h1, h2, h3⟩ => ⟨h2, cu, h1, h3⟩, fun ⟨h2, cu, h1, h3⟩ => ⟨cu, h1, h2, h3⟩⟩
  rw [hm]
  refine ⟨iff_of_true rfl hF, ?_, ?_, ?_⟩
  · rintro m ⟨⟩; exact used
  · rintro m ⟨⟩ f
    rw [C26_filter_blocked, used, hB]
    exact ⟨fun ⟨⟨cb, h1, h2, h3⟩, hn⟩ => ⟨h2, ⟨cb, h1, h3⟩, fun hu => hn ⟨h2, hu⟩⟩,
      fun ⟨h2, ⟨cb, h1, h3⟩, hn⟩ => ⟨⟨cb, h1, h2, h3⟩, fun hu => hn hu.2⟩⟩
  · rintro m ⟨⟩ f; exact C26_filter_disjoint _ _ f

private theorem correct_of_none {p : Prog} {i : Instr}
    (hc : defaultFrameMatchCondition (usedQubits p) i = none) (hF : ¬ IsFrameInstr i) :
    Correct p i (matchingFrames p i) := by
  have hm : matchingFrames p i = none := by rw [matchingFrames, hc]; rfl
  rw [hm]
  exact ⟨iff_of_false Bool.false_ne_true hF, nofun, nofun, nofun⟩

/-- **C26 (full statement).**  For every program and every instruction, what
`DefaultHandler::matching_frames` reports is exactly what the Quil-T frame rules prescribe: `None`
iff the instruction is not a frame instruction; otherwise `used` / `blocked` are exactly the defined
frames that the instruction uses / blocks (per `UsedBy` / `BlockedBy`), and the two never overlap. -/
theorem C26_matchingFrames_correct (p : Prog) (i : Instr) : Correct p i (matchingFrames p i) := by
  cases i with
  | pulse b fr | capture b fr | rawCapture b fr =>
    cases b <;> exact correct_of_conds rfl trivial (fun f => by simp [UsedBy, Sat])
      (fun f => by simp [BlockedBy, UsedBy, Sat, and_comm])
  | setFrequency fr | setPhase fr | setScale fr | shiftFrequency fr | shiftPhase fr =>
    exact correct_of_conds rfl trivial (fun f => by simp [UsedBy, Sat]) (fun f => by simp [BlockedBy])
  | swapPhases f1 f2 =>
    exact correct_of_conds rfl trivial (fun f => by simp [UsedBy, Sat, SatAny]) (fun f => by simp [BlockedBy])
  | fence qs =>
    cases qs <;> exact correct_of_conds rfl trivial (fun f => by simp [UsedBy, Sat]) (fun f => by simp [BlockedBy])
  | delay names qs =>
    cases names <;> exact correct_of_conds rfl trivial (fun f => by simp [UsedBy, Sat, SatAll])
      (fun f => by simp [BlockedBy])
  | reset q =>
    cases q <;> exact correct_of_conds rfl trivial (fun f => by simp [UsedBy, Sat])
      (fun f => by simp [BlockedBy, UsedBy, Sat])
  | gate _ | measure _ | defcal _ _ | defcalMeasure _ _ | other => exact correct_of_none rfl id

/-! ### the statement's first sentence, spelled out -/

theorem C26_used_blocked_disjoint (p : Prog) (i : Instr) (m : Matched)
    (h : matchingFrames p i = some m) (f : Frame) : ¬ (f ∈ m.used ∧ f ∈ m.blocked) :=
  fun ⟨hu, hb⟩ => (C26_matchingFrames_correct p i).disjoint m h f hu hb

theorem C26_reported_frames_defined (p : Prog) (i : Instr) (m : Matched)
    (h : matchingFrames p i = some m) (f : Frame) (hf : f ∈ m.used ∨ f ∈ m.blocked) : f ∈ p.frames := by
  rcases hf with hf | hf
  · exact (((C26_matchingFrames_correct p i).used m h f).1 hf).1
  · exact (((C26_matchingFrames_correct p i).blocked m h f).1 hf).1

private theorem nodup_ite {b : List Frame} (hb : b.Nodup) (c : Prop) [Decidable c] (q : Frame → Bool) :
    (if c then b.filter q else b).Nodup := by
  split
  · exact List.Nodup.sublist List.filter_sublist hb
  · exact hb

/-- the reported collections are sets (no repetitions) whenever the frame keys are (a `HashMap`'s are) -/
theorem C26_reported_nodup (p : Prog) (i : Instr) (m : Matched) (hn : p.frames.Nodup)
    (h : matchingFrames p i = some m) : m.used.Nodup ∧ m.blocked.Nodup := by
  cases hc : defaultFrameMatchCondition (usedQubits p) i with
  | none => simp [matchingFrames, hc] at h
  | some cs =>
    simp only [matchingFrames, hc, Option.map_some, Option.some.injEq] at h
    subst h
    constructor
    · simp only [filter]
      cases cs.used with
      | none => simp
      | some cu => exact nodup_getMatching _ hn cu
    · simp only [filter]
      cases cs.blocked with
      | none => simp
      | some cb =>
        exact nodup_ite (nodup_getMatching _ hn cb) _ _

/-- Any result satisfying `Correct` has the same used and blocked *sets* as the model's: the specification
determines the answer up to order and repetition. -/
theorem C26_correct_unique (p : Prog) (i : Instr) (r : Option Matched) (h : Correct p i r) :
    (r.isSome = (matchingFrames p i).isSome) ∧
    ∀ m m', r = some m → matchingFrames p i = some m' →
      (∀ f, f ∈ m.used ↔ f ∈ m'.used) ∧ (∀ f, f ∈ m.blocked ↔ f ∈ m'.blocked) := by
  have h' := C26_matchingFrames_correct p i
  constructor
  · exact Bool.eq_iff_iff.2 (h.some_iff.trans h'.some_iff.symm)
  · intro m m' hr hm
    exact ⟨fun f => by rw [h.used m hr f, h'.used m' hm f],
           fun f => by rw [h.blocked m hr f, h'.blocked m' hm f]⟩

/-! The Bool tables of the checker have the arms of the specification's tables, so one `split` serves both. -/

private theorem usedByB_iff (avail : List Qubit) (i : Instr) (f : Frame) :
    usedByB avail i f = true ↔ UsedBy avail i f := by
  unfold usedByB UsedBy
  split <;> simp [touchesB_iff, onExactlyB_iff]

private theorem onExactlyB_false_iff (f : Frame) (qs : List Qubit) :
    onExactlyB f qs = false ↔ ¬ OnExactly f qs := by
  rw [← onExactlyB_iff]; simp

private theorem blockedByB_iff (avail : List Qubit) (i : Instr) (f : Frame) :
    blockedByB avail i f = true ↔ BlockedBy avail i f := by
  unfold blockedByB BlockedBy
  split <;> simp [touchesB_iff, onExactlyB_false_iff]

private theorem isFrameInstrB_iff (i : Instr) : isFrameInstrB i = true ↔ IsFrameInstr i := by
  unfold isFrameInstrB IsFrameInstr
  split <;> simp

private theorem exactlyB_iff (defined l : List Frame) (pb : Frame → Bool) (P : Frame → Prop)
    (hp : ∀ f, pb f = true ↔ P f) :
    exactlyB defined l pb = true ↔ ∀ f, f ∈ l ↔ f ∈ defined ∧ P f :=
  Chk.exactly_iff defined l pb P hp

/-- `checkB` (evaluated by the driver on the IMPLEMENTATION's reported sets) decides `Correct`. -/
theorem C26_checkB_iff (p : Prog) (i : Instr) (r : Option Matched) :
    checkB p i r = true ↔ Correct p i r := by
  unfold checkB
  rw [Bool.and_eq_true, beq_iff_eq, Bool.eq_iff_iff, isFrameInstrB_iff]
  cases r with
  | none => exact ⟨fun h => ⟨h.1, nofun, nofun, nofun⟩, fun h => ⟨h.some_iff, rfl⟩⟩
  | some m =>
    simp only [Bool.and_eq_true, exactlyB_iff _ _ _ _ (usedByB_iff (usedQubits p) i),
      exactlyB_iff _ _ _ _ (blockedByB_iff (usedQubits p) i), List.all_eq_true,
      Bool.not_eq_true', List.contains_eq_mem, decide_eq_false_iff_not]
    constructor
    · rintro ⟨hs, ⟨hu, hb⟩, hd⟩
      exact ⟨hs, by rintro _ ⟨⟩; exact hu, by rintro _ ⟨⟩; exact hb, by rintro _ ⟨⟩; exact hd⟩
    · exact fun h => ⟨h.some_iff, ⟨h.used m rfl, h.blocked m rfl⟩, h.disjoint m rfl⟩

theorem C26_checkB_model (p : Prog) (i : Instr) : checkB p i (matchingFrames p i) = true :=
  (C26_checkB_iff p i _).2 (C26_matchingFrames_correct p i)

/-! ### the program's used qubits (what RESET without a qubit depends on) -/

/-- The specification side of `get_qubits`: the instruction mentions the qubit directly or — for calibration
definitions — in the header or anywhere in the body, at any nesting depth. -/
inductive Mentions : Instr → Qubit → Prop
  | gate {qs q} : q ∈ qs → Mentions (.gate qs) q
  | measure {q} : Mentions (.measure q) q
  | reset {q} : Mentions (.reset (some q)) q
  | delay {ns qs q} : q ∈ qs → Mentions (.delay ns qs) q
  | fence {qs q} : q ∈ qs → Mentions (.fence qs) q
  | pulse {b f q} : q ∈ f.qubits → Mentions (.pulse b f) q
  | capture {b f q} : q ∈ f.qubits → Mentions (.capture b f) q
  | rawCapture {b f q} : q ∈ f.qubits → Mentions (.rawCapture b f) q
  | setFrequency {f q} : q ∈ f.qubits → Mentions (.setFrequency f) q
  | setPhase {f q} : q ∈ f.qubits → Mentions (.setPhase f) q
  | setScale {f q} : q ∈ f.qubits → Mentions (.setScale f) q
  | shiftFrequency {f q} : q ∈ f.qubits → Mentions (.shiftFrequency f) q
  | shiftPhase {f q} : q ∈ f.qubits → Mentions (.shiftPhase f) q
  | swapPhases1 {f1 f2 q} : q ∈ f1.qubits → Mentions (.swapPhases f1 f2) q
  | swapPhases2 {f1 f2 q} : q ∈ f2.qubits → Mentions (.swapPhases f1 f2) q
  | defcalHead {qs body q} : q ∈ qs → Mentions (.defcal qs body) q
  | defcalBody {qs body j q} : j ∈ body → Mentions j q → Mentions (.defcal qs body) q
  | defcalMeasureHead {q body} : Mentions (.defcalMeasure q body) q
  | defcalMeasureBody {q' body j q} : j ∈ body → Mentions j q → Mentions (.defcalMeasure q' body) q

mutual
private theorem mentions_of_mem : (i : Instr) → (q : Qubit) → q ∈ getQubits i → Mentions i q
  | .gate _, _, h => .gate h
  | .measure _, _, h => List.mem_singleton.1 h ▸ .measure
  | .reset (some _), _, h => List.mem_singleton.1 h ▸ .reset
  | .reset none, _, h => nomatch h
  | .delay _ _, _, h => .delay h
  | .fence _, _, h => .fence h
  | .pulse _ _, _, h => .pulse h
  | .capture _ _, _, h => .capture h
  | .rawCapture _ _, _, h => .rawCapture h
  | .defcal _ body, q, h =>
    (List.mem_append.1 h).elim .defcalHead fun h =>
      let ⟨_, hj, hm⟩ := mentions_of_memAll body q h
      .defcalBody hj hm
  | .defcalMeasure _ body, q, h =>
    (List.mem_cons.1 h).elim (fun e => e ▸ .defcalMeasureHead) fun h =>
      let ⟨_, hj, hm⟩ := mentions_of_memAll body q h
      .defcalMeasureBody hj hm
  | .setFrequency _, _, h => .setFrequency h
  | .setPhase _, _, h => .setPhase h
  | .setScale _, _, h => .setScale h
  | .shiftFrequency _, _, h => .shiftFrequency h
  | .shiftPhase _, _, h => .shiftPhase h
  | .swapPhases _ _, _, h => (List.mem_append.1 h).elim .swapPhases1 .swapPhases2
  | .other, _, h => nomatch h

private theorem mentions_of_memAll : (is : List Instr) → (q : Qubit) → q ∈ getQubitsAll is →
    ∃ j, j ∈ is ∧ Mentions j q
  | [], _, h => nomatch h
  | i :: is, q, h =>
    (List.mem_append.1 h).elim (fun h => ⟨i, List.mem_cons_self, mentions_of_mem i q h⟩) fun h =>
      let ⟨j, hj, hm⟩ := mentions_of_memAll is q h
      ⟨j, List.mem_cons_of_mem _ hj, hm⟩
end

private theorem mem_getQubitsAll_of_mem {j : Instr} {q : Qubit} (h : q ∈ getQubits j) :
    ∀ {is : List Instr}, j ∈ is → q ∈ getQubitsAll is
  | _ :: _, .head _ => List.mem_append_left _ h
  | _ :: _, .tail _ hj => List.mem_append_right _ (mem_getQubitsAll_of_mem h hj)

private theorem mem_of_mentions {i : Instr} {q : Qubit} (h : Mentions i q) : q ∈ getQubits i := by
  induction h with
  | gate h | delay h | fence h | pulse h | capture h | rawCapture h | setFrequency h | setPhase h
  | setScale h | shiftFrequency h | shiftPhase h => exact h
  | measure | reset => exact List.mem_singleton_self _
  | swapPhases1 h | defcalHead h => exact List.mem_append_left _ h
  | swapPhases2 h => exact List.mem_append_right _ h
  | defcalBody hj _ ih => exact List.mem_append_right _ (mem_getQubitsAll_of_mem ih hj)
  | defcalMeasureHead => exact List.mem_cons_self
  | defcalMeasureBody hj _ ih => exact List.mem_cons_of_mem _ (mem_getQubitsAll_of_mem ih hj)

/-- `get_used_qubits` of a program built through `add_instruction` = the qubits mentioned by what was
added (any number of instructions, calibration bodies of any depth). -/
theorem C26_usedQubits_iff (p : Prog) (q : Qubit) :
    q ∈ usedQubits p ↔ ∃ j, j ∈ p.added ∧ Mentions j q :=
  ⟨mentions_of_memAll p.added q, fun ⟨_, hj, hm⟩ => mem_getQubitsAll_of_mem (mem_of_mentions hm) hj⟩

private def fa0 : Frame := ⟨"a", [.fixed 0]⟩
private def fb01 : Frame := ⟨"b", [.fixed 0, .fixed 1]⟩
private def fa1 : Frame := ⟨"a", [.fixed 1]⟩
private def prog3 : Prog := { frames := [fa0, fb01, fa1], added := [.gate [.fixed 0], .gate [.fixed 1]] }

example : matchingFrames prog3 (.pulse true fa0) = some ⟨[fa0], [fb01]⟩ := by decide
example : matchingFrames prog3 (.pulse false fa0) = some ⟨[fa0], []⟩ := by decide
-- an undefined frame is not reported as used, but a blocking pulse on it still blocks its neighbours
example : matchingFrames prog3 (.pulse true ⟨"c", [.fixed 1]⟩) = some ⟨[], [fb01, fa1]⟩ := by decide
example : matchingFrames prog3 (.swapPhases fa0 fa1) = some ⟨[fa0, fa1], []⟩ := by decide
example : matchingFrames prog3 (.swapPhases fa0 fa0) = some ⟨[fa0], []⟩ := by decide
example : matchingFrames prog3 (.fence []) = some ⟨[fa0, fb01, fa1], []⟩ := by decide
example : matchingFrames prog3 (.fence [.fixed 1]) = some ⟨[fb01, fa1], []⟩ := by decide
example : matchingFrames prog3 (.delay [] [.fixed 1, .fixed 0]) = some ⟨[fb01], []⟩ := by decide
example : matchingFrames prog3 (.delay ["a"] [.fixed 0]) = some ⟨[fa0], []⟩ := by decide
example : matchingFrames prog3 (.delay ["b"] [.fixed 0]) = some ⟨[], []⟩ := by decide
example : matchingFrames prog3 (.reset (some (.fixed 0))) = some ⟨[fa0], [fb01]⟩ := by decide
-- RESET without a qubit: the program uses qubits {0,1}
example : matchingFrames prog3 (.reset none) = some ⟨[fb01], [fa0, fa1]⟩ := by decide
example : matchingFrames prog3 (.gate [.fixed 0]) = none := by decide
example : Correct prog3 (.reset none) (some ⟨[fb01], [fa1, fa0]⟩) := by
  rw [← C26_checkB_iff]; decide
example : ¬ Correct prog3 (.reset none) (some ⟨[fb01], [fa0]⟩) := by
  rw [← C26_checkB_iff]; decide

end QV.C26
