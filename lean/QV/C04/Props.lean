import QV.C04.Lemmas
import QV.C02.Props
/-!
# C04 — programs built through the API serialize to text that parses back

Statement (properties.jsonl): *For every well-formed program built through the public constructors without
placeholders, serialization succeeds and the text parses to an equivalent program (equal, with expressions
compared by value).  Serialization fails with an unresolved-placeholder error exactly when a placeholder is
present, and the debug serializer never fails.*

Token level, programs of any size (the models are `QV.Shared.Print`, `QV.Shared.Parse`, `QV.C02.Model`).

## Without guards, for ALL instruction kinds (nested bodies included), no size bound

Serialization returns an error ⇔ a placeholder occurs somewhere (`C04_placeholder_iff`, `C04_placeholder_iff_instr`,
`C04_serialize_succeeds`; `hasPlaceholder` is a plain recursive search, written independently of the writers' order).
The error type `PrintError` has only the two unresolved-placeholder constructors; WHICH of them is returned — the first
one met in writing order, `firstErr` — is compared with the real `ToQuilError` on every case.  The debug serializer is a
total function by construction of the model (`write(f, true)` never takes an error branch): `C04_debug_total`.

## The round trip, under explicit guards (hence `…_partial`)

* `C04_roundtrip_api_partial`, all 40 kinds.  Guards beyond well-formed (`wellFormed`: the constructors' validation +
  identifier rules + finite numbers; it already says that bodies consist of non-definition instructions and excludes
  the known finding shapes) and placeholder-free: `apiKind` (a DEFWAVEFORM name has non-empty slash-free parts) and
  the NumTok hypothesis.  The tokens parse back to the listing with every expression replaced by its normal form and
  waveform parameters sorted by key (`normInstr`); expression values are preserved (`C04_norm_value`).
* `C04_roundtrip_build_partial`: if no DEFCAL has non-normal parameter expressions, re-adding the reparsed list gives a
  program whose `to_instructions` is exactly that list (no instruction merged or reordered).  The hypothesis is needed:
  `C04_counterexample_calibrationKeys` — the key of a calibration contains its parameter EXPRESSIONS, compared
  structurally, and `-1.0` (a literal) and `-(1.0)` (a prefix minus) print alike.
* `C04_roundtrip_partial`, the 23 kinds without expressions (`plainKind`): the tokens parse back to a list that builds
  the SAME program (equal, not merely equivalent), and re-serializing gives the same tokens.

## Not proved

The full statement (all kinds, `≈` = `equivInstrs`: expressions compared by value, waveform parameters as maps) is
checked on every generated case by the correspondence (Bool spec `specOnOut`):

    theorem C04_full (is) (hw : ∀ i ∈ is, wellFormed i) (hp : ∀ i ∈ is, hasPlaceholder i = false) (hF : NumTok) :
      ∃ ts is', printProgramTokens F (build is).listing = .ok ts ∧ parseProgram ts = .ok is' [] ∧
        equivInstrs (build is).listing (build is').listing

It is FALSE of the code for two DEFCALs whose keys print alike (`C04_counterexample_calibrationKeys`, known finding
C04/calibration-keys-print-alike; the driver recognises such programs by `calKeysStable`).  Apart from that and the guards
above, what separates it from `C04_roundtrip_api_partial` is the step from `C04_norm_value` (per expression, any scalar
with the literal laws) to `equivInstr i (normInstr i)`, which is not stated: `equivInstr` is the driver's comparison, a
sampled evaluation in `Float` arithmetic.
-/
namespace QV.C04
open QV QV.Tok QV.Ast QV.Parse QV.Print QV.ExprPrint QV.C02

theorem printProgramTokens_error_iff (F : NumFmt) (L : List Instruction) :
    (∃ e, printProgramTokens F L = .error e) ↔ firstErrList L ≠ none := by
  unfold printProgramTokens
  cases firstErrList L <;> simp

theorem printProgramTokens_ok_iff (F : NumFmt) (L : List Instruction) (ts : List Token) :
    printProgramTokens F L = .ok ts ↔ firstErrList L = none ∧ printProgramDebugTokens F L = ts := by
  unfold printProgramTokens printProgramDebugTokens
  cases firstErrList L <;> simp

theorem printInstrTokens_error_iff (F : NumFmt) (i : Instruction) :
    (∃ e, printInstrTokens F i = .error e) ↔ firstErr i ≠ none := by
  unfold printInstrTokens printInstrRaw
  cases firstErr i <;> simp

/-- **serialization fails exactly when a placeholder is present** (program level, any listing) -/
theorem C04_placeholder_iff (F : NumFmt) (L : List Instruction) :
    (∃ e, printProgramTokens F L = .error e) ↔ hasPlaceholders L = true := by
  rw [printProgramTokens_error_iff, Ne, firstErrList_none_iff, Bool.not_eq_false]

/-- the same for one instruction (`Instruction::to_quil`) -/
theorem C04_placeholder_iff_instr (F : NumFmt) (i : Instruction) :
    (∃ e, printInstrTokens F i = .error e) ↔ hasPlaceholder i = true := by
  rw [printInstrTokens_error_iff, Ne, firstErr_none_iff, Bool.not_eq_false]

example : ∃ e, printInstrTokens stdFmt (.gate ⟨"X", [], [.placeholder 0], []⟩) = .error e :=
  (C04_placeholder_iff_instr stdFmt _).mpr (by decide)

/-- the debug serializer never fails (it is a total function returning tokens), and whenever the strict
serializer succeeds the two agree -/
theorem C04_debug_total (F : NumFmt) (L : List Instruction) :
    (∃ ts, printProgramDebugTokens F L = ts) ∧
      ∀ ts, printProgramTokens F L = .ok ts → printProgramDebugTokens F L = ts :=
  ⟨⟨_, rfl⟩, fun ts h => ((printProgramTokens_ok_iff F L ts).mp h).2⟩

/-- **C04 for the kinds without expressions.**  Well-formed, placeholder-free instructions of the plain kinds —
any number, any order, with redefinitions: the program serializes, the tokens parse back to a list building the
same program, and serializing again gives the same tokens. -/
theorem C04_roundtrip_partial (F : NumFmt) (is : List Instruction)
    (hw : ∀ i ∈ is, wellFormed i = true) (hp : ∀ i ∈ is, hasPlaceholder i = false)
    (hk : ∀ i ∈ is, plainKind i = true) :
    ∃ ts, printProgramTokens F (build is).listing = .ok ts ∧
      ∃ is', parseProgram ts = .ok is' [] ∧ build is' = build is ∧
        printProgramTokens F (build is').listing = .ok ts := by
  apply C02_roundtrip_exact F is
  · intro i hi; exact parsedInstr_of_wellFormed i (hw i hi) (hp i hi) (hk i hi)
  · intro i hi; exact QV.C02.provedKind_of_lineKind (lineKind_of_plainKind (hk i hi))
  · intro i hi; exact numTokInstr_of_plainKind F (hk i hi)
  · intro i hi; exact canonInstr_of_plainKind (hk i hi)

/-- **serialization succeeds** for every placeholder-free listing (all kinds, nested bodies; full strength) -/
theorem C04_serialize_succeeds (F : NumFmt) (L : List Instruction) (hp : hasPlaceholders L = false) :
    ∃ ts, printProgramTokens F L = .ok ts :=
  ⟨_, (printProgramTokens_ok_iff F L _).mpr ⟨(firstErrList_none_iff L).mpr hp, rfl⟩⟩

/-- **C04 round trip, all 40 kinds, under explicit guards.**  Well-formed, placeholder-free instructions
satisfying `apiKind` (beyond `wellFormed`: a DEFWAVEFORM name of non-empty slash-free parts) and the NumTok hypothesis
on their literals: the program serializes, and the tokens parse back to the listing in which every expression `e`
is replaced by its normal form `norm e` and waveform-invocation parameters are sorted by key (`normInstr`).
`norm e` has the same value as `e` under every assignment (`C04_norm_value`). -/
theorem C04_roundtrip_api_partial (F : NumFmt) (is : List Instruction)
    (hw : ∀ i ∈ is, wellFormed i = true) (hp : ∀ i ∈ is, hasPlaceholder i = false)
    (hk : ∀ i ∈ is, apiKind i = true) (hn : ∀ i ∈ is, numTokInstr F i = true) :
    ∃ ts, printProgramTokens F (build is).listing = .ok ts ∧
      parseProgram ts = .ok ((build is).listing.map normInstr) [] := by
  have hL : ∀ i ∈ (build is).listing, i ∈ is := fun i hi => mem_listing_build hi
  have herr : firstErrList (build is).listing = none :=
    firstErrList_none _ (fun i hi => (firstErr_none_iff i).mpr (hp i (hL i hi)))
  have hks : ∀ i ∈ (build is).listing, provedKind i = true ∧ shapeOk F i = true :=
    fun i hi => provedKind_shapeOk_of_api F i (hw i (hL i hi)) (hp i (hL i hi)) (hk i (hL i hi))
  obtain ⟨hprint, hparse⟩ := print_parse_listing F (build is).listing normInstr herr
    (fun i hi => blockOk_lineToks_of_shapeOk F i (hks i hi).2 (hks i hi).1 (hn i (hL i hi)))
    (fun i hi => reads_of_apiKind F i (hw i (hL i hi)) (hp i (hL i hi)) (hk i (hL i hi)) (hn i (hL i hi)))
  exact ⟨_, hprint, hparse⟩

/-- the reparsed list builds a program whose `to_instructions` is that list — nothing merged, nothing reordered —
provided no DEFCAL has parameter expressions that normalisation changes (the key of a calibration contains its
parameter expressions; see `C04_counterexample_calibrationKeys`) -/
theorem C04_roundtrip_build_partial (is : List Instruction)
    (hkey : ∀ id body, Instruction.calibrationDefinition id body ∈ is → id.parameters.map norm = id.parameters) :
    (build ((build is).listing.map normInstr)).listing = (build is).listing.map normInstr := by
  -- `build_map` wants a function that keeps the slot of EVERY instruction; `normInstr` does so only on the listing
  -- (by `hkey`), so it is cut back to the identity where it would not
  let f : Instruction → Instruction := fun i => if slotOf (normInstr i) = slotOf i then normInstr i else i
  have hf : ∀ i, slotOf (f i) = slotOf i := by
    intro i
    by_cases h : slotOf (normInstr i) = slotOf i <;> simp [f, h]
  have hL : ∀ i ∈ (build is).listing, i ∈ is := fun i hi => mem_listing_build hi
  have hmap : (build is).listing.map normInstr = (build is).listing.map f := by
    apply List.map_congr_left
    intro i hi
    have := slotOf_normInstr i (fun id body e => hkey id body (e ▸ hL i hi))
    simp [f, this]
  rw [hmap, build_map f hf, build_listing_build, listing_mapProg]

/-- **C04 at TEXT level, for the canonical layout**: under the hypotheses of `C04_roundtrip_api_partial`, if the
printed tokens are spellable (`QV.Render.allTokOk`, decidable) and the float spelling satisfies the NumTok
hypothesis `FmtOk`, the text `render st ts` (the canonical layout `QV.Render.render` of the printed tokens) lexes — with the
character-level lexer model — to exactly the printed tokens, which parse back to the normal-form listing. -/
theorem C04_roundtrip_api_text_partial (st : QV.Render.Style) (F : NumFmt) (is : List Instruction)
    (hw : ∀ i ∈ is, wellFormed i = true) (hp : ∀ i ∈ is, hasPlaceholder i = false)
    (hk : ∀ i ∈ is, apiKind i = true) (hn : ∀ i ∈ is, numTokInstr F i = true) :
    ∃ ts, printProgramTokens F (build is).listing = .ok ts ∧
      (QV.Render.allTokOk ts = true → (∀ b, Token.float b ∈ ts → QV.Render.FmtOk st.fmt b) →
        QV.Lex.lex (QV.Render.render st ts) = some ts ∧
        parseProgram ts = .ok ((build is).listing.map normInstr) []) := by
  obtain ⟨ts, h1, h2⟩ := C04_roundtrip_api_partial F is hw hp hk hn
  exact ⟨ts, h1, fun hall hfl => ⟨QV.Render.lex_render st ts hall hfl, h2⟩⟩

/-- two calibrations that the API keeps apart — `DEFCAL X(-1.0) 0` with the literal `-1.0` and with the prefix
minus `-(1.0)`: their keys differ structurally — print to the same line; the reparsed list therefore builds a
program with ONE calibration.  (An instance of the non-injectivity of the expression printer, C03.) -/
def calibrationKeysWitness : List Instruction :=
  [.calibrationDefinition ⟨[], "X", [.number ⟨0xBFF0000000000000, 0⟩], [.fixed 0]⟩ [.nop],
   .calibrationDefinition ⟨[], "X", [.pre .minus (.number ⟨0x3FF0000000000000, 0⟩)], [.fixed 0]⟩ [.wait]]

theorem C04_counterexample_calibrationKeys :
    (∀ i ∈ calibrationKeysWitness, wellFormed i = true ∧ hasPlaceholder i = false ∧ apiKind i = true ∧
      numTokInstr stdFmt i = true) ∧
    (build calibrationKeysWitness).listing.length = 2 ∧
    (build ((build calibrationKeysWitness).listing.map normInstr)).listing.length = 1 := by
  decide +kernel

/-- the normal form the parser returns has the same value as the original expression, for every scalar type
satisfying the literal laws and every assignment (`QV.ExprRoundTrip.eval_norm`) -/
theorem C04_norm_value {K : Type} [Scalar K] (den : CBits → K) (L : QV.ExprRoundTrip.LitLaws K den)
    (ρ : VarEnv K) (μ : MemEnv K) (e : PExpr) (h : finiteLits e = true) :
    QV.ExprRoundTrip.evalP den ρ μ (norm e) = QV.ExprRoundTrip.evalP den ρ μ e :=
  QV.ExprRoundTrip.eval_norm L ρ μ e h

/-- non-vacuity of `C04_roundtrip_api_partial` (one-line kinds): `DAGGER RX(-(-pi), -1.5, 1-2i) 0 q` and a frame instruction -/
example : ∃ ts, printProgramTokens stdFmt (build
      [.gate ⟨"RX", [.pre .minus (.pre .minus .pi), .number ⟨0xBFF8000000000000, 0⟩,
          .number ⟨0x3FF0000000000000, 0xC000000000000000⟩], [.fixed 0, .variable "q"], [.dagger]⟩,
       .setPhase ⟨⟨"rf", [.fixed 0]⟩, .pre .plus (.var "theta")⟩,
       .delay ⟨.var "t", [], [.fixed 0]⟩,
       .delay ⟨.address ⟨"theta", 0⟩, [], [.fixed 0, .fixed 1]⟩,
       .delay ⟨.call .sin (.var "t"), [], [.fixed 0]⟩,
       .delay ⟨.number ⟨0x3FF0000000000000, 0xC000000000000000⟩, ["a\"b"], []⟩,
       .rawCapture ⟨false, ⟨"ro", [.fixed 0]⟩, .number ⟨0x4000000000000000, 0⟩, ⟨"iq", 0⟩⟩,
       .pulse ⟨false, ⟨"rf", [.fixed 0]⟩, ⟨"lib/wf", [("b", .number ⟨0xBFF0000000000000, 0⟩), ("a", .pi)]⟩⟩,
       .call ⟨"foo", [.immediate ⟨0x3FF0000000000000, 0⟩, .immediate ⟨0, 0xC000000000000000⟩,
          .immediate ⟨0xBFF0000000000000, 0x4000000000000000⟩, .identifier "x", .memoryReference ⟨"i", 0⟩]⟩]).listing
      = .ok ts :=
  let ⟨ts, h, _⟩ := C04_roundtrip_api_partial stdFmt _ (by decide +kernel) (by decide +kernel) (by decide +kernel) (by decide +kernel)
  ⟨ts, h⟩

/-- non-vacuity: instructions as the constructors build them (negative / extreme literals, a named measurement,
a redefined declaration, two frames with a variable qubit) -/
example : ∃ ts, printProgramTokens stdFmt (build
      [.move ⟨⟨"ro", 0⟩, .literalReal 0xBFF8000000000000⟩,
       .store ⟨"mem", ⟨"off", 2⟩, .literalInteger (-9223372036854775808)⟩,
       .declaration ⟨"ro", ⟨.bit, 1⟩, none⟩,
       .declaration ⟨"ro", ⟨.real, 2⟩, some ⟨"x", [⟨1, .bit⟩, ⟨2, .octet⟩]⟩⟩,
       .swapPhases ⟨⟨"a\"b", [.fixed 0, .variable "q"]⟩, ⟨"", [.fixed 1]⟩⟩,
       .measurement ⟨some "mid", .variable "q", some ⟨"ro", 1⟩⟩]).listing = .ok ts :=
  let ⟨ts, h, _⟩ := C04_roundtrip_partial stdFmt _ (by decide +kernel) (by decide +kernel) (by decide +kernel)
  ⟨ts, h⟩

/-- non-vacuity of `C04_roundtrip_api_partial` for the six definition kinds, with NON-normal expressions
(negative and complex literals, prefix plus) in every expression position: DEFWAVEFORM, DEFFRAME, DEFCAL with a
negative-literal parameter and a body containing a gate with a negative parameter, DEFCAL MEASURE, DEFCIRCUIT, and
DEFGATE AS MATRIX / PERMUTATION / PAULI-SUM / SEQUENCE -/
example : ∃ ts, printProgramTokens stdFmt (build
      [.waveformDefinition ⟨"lib/wf", ⟨[.number ⟨0xBFF0000000000000, 0⟩, .pre .plus (.var "t"),
          .number ⟨0x3FF0000000000000, 0xC000000000000000⟩], ["t"]⟩⟩,
       .frameDefinition ⟨⟨"xy", [.fixed 0, .variable "q"]⟩,
         [("DIRECTION", .string "tx"), ("INITIAL-FREQUENCY", .expression (.number ⟨0xBFF8000000000000, 0⟩))]⟩,
       .calibrationDefinition ⟨[.dagger], "RX", [.number ⟨0xBFF0000000000000, 0⟩, .var "a"], [.fixed 0]⟩
         [.gate ⟨"RZ", [.number ⟨0xBFF8000000000000, 0⟩], [.fixed 0], []⟩,
          .delay ⟨.number ⟨0xBFF0000000000000, 0⟩, [], [.fixed 0]⟩, .nop],
       .measureCalibrationDefinition ⟨some "mid", .variable "q", some "dest"⟩
         [.shiftPhase ⟨⟨"ro", [.variable "q"]⟩, .pre .plus .pi⟩, .wait],
       .circuitDefinition "BELL" ["a"] ["q", "r"]
         [.gate ⟨"RX", [.pre .minus (.pre .minus (.var "a"))], [.variable "q"], []⟩,
          .gate ⟨"CNOT", [], [.variable "q", .variable "r"], [.controlled]⟩],
       .gateDefinition ⟨"M", ["t"], .matrix [[.number ⟨0xBFF0000000000000, 0⟩, .pi],
          [.pre .plus (.var "t"), .number ⟨0, 0x3FF0000000000000⟩]]⟩,
       .gateDefinition ⟨"P", [], .permutation [0, 1, 3, 2]⟩,
       .gateDefinition ⟨"S", ["t"], .pauliSum ⟨["p", "q"],
          [⟨[(.x, "p"), (.z, "q")], .number ⟨0xBFF0000000000000, 0⟩⟩, ⟨[(.y, "q")], .var "t"⟩]⟩⟩,
       .gateDefinition ⟨"Q", ["t"], .sequence ⟨["a", "b"],
          [⟨"RX", [.number ⟨0xBFF0000000000000, 0⟩], [.variable "a"], []⟩,
           ⟨"CNOT", [], [.variable "a", .variable "b"], []⟩]⟩⟩]).listing = .ok ts ∧
    ∃ is', parseProgram ts = .ok is' [] :=
  let ⟨ts, h1, h2⟩ := C04_roundtrip_api_partial stdFmt _ (by decide +kernel) (by decide +kernel) (by decide +kernel) (by decide +kernel)
  ⟨ts, h1, _, h2⟩

end QV.C04
