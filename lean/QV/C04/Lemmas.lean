import QV.C04.Spec
import QV.C02.Subsets
/-!
C04 lemmas: printing fails exactly on placeholders (all 40 kinds, nested bodies included, by
mutual structural induction); the bridge from `wellFormed ∧ no placeholder` to the hypotheses of C02's per-kind
round-trip lemmas; and their dispatch for API-built instructions (`reads_of_apiLineKind`, `reads_of_apiKind`).
-/
namespace QV.C04
open QV QV.Tok QV.Ast QV.Parse QV.Print QV.ExprPrint QV.ExprRoundTrip QV.C02

theorem qubitErr_none_iff (q : Qubit) : qubitErr q = none ↔ qubitIsPh q = false := by
  cases q <;> simp [qubitErr, qubitIsPh]

theorem targetErr_none_iff (t : Target) : targetErr t = none ↔ targetIsPh t = false := by
  cases t <;> simp [targetErr, targetIsPh]

theorem qubitsErr_none_iff (qs : List Qubit) : qubitsErr qs = none ↔ qs.any qubitIsPh = false :=
  firstSome_map qubitErr qubitIsPh qubitErr_none_iff qs

theorem specErr_none (s : GateSpecification) :
    specErr s = none ↔ (match s with
      | .sequence q => q.gates.any fun x => x.qubits.any qubitIsPh
      | _ => false) = false := by
  cases s with
  | sequence q => exact firstSome_map gateErr _ (fun g => qubitsErr_none_iff g.qubits) q.gates
  | _ => simp [specErr]

mutual
theorem firstErr_none_iff (i : Instruction) : firstErr i = none ↔ hasPlaceholder i = false := by
  cases i with
  | calibrationDefinition id body =>
    simp only [firstErr, hasPlaceholder, firstSome_pair, Bool.or_eq_false_iff, qubitsErr_none_iff,
      firstErrList_none_iff body]
  | measureCalibrationDefinition id body =>
    simp only [firstErr, hasPlaceholder, firstSome_pair, Bool.or_eq_false_iff, qubitErr_none_iff,
      firstErrList_none_iff body]
  | circuitDefinition n ps qs body => simp only [firstErr, hasPlaceholder, firstErrList_none_iff body]
  | capture _ | frameDefinition _ | pulse _ | rawCapture _ | setFrequency _ | setPhase _ | setScale _
  | shiftFrequency _ | shiftPhase _ => simp only [firstErr, hasPlaceholder, frameErr, qubitsErr_none_iff]
  | delay _ | fence _ => simp only [firstErr, hasPlaceholder, qubitsErr_none_iff]
  | gate _ => simp only [firstErr, hasPlaceholder, gateErr, qubitsErr_none_iff]
  | jump _ | jumpUnless _ | jumpWhen _ | label _ => simp only [firstErr, hasPlaceholder, targetErr_none_iff]
  | measurement _ => simp only [firstErr, hasPlaceholder, qubitErr_none_iff]
  | gateDefinition d =>
    obtain ⟨n, ps, spec⟩ := d
    cases spec with
    | sequence q =>
      have := specErr_none (.sequence q)
      simpa only [firstErr, hasPlaceholder] using this
    | _ => simp [firstErr, hasPlaceholder, specErr]
  | reset d =>
    obtain ⟨q⟩ := d
    cases q with
    | none => simp [firstErr, hasPlaceholder]
    | some q => simp only [firstErr, hasPlaceholder, qubitErr_none_iff]
  | swapPhases d =>
    simp only [firstErr, hasPlaceholder, firstSome_pair, Bool.or_eq_false_iff, frameErr, qubitsErr_none_iff]
  | _ => simp [firstErr, hasPlaceholder]
theorem firstErrList_none_iff (l : List Instruction) : firstErrList l = none ↔ hasPlaceholders l = false := by
  cases l with
  | nil => simp [firstErrList, hasPlaceholders]
  | cons i rest =>
    simp only [firstErrList, hasPlaceholders, firstSome_pair, Bool.or_eq_false_iff, firstErr_none_iff i,
      firstErrList_none_iff rest]
end


/-- the kinds of `QV.C02.provedKind` that contain no expression -/
def plainKind : Instruction → Bool
  | .arithmetic _ | .binaryLogic _ | .comparison _ | .convert _ | .exchange _ | .move _ | .load _
  | .store _ | .unaryLogic _ | .halt | .nop | .wait | .jump _ | .jumpWhen _ | .jumpUnless _ | .label _
  | .include _ | .declaration _ | .fence _ | .reset _ | .measurement _ | .pragma _ | .swapPhases _ => true
  | _ => false

theorem lineKind_of_plainKind {i : Instruction} (h : plainKind i = true) : lineKind i = true := by
  cases i <;> first | rfl | cases h

theorem numTokInstr_of_plainKind (F : NumFmt) {i : Instruction} (h : plainKind i = true) :
    numTokInstr F i = true := by
  cases i <;> first | rfl | cases h

theorem canonInstr_of_plainKind {i : Instruction} (h : plainKind i = true) : canonInstr i = i := by
  cases i <;> first | rfl | cases h

theorem noPlaceholder_of (q : Qubit) (hw : qubitOk q = true) (hp : qubitIsPh q = false) :
    noPlaceholder q = true := by
  cases q with
  | fixed n => rfl
  | placeholder k => simp [qubitIsPh] at hp
  | «variable» s =>
    simp only [qubitOk, identName, Bool.and_eq_true, Bool.not_eq_true'] at hw
    simp [noPlaceholder, hw.2]

theorem all_noPlaceholder_of (qs : List Qubit) (hw : qs.all qubitOk = true) (hp : qs.any qubitIsPh = false) :
    qs.all noPlaceholder = true := by
  rw [List.all_eq_true] at hw ⊢
  rw [List.any_eq_false] at hp
  intro q hq
  exact noPlaceholder_of q (hw q hq) (by simpa using hp q hq)

theorem frameOk_of (f : FrameIdentifier) (hw : QV.C04.frameOk f = true) (hp : f.qubits.any qubitIsPh = false) :
    QV.C02.frameOk f = true := by
  simp only [QV.C04.frameOk, Bool.and_eq_true] at hw
  simp only [QV.C02.frameOk, Bool.and_eq_true]
  exact ⟨hw.1, all_noPlaceholder_of _ hw.2 hp⟩

theorem fixedTarget_of (t : Target) (hp : targetIsPh t = false) : fixedTarget t = true := by
  cases t <;> simp_all [targetIsPh, fixedTarget]

theorem arithOperandOk_of (o : ArithmeticOperand) (h : arithOk o = true) : arithOperandOk o = true := by
  cases o <;> simp_all [arithOk, arithOperandOk, QV.C04.i64Ok, QV.C02.i64Ok]
theorem compOperandOk_of (o : ComparisonOperand) (h : compOk o = true) : compOperandOk o = true := by
  cases o <;> simp_all [compOk, compOperandOk, QV.C04.i64Ok, QV.C02.i64Ok]
theorem binOperandOk_of (o : BinaryOperand) (h : binOk o = true) : binOperandOk o = true := by
  cases o <;> simp_all [binOk, binOperandOk, QV.C04.i64Ok, QV.C02.i64Ok]

theorem parsedInstr_of_wellFormed (i : Instruction) (hw : wellFormed i = true)
    (hp : hasPlaceholder i = false) (hk : plainKind i = true) : parsedInstr i = true := by
  cases i with
  | arithmetic a | move a | store a => exact arithOperandOk_of _ (Bool.and_eq_true_iff.mp hw).2
  | binaryLogic a => exact binOperandOk_of _ (Bool.and_eq_true_iff.mp hw).2
  | comparison a => exact compOperandOk_of _ (Bool.and_eq_true_iff.mp hw).2
  | jump a | jumpWhen a | jumpUnless a | label a => exact fixedTarget_of _ hp
  | fence a => exact all_noPlaceholder_of _ hw hp
  | reset a =>
    obtain ⟨q⟩ := a
    cases q with
    | none => rfl
    | some q => exact noPlaceholder_of q hw hp
  | measurement a =>
    simp only [wellFormed, Bool.and_eq_true] at hw
    exact noPlaceholder_of _ hw.1.2 hp
  | swapPhases a =>
    have hw := Bool.and_eq_true_iff.mp hw
    have hp := Bool.or_eq_false_iff.mp hp
    exact Bool.and_eq_true_iff.mpr ⟨frameOk_of _ hw.1 hp.1, frameOk_of _ hw.2 hp.2⟩
  | _ => first | rfl | cases hk

/-- the ONE-LINE kinds for which the API round trip is proved: the plain kinds and the ones with expressions
(34 kinds; the shapes of the C02 known finding `number-then-name-i` excluded) -/
def apiLineKind : Instruction → Bool
  | .gate _ | .setFrequency _ | .setPhase _ | .setScale _ | .shiftFrequency _ | .shiftPhase _
  | .delay _ | .capture _ | .pulse _ => true
  | .call c => chainOk none c.arguments
  | .rawCapture r => r.memoryReference.name != "i"
  | i => plainKind i

/-- what a printed instruction of an `apiLineKind` parses back to: every expression `e` replaced by `norm e`
(`QV.ExprPrint.norm`: a negative literal becomes a prefix minus on its magnitude, a complex literal a sum,
prefix plus disappears — all value-preserving, `QV.ExprRoundTrip.eval_norm`), the parameters of a waveform invocation
sorted by key as well (`normInvocation`) -/
def normLine : Instruction → Instruction
  | .gate g => .gate { g with parameters := g.parameters.map norm }
  | .setFrequency s => .setFrequency ⟨s.frame, norm s.frequency⟩
  | .setPhase s => .setPhase ⟨s.frame, norm s.phase⟩
  | .setScale s => .setScale ⟨s.frame, norm s.scale⟩
  | .shiftFrequency s => .shiftFrequency ⟨s.frame, norm s.frequency⟩
  | .shiftPhase s => .shiftPhase ⟨s.frame, norm s.phase⟩
  | .delay d => .delay { d with duration := norm d.duration }
  | .rawCapture r => .rawCapture { r with duration := norm r.duration }
  | .capture c => .capture { c with waveform := normInvocation c.waveform }
  | .pulse p => .pulse { p with waveform := normInvocation p.waveform }
  | i => i

theorem exprOk_finiteLits (e : PExpr) (h : exprOk e = true) : finiteLits e = true := by
  induction e with
  | call f e ih => exact ih h
  | bin l o r ihl ihr =>
    have h := Bool.and_eq_true_iff.mp h
    exact Bool.and_eq_true_iff.mpr ⟨ihl h.1, ihr h.2⟩
  | number z => exact h
  | pre o e ih => exact ih h
  | _ => rfl

theorem all_finiteLits (ps : List PExpr) (h : ps.all exprOk = true) : ps.all finiteLits = true := by
  rw [List.all_eq_true] at h ⊢
  intro e he
  exact exprOk_finiteLits e (h e he)

theorem invOk_of_wellFormed (F : NumFmt) (w : WaveformInvocation) (hw : QV.C04.invocationOk w = true)
    (hn : (w.parameters.all fun kv => numTokOk F kv.2) = true) : InvOk F w := by
  simp only [QV.C04.invocationOk, Bool.and_eq_true, distinctKeys, decide_eq_true_eq] at hw
  refine ⟨hw.1.1.2, hw.1.2, ?_, fun kv hkv => List.all_eq_true.mp hn kv hkv⟩
  intro kv hkv
  have := List.all_eq_true.mp hw.2 kv hkv
  simp only [Bool.and_eq_true] at this
  exact exprOk_finiteLits _ this.2

theorem chainOk_of (a : UnresolvedCallArgument) (rest : List UnresolvedCallArgument)
    (h : callNumberThenI (a :: rest) = false) : chainOk (some a) rest = true := by
  induction rest generalizing a with
  | nil => rfl
  | cons b rest ih =>
    cases a with
    | immediate z =>
      simp only [callNumberThenI, Bool.or_eq_false_iff] at h
      simp only [chainOk, Bool.and_eq_true, Bool.not_eq_true']
      refine ⟨?_, ih b h.2⟩
      have h1 := h.1
      cases b <;> simp_all [isRealImm, namedI]
    -- a name is not a real immediate: both sides unfold to the statement about the tail
    | identifier _ | memoryReference _ => exact ih b h

theorem chainOk_none_of (args : List UnresolvedCallArgument) (h : callNumberThenI args = false) :
    chainOk none args = true := by
  cases args with
  | nil => rfl
  | cons a rest => exact chainOk_of a rest h

/-- what `wellFormed` says of the five SET- / SHIFT- kinds (a frame and an expression), in C02's terms -/
theorem frameExpr_of (f : FrameIdentifier) (e : PExpr) (hw : (QV.C04.frameOk f && exprOk e) = true)
    (hp : f.qubits.any qubitIsPh = false) : QV.C02.frameOk f = true ∧ finiteLits e = true :=
  have h := Bool.and_eq_true_iff.mp hw
  ⟨frameOk_of f h.1 hp, exprOk_finiteLits e h.2⟩

theorem reads_of_apiLineKind (F : NumFmt) (i : Instruction) (hw : wellFormed i = true)
    (hp : hasPlaceholder i = false) (hk : apiLineKind i = true) (hn : numTokInstr F i = true) :
    Reads anyRest (toks F i) (normLine i) := by
  cases i with
  | gate g =>
    simp only [wellFormed, QV.C04.gateOk, Bool.and_eq_true] at hw
    exact reads_gate_norm F g (all_finiteLits _ hw.1.2) (all_noPlaceholder_of _ hw.2 hp) hn
  | setFrequency s =>
    have ⟨hf, he⟩ := frameExpr_of s.frame s.frequency hw hp
    exact reads_frameExpr F .setFrequency (fun f e => .setFrequency ⟨f, e⟩) _ _ (fun _ _ => rfl) rfl hf he hn
  | setPhase s =>
    have ⟨hf, he⟩ := frameExpr_of s.frame s.phase hw hp
    exact reads_frameExpr F .setPhase (fun f e => .setPhase ⟨f, e⟩) _ _ (fun _ _ => rfl) rfl hf he hn
  | setScale s =>
    have ⟨hf, he⟩ := frameExpr_of s.frame s.scale hw hp
    exact reads_frameExpr F .setScale (fun f e => .setScale ⟨f, e⟩) _ _ (fun _ _ => rfl) rfl hf he hn
  | shiftFrequency s =>
    have ⟨hf, he⟩ := frameExpr_of s.frame s.frequency hw hp
    exact reads_frameExpr F .shiftFrequency (fun f e => .shiftFrequency ⟨f, e⟩) _ _ (fun _ _ => rfl) rfl hf he hn
  | shiftPhase s =>
    have ⟨hf, he⟩ := frameExpr_of s.frame s.phase hw hp
    exact reads_frameExpr F .shiftPhase (fun f e => .shiftPhase ⟨f, e⟩) _ _ (fun _ _ => rfl) rfl hf he hn
  | delay dl =>
    simp only [wellFormed, Bool.and_eq_true] at hw
    simp only [numTokInstr, Bool.and_eq_true] at hn
    exact reads_delay_norm F dl (all_noPlaceholder_of _ hw.2 hp) (exprOk_finiteLits _ hw.1) hn.1 hn.2
  | call c =>
    simp only [wellFormed, Bool.and_eq_true, Bool.not_eq_true'] at hw
    have hok := all_callArgOkP F QV.C04.callArgOk _ (fun _ h => h) hw.1.2 hn
    exact reads_call F c hok (chainOk_none_of _ hw.2)
  | capture c =>
    simp only [wellFormed, Bool.and_eq_true] at hw
    exact reads_capture_norm F c (frameOk_of _ hw.1.1 hp) (invOk_of_wellFormed F _ hw.1.2 hn)
  | pulse c =>
    simp only [wellFormed, Bool.and_eq_true] at hw
    exact reads_pulse_norm F c (frameOk_of _ hw.1 hp) (invOk_of_wellFormed F _ hw.2 hn)
  | rawCapture r =>
    simp only [wellFormed, Bool.and_eq_true, bne_iff_ne, ne_eq] at hw
    exact reads_rawCapture_norm F r (frameOk_of _ hw.1.1.1 hp) (exprOk_finiteLits _ hw.1.1.2) hn hw.2
  | _ =>
    -- on every other kind `apiLineKind` is `plainKind`, and `normLine` and `canonInstr` are the identity
    all_goals first
      | exact reads_of_lineKind F _ (parsedInstr_of_wellFormed _ hw hp hk) (lineKind_of_plainKind hk) hn
      | cases hk

theorem apiLineKind_lineKind {i : Instruction} (h : apiLineKind i = true) : lineKind i = true := by
  cases i <;> first | rfl | exact h

theorem wellFormeds_eq_all (l : List Instruction) : wellFormeds l = l.all wellFormed := by
  induction l with
  | nil => simp [wellFormeds]
  | cons i l ih => simp [wellFormeds, ih]

theorem hasPlaceholders_eq_any (l : List Instruction) : hasPlaceholders l = l.any hasPlaceholder := by
  induction l with
  | nil => simp [hasPlaceholders]
  | cons i l ih => simp [hasPlaceholders, ih]

theorem apiLineKind_of_bodyKind (i : Instruction) (hw : wellFormed i = true) (hb : bodyKind i = true) :
    apiLineKind i = true := by
  cases i with
  | call c =>
    simp only [wellFormed, Bool.and_eq_true, Bool.not_eq_true'] at hw
    exact chainOk_none_of _ hw.2
  | rawCapture r => exact (Bool.and_eq_true_iff.mp hw).2
  | _ => first | rfl | cases hb

/-- the guard of `C04_roundtrip_api_partial`: `apiLineKind` on the one-line kinds, and for DEFWAVEFORM a name `name` /
`name/extension` with non-empty slash-free parts (`wfNameOk`).  Within `wellFormed` only the DEFWAVEFORM clause is left
to ask (`apiKind_of_wellFormed`). -/
def apiKind : Instruction → Bool
  | .waveformDefinition w => wfNameOk w.name
  | .frameDefinition _ => true
  | .calibrationDefinition _ _ => true
  | .measureCalibrationDefinition _ _ => true
  | .circuitDefinition _ _ _ _ => true
  | .gateDefinition _ => true
  | i => apiLineKind i

theorem apiKind_of_wellFormed (i : Instruction) (hw : wellFormed i = true)
    (hname : ∀ w, i = .waveformDefinition w → wfNameOk w.name = true) : apiKind i = true := by
  cases i with
  | waveformDefinition w => exact hname w rfl
  | call c =>
    simp only [wellFormed, Bool.and_eq_true, Bool.not_eq_true'] at hw
    exact chainOk_none_of _ hw.2
  | rawCapture r => exact (Bool.and_eq_true_iff.mp hw).2
  | _ => rfl

/-- what a printed instruction parses back to: every expression `e` replaced by `norm e`, waveform-invocation
parameters sorted by key.  Inside a body `normLine` is enough: bodies hold one-line kinds only (`bodyKind`). -/
def normInstr : Instruction → Instruction
  | .waveformDefinition w => .waveformDefinition ⟨w.name, ⟨w.definition.matrix.map norm, w.definition.parameters⟩⟩
  | .frameDefinition f => .frameDefinition ⟨f.identifier, f.attributes.map normAttr⟩
  | .calibrationDefinition id body =>
    .calibrationDefinition { id with parameters := id.parameters.map norm } (body.map normLine)
  | .measureCalibrationDefinition id body => .measureCalibrationDefinition id (body.map normLine)
  | .circuitDefinition n ps qs body => .circuitDefinition n ps qs (body.map normLine)
  | .gateDefinition g => .gateDefinition ⟨g.name, g.parameters, normSpec g.specification⟩
  | i => normLine i

theorem normInstr_of_apiLineKind (i : Instruction) (h : apiLineKind i = true) : normInstr i = normLine i := by
  cases i <;> first | rfl | exact absurd h Bool.false_ne_true

/-- normalisation keeps the container key of everything but a DEFCAL with non-normal parameters (the key of a
calibration CONTAINS its parameter expressions) -/
theorem slotOf_normInstr (i : Instruction)
    (h : ∀ id body, i = .calibrationDefinition id body → id.parameters.map norm = id.parameters) :
    slotOf (normInstr i) = slotOf i := by
  cases i with
  | calibrationDefinition id body =>
    have := h id body rfl
    simp [normInstr, slotOf, this]
  | _ => rfl

theorem body_facts (body : List Instruction) (hw : wellFormeds body = true) (hb : body.all bodyKind = true)
    (hp : hasPlaceholders body = false) :
    ∀ i ∈ body, wellFormed i = true ∧ hasPlaceholder i = false ∧ apiLineKind i = true := by
  rw [wellFormeds_eq_all] at hw
  rw [hasPlaceholders_eq_any, List.any_eq_false] at hp
  intro i hi
  have h1 := List.all_eq_true.mp hw i hi
  exact ⟨h1, by simpa using hp i hi, apiLineKind_of_bodyKind i h1 (List.all_eq_true.mp hb i hi)⟩

theorem specApiOk_of_wellFormed (spec : GateSpecification) (hw : QV.C04.specOk spec = true)
    (name : String) (ps : List String) (hp : hasPlaceholder (.gateDefinition ⟨name, ps, spec⟩) = false) :
    specApiOk spec = true := by
  cases spec with
  | matrix rows =>
    simp only [QV.C04.specOk, Bool.and_eq_true] at hw
    simp only [specApiOk, Bool.and_eq_true]
    refine ⟨hw.1, ?_⟩
    rw [List.all_eq_true]
    intro r hr
    exact all_finiteLits r (List.all_eq_true.mp hw.2 r hr)
  | permutation p =>
    simp only [QV.C04.specOk, Bool.and_eq_true] at hw
    exact hw.1
  | pauliSum s =>
    simp only [QV.C04.specOk, Bool.and_eq_true] at hw
    simp only [specApiOk, Bool.and_eq_true]
    refine ⟨hw.1.2, ?_⟩
    rw [List.all_eq_true]
    intro t ht
    have := List.all_eq_true.mp hw.2 t ht
    simp only [Bool.and_eq_true] at this ⊢
    exact ⟨⟨this.1.1, exprOk_finiteLits _ this.1.2⟩, this.2⟩
  | sequence s =>
    simp only [QV.C04.specOk, Bool.and_eq_true] at hw
    have hp := List.any_eq_false.mp hp
    simp only [specApiOk, Bool.and_eq_true]
    refine ⟨⟨hw.1.1.1, hw.1.2⟩, ?_⟩
    rw [List.all_eq_true]
    intro g hg
    have h1 := List.all_eq_true.mp hw.2 g hg
    rw [Bool.and_eq_true] at h1
    have hg1 := h1.1
    simp only [QV.C04.gateOk, Bool.and_eq_true] at hg1
    rw [Bool.and_eq_true, Bool.and_eq_true]
    exact ⟨⟨all_finiteLits _ hg1.1.2, all_noPlaceholder_of _ hg1.2 (by simpa using hp g hg)⟩, h1.2⟩

theorem body_all_lineKind (body : List Instruction) (h1 : wellFormeds body = true)
    (h2 : body.all bodyKind = true) (h3 : hasPlaceholders body = false) : body.all lineKind = true := by
  rw [List.all_eq_true]
  intro j hj
  exact apiLineKind_lineKind (body_facts body h1 h2 h3 j hj).2.2

/-- an API-built instruction lies in C02's proved subset, and its definition lists are not empty -/
theorem provedKind_shapeOk_of_api (F : NumFmt) (i : Instruction) (hw : wellFormed i = true)
    (hp : hasPlaceholder i = false) (hk : apiKind i = true) : provedKind i = true ∧ shapeOk F i = true := by
  cases i with
  | waveformDefinition w => exact ⟨rfl, rfl⟩
  | frameDefinition f => exact ⟨rfl, rfl⟩
  | calibrationDefinition id body =>
    simp only [wellFormed, Bool.and_eq_true] at hw
    obtain ⟨⟨⟨_, hne⟩, hbk⟩, hws⟩ := hw
    simp only [hasPlaceholder, Bool.or_eq_false_iff] at hp
    have := body_all_lineKind body hws hbk hp.2
    exact ⟨by simp [provedKind, blockKind, defKind, this], hne⟩
  | measureCalibrationDefinition id body =>
    simp only [wellFormed, Bool.and_eq_true] at hw
    obtain ⟨⟨⟨_, hne⟩, hbk⟩, hws⟩ := hw
    simp only [hasPlaceholder, Bool.or_eq_false_iff] at hp
    have := bodyOk1_of_all_lineKind (body_all_lineKind body hws hbk hp.2)
    exact ⟨by simp [provedKind, nlKind, this], hne⟩
  | circuitDefinition n ps qs body =>
    simp only [wellFormed, Bool.and_eq_true] at hw
    obtain ⟨⟨⟨_, hne⟩, hbk⟩, hws⟩ := hw
    have := bodyOk1_of_all_lineKind (body_all_lineKind body hws hbk hp)
    exact ⟨by simp [provedKind, nlKind, this], hne⟩
  | gateDefinition g =>
    obtain ⟨name, ps, spec⟩ := g
    simp only [wellFormed, Bool.and_eq_true] at hw
    have hs := specApiOk_of_wellFormed spec hw.2 name ps hp
    have : gateSpecKind spec = true := by
      cases spec with
      | sequence s =>
        simp only [specApiOk, Bool.and_eq_true] at hs
        simp only [gateSpecKind]
        rw [List.all_eq_true]
        intro g hg
        have := List.all_eq_true.mp hs.2 g hg
        rw [Bool.and_eq_true, Bool.and_eq_true] at this
        exact this.1.2
      | _ => rfl
    exact ⟨by simp [provedKind, nlKind, this], by simpa [shapeOk] using specLineList_ne_of_specApiOk F spec hs⟩
  | _ =>
    all_goals
      exact ⟨provedKind_of_lineKind (apiLineKind_lineKind hk), rfl⟩

theorem readsTop_of_apiLineKind (F : NumFmt) (i : Instruction) (hw : wellFormed i = true)
    (hp : hasPlaceholder i = false) (hl : apiLineKind i = true) (hn : numTokInstr F i = true) :
    Reads topRest (lineToks F i) (normInstr i) := by
  rw [lineToks_of_blockKind F _ (blockKind_of_lineKind (apiLineKind_lineKind hl)) hn, normInstr_of_apiLineKind _ hl]
  exact (reads_of_apiLineKind F _ hw hp hl hn).top

theorem blockReads_api (F : NumFmt) (body : List Instruction) (hne : body ≠ []) (h1 : wellFormeds body = true)
    (h2 : body.all bodyKind = true) (h3 : hasPlaceholders body = false) (h4 : numTokInstrs F body = true) :
    BlockReads F parseInstruction body normLine :=
  blockReads_of_items F _ body _ hne fun j hj => by
    obtain ⟨a, b, c⟩ := body_facts body h1 h2 h3 j hj
    rw [numTokInstrs_eq_all] at h4
    exact reads_of_apiLineKind F j a b c (List.all_eq_true.mp h4 j hj)

theorem reads_of_apiKind (F : NumFmt) (i : Instruction) (hw : wellFormed i = true)
    (hp : hasPlaceholder i = false) (hk : apiKind i = true) (hn : numTokInstr F i = true) :
    Reads topRest (lineToks F i) (normInstr i) := by
  cases i with
  | waveformDefinition w =>
    rw [lineToks_of_blockKind F (.waveformDefinition w) rfl hn]
    simp only [wellFormed, Bool.and_eq_true, Bool.not_eq_true', List.isEmpty_eq_false_iff] at hw
    exact (reads_waveformDefinition_norm F w hk hw.1.2
      (fun x hx => exprOk_finiteLits x (List.all_eq_true.mp hw.2 x hx))
      (fun x hx => List.all_eq_true.mp hn x hx)).top
  | frameDefinition f =>
    rw [lineToks_of_blockKind F (.frameDefinition f) rfl hn]
    simp only [wellFormed, Bool.and_eq_true, Bool.not_eq_true', List.isEmpty_eq_false_iff, distinctKeys,
      decide_eq_true_eq] at hw
    exact reads_frameDefinition_norm F f (frameOk_of _ hw.1.1.1 hp) hw.1.1.2 hw.1.2
      (fun kv hkv => by
        have := (Bool.and_eq_true_iff.mp (List.all_eq_true.mp hw.2 kv hkv)).2
        generalize kv.2 = v at this ⊢
        cases v <;> first | rfl | exact exprOk_finiteLits _ this)
      (attrNumTok_of_numTokInstr F f hn)
  | calibrationDefinition id body =>
    simp only [wellFormed, Bool.and_eq_true, Bool.not_eq_true', List.isEmpty_eq_false_iff] at hw
    obtain ⟨⟨⟨⟨⟨_, hps⟩, hqs⟩, hne⟩, hbody⟩, hws⟩ := hw
    simp only [hasPlaceholder, Bool.or_eq_false_iff] at hp
    have hbk : blockKind (.calibrationDefinition id body) = true := body_all_lineKind body hws hbody hp.2
    rw [lineToks_of_blockKind F _ hbk hn]
    simp only [numTokInstr, Bool.and_eq_true] at hn
    exact reads_cal F id body normLine (all_finiteLits _ hps) (all_noPlaceholder_of _ hqs hp.1) hn.1
      (blockReads_api F body hne hws hbody hp.2 hn.2)
  | measureCalibrationDefinition id body =>
    simp only [wellFormed, Bool.and_eq_true, Bool.not_eq_true', List.isEmpty_eq_false_iff] at hw
    obtain ⟨⟨⟨⟨⟨_, hq⟩, _⟩, hne⟩, hbody⟩, hws⟩ := hw
    simp only [hasPlaceholder, Bool.or_eq_false_iff] at hp
    exact reads_measureCal F id body normLine (noPlaceholder_of _ hq hp.1) hne
      (blockReads_api F body hne hws hbody hp.2 hn)
  | circuitDefinition n ps qs body =>
    simp only [wellFormed, Bool.and_eq_true, Bool.not_eq_true', List.isEmpty_eq_false_iff] at hw
    obtain ⟨⟨⟨⟨_, hqs⟩, hne⟩, hbody⟩, hws⟩ := hw
    have hqv : qs.all (fun s => !isReservedWord s.toList) = true := by
      rw [List.all_eq_true]
      intro s hs
      have := List.all_eq_true.mp hqs s hs
      simp only [identName, Bool.and_eq_true] at this
      exact this.2
    exact reads_circuit F n ps qs body normLine hqv hne (blockReads_api F body hne hws hbody hp hn)
  | gateDefinition g =>
    obtain ⟨name, ps, spec⟩ := g
    simp only [wellFormed, Bool.and_eq_true] at hw
    exact reads_gateDefinition_norm F ⟨name, ps, spec⟩ (specApiOk_of_wellFormed spec hw.2 name ps hp) hn
  | _ =>
    all_goals exact readsTop_of_apiLineKind F _ hw hp hk hn

end QV.C04
