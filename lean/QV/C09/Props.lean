import QV.Shared.ProgramLemmas
import QV.C09.Spec
/-
C09 — All instruction views of a program agree.

"For every program, the copying and consuming instruction listings return the same sequence.
Rebuilding a program from that sequence gives an equal program with identical serialization. The
body keeps the order in which instructions were added, and each keyed definition keeps only its
last value."

All theorems are unbounded (any history, any program satisfying the reachability invariant `WF`,
which is itself proved for every history). Model: `QV/Shared/Program.lean`.
-/
namespace QV.C09
open QV.Prog

/-- every program built by adding instructions keeps each container homogeneous in kind and
duplicate-free in keys -/
theorem C09_wf_history (is : List Instr) : WF (fromInstructions is) := wf_fromInstructions is

theorem C09_wf_step {p : Program} (h : WF p) (is : List Instr) : WF (addMany p is) := wf_addMany h is

/-! #### clause 1: copying and consuming listings coincide -/

theorem C09_views_agree (p : Program) : intoInstructions p = toInstructions p :=
  intoInstructions_eq p

/-! #### clause 2: rebuilding from the listing -/

/-- Rebuilding restores every container and the body exactly; only the cache is recomputed from
the listing. -/
theorem C09_rebuild {p : Program} (h : WF p) :
    fromInstructions (toInstructions p) = { p with used := qubitsOf (toInstructions p) } :=
  fromInstructions_toInstructions h

theorem C09_rebuild_listing {p : Program} (h : WF p) :
    toInstructions (fromInstructions (toInstructions p)) = toInstructions p := by
  rw [fromInstructions_toInstructions h, toInstructions_rebuildUsed]

theorem C09_rebuild_print {p : Program} (h : WF p) :
    print (fromInstructions (toInstructions p)) = print p := by
  simp only [print, C09_rebuild_listing h]

theorem C09_rebuild_history (is : List Instr) :
    let p := fromInstructions is
    toInstructions (fromInstructions (toInstructions p)) = toInstructions p ∧
    print (fromInstructions (toInstructions p)) = print p ∧
    intoInstructions p = toInstructions p :=
  ⟨C09_rebuild_listing (wf_fromInstructions is), C09_rebuild_print (wf_fromInstructions is),
   intoInstructions_eq _⟩

/-- "gives an equal program": the rebuilt program compares equal (derived `PartialEq`, which also
compares the cache) exactly when the original's cache is the qubit set of its listing — the C10
invariant. FULL statement `∀ is, progEq (rebuilt) (fromInstructions is)` is false of the code
(see `C09_rebuild_equal_counterexample`); this is the part that holds. -/
theorem C09_rebuild_equal_partial {p : Program} (h : WF p) :
    progEq (fromInstructions (toInstructions p)) p = true ↔ Inv p := by
  rw [fromInstructions_toInstructions h]
  constructor
  · intro he q; exact (progEq_used he q).symm
  · intro hi
    exact progEq_of_containers (wf_rebuildUsed h) (container_rebuildUsed p) fun q => (hi q).symm

/-- histories that never redefine a key satisfy the invariant, hence rebuild to an equal program -/
theorem C09_rebuild_equal_of_distinct_keys (is : List Instr)
    (hd : ∀ k, k ≠ .body → (keys (ofKind k is)).Nodup) :
    progEq (fromInstructions (toInstructions (fromInstructions is))) (fromInstructions is) = true :=
  (C09_rebuild_equal_partial (wf_fromInstructions is)).mpr (inv_fromInstructions_of_distinct is hd)

private def calA : Instr := ⟨.cal, "X 0", 0, "DEFCAL X 0:\n\tY 7", [.fixed 0, .fixed 7]⟩
private def calB : Instr := ⟨.cal, "X 0", 1, "DEFCAL X 0:\n\tY 13", [.fixed 0, .fixed 13]⟩

/-- `DEFCAL X 0: Y 7; DEFCAL X 0: Y 13`: the rebuilt program is NOT equal to the original (cache
{0,7,13} against {0,13}); known finding C09/rebuilt-unequal-after-redefined-calibration, the same
root cause as C10/redefined-calibration-leaves-stale-qubits. -/
theorem C09_rebuild_equal_counterexample :
    ¬ (∀ is : List Instr,
        progEq (fromInstructions (toInstructions (fromInstructions is))) (fromInstructions is) = true) := by
  intro h
  exact absurd (h [calA, calB]) (by decide +kernel)

/-! #### clause 3: the body keeps insertion order -/

theorem C09_body_order (is : List Instr) : (fromInstructions is).body = ofKind .body is :=
  container_fromInstructions is .body

theorem C09_body_order_step (p : Program) (is : List Instr) :
    (addMany p is).body = p.body ++ ofKind .body is :=
  container_addMany p is .body

/-! #### clause 4 (and the whole shape of the listing): `ListingSpec` -/

/-- the listing of the program built from ANY history satisfies the declarative specification:
kinds in the fixed order, body in insertion order, each key once at its first-definition position,
carrying its last value -/
theorem C09_listing_spec (is : List Instr) : ListingSpec is (toInstructions (fromInstructions is)) := by
  have hw := wf_fromInstructions is
  have hd : ∀ k, k ≠ .body → (fromInstructions is).container k = (ofKind k is).foldl upsert [] :=
    fun k hb => by rw [container_fromInstructions, if_neg hb]
  constructor
  · exact toInstructions_eq_flatMap_ofKind hw
  · rw [ofKind_toInstructions hw]; exact C09_body_order is
  · intro k hb
    rw [ofKind_toInstructions hw, hd k hb, keys_foldl_upsert_nil]
  · intro x hx hb
    obtain ⟨k, hx⟩ := mem_toInstructions.mp hx
    obtain rfl : x.kind = k := hw.kinds k x hx
    rw [← lookup_foldl_upsert_nil, ← hd _ hb]
    exact lookup_of_mem_nodup hx (hw.nodup _ hb)

/-- the Bool checker run by the driver on the implementation's listing decides the specification -/
theorem C09_checkListing_iff (is out : List Instr) : checkListing is out = true ↔ ListingSpec is out := by
  simp only [checkListing, Bool.and_eq_true, decide_eq_true_eq, List.all_eq_true, Bool.or_eq_true,
    Kind.mem_defs]
  constructor
  · rintro ⟨⟨⟨h1, h2⟩, h3⟩, h4⟩
    exact ⟨h1, h2, h3, fun x hx hb => (h4 x hx).resolve_left hb⟩
  · intro h
    exact ⟨⟨⟨h.kindOrder, h.body⟩, h.keyOrder⟩,
      fun x hx => (Decidable.em (x.kind = .body)).imp_right (h.lastValue x hx)⟩

theorem C09_spec_unique {is o₁ o₂ : List Instr} (h₁ : ListingSpec is o₁) (h₂ : ListingSpec is o₂) :
    o₁ = o₂ := by
  rw [h₁.kindOrder, h₂.kindOrder]
  congr 1
  funext k
  by_cases hb : k = .body
  · subst hb; rw [h₁.body, h₂.body]
  · -- both sub-listings have the keys `firstOcc …` and hold, under each key, the history's last value
    have last : ∀ {o}, ListingSpec is o → ∀ x ∈ ofKind k o, lookupLast (ofKind k is) x.key = some x := by
      intro o h x hx
      obtain ⟨hxo, hk⟩ := List.mem_filter.mp hx
      obtain rfl : x.kind = k := of_decide_eq_true hk
      exact h.lastValue x hxo hb
    rw [← filterMap_keys Instr.key (last h₁), ← filterMap_keys Instr.key (last h₂)]
    exact congrArg _ ((h₁.keyOrder k hb).trans (h₂.keyOrder k hb).symm)

/-- the specification is not merely necessary: it characterises `to_instructions ∘ from_instructions` -/
theorem C09_spec_characterises (is out : List Instr) :
    ListingSpec is out ↔ out = toInstructions (fromInstructions is) :=
  ⟨fun h => C09_spec_unique h (C09_listing_spec is), fun h => h ▸ C09_listing_spec is⟩

private def dA : Instr := ⟨.decl, "ro", 10, "DECLARE ro BIT[2]", []⟩
private def dB : Instr := ⟨.decl, "th", 11, "DECLARE th REAL[1]", []⟩
private def dA' : Instr := ⟨.decl, "ro", 12, "DECLARE ro BIT[4]", []⟩
private def eN : Instr := ⟨.extern, "N", 13, "PRAGMA EXTERN \"x\"", []⟩
private def g0 : Instr := ⟨.body, "", 14, "X 0", [.fixed 0]⟩
private def g1 : Instr := ⟨.body, "", 15, "H 1", [.fixed 1]⟩

/-- a history with a redefinition, an extern pragma added late and interleaved body instructions:
the redefined DECLARE keeps its first position and takes its last value; the extern goes first -/
example : toInstructions (fromInstructions [dA, g0, dB, calA, dA', g1, eN]) = [eN, dA', dB, calA, g0, g1] :=
  rfl
example : checkListing [dA, g0, dB, calA, dA', g1, eN] [eN, dA', dB, calA, g0, g1] = true := by decide +kernel
/-- the checker rejects the listing that keeps the FIRST value -/
example : checkListing [dA, g0, dB, calA, dA', g1, eN] [eN, dA, dB, calA, g0, g1] = false :=
  -- the last-value clause fails
  Bool.and_eq_false_iff.mpr (.inr (by decide +kernel))
/-- … and the one that moves the redefined key to the end -/
example : checkListing [dA, g0, dB, calA, dA', g1, eN] [eN, dB, dA', calA, g0, g1] = false :=
  -- the key-order clause fails
  Bool.and_eq_false_iff.mpr (.inl (Bool.and_eq_false_iff.mpr (.inr (by decide +kernel))))
/-- … and the one with the extern pragma last -/
example : checkListing [dA, g0, dB, calA, dA', g1, eN] [dA', dB, calA, g0, g1, eN] = false := by decide +kernel
example : WF (fromInstructions [dA, g0, dB, calA, dA', g1, eN]) := C09_wf_history _
example : Inv (fromInstructions [dA, g0, dB, calA, dA', g1, eN]) := by
  rw [← invB_iff]; decide +kernel

end QV.C09
