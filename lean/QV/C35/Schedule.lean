import QV.C35.Graph
import QV.Shared.SchedLemmas
/-!
The schedule half of C35's schedule clause: `as_schedule` does not see boundary edges.  `PredRel` relates the
end-time lists `predEnds` collects from two edge lists related by `SubB` (`predEnds_subB`), and `scheduleLoop_subB`
carries it along the visiting order.
-/
namespace QV.C35
open QV.Sched

/-- the end-time lists of two edge lists are interchangeable for `maxFrom` from any start `≥ 0` -/
def PredRel : Option (Option (List Int)) → Option (Option (List Int)) → Prop
  | none, none => True
  | some none, some none => True
  | some (some xs), some (some ys) => ∀ z : Int, 0 ≤ z → maxFrom z xs = maxFrom z ys
  | _, _ => False

theorem PredRel.refl : ∀ r, PredRel r r
  | none => trivial
  | some none => trivial
  | some (some _) => fun _ _ => rfl

theorem PredRel.cons (t : Int) {r r' : Option (Option (List Int))} (h : PredRel r r') :
    PredRel (r.map (·.map (t :: ·))) (r'.map (·.map (t :: ·))) := by
  match r, r', h with
  | none, none, _ => trivial
  | some none, some none, _ => trivial
  | some (some xs), some (some ys), h =>
    intro z hz
    simp only [maxFrom_cons]
    apply h
    split <;> omega

theorem PredRel.zero_right {r r' : Option (Option (List Int))} (h : PredRel r r') :
    PredRel r (r'.map (·.map (0 :: ·))) := by
  match r, r', h with
  | none, none, _ => trivial
  | some none, some none, _ => trivial
  | some (some xs), some (some ys), h =>
    intro z hz
    simp only [maxFrom_cons]
    have : (if (0 : Int) > z then 0 else z) = z := by split <;> omega
    rw [this]; exact h z hz

theorem predEnds_subB (x y : List Edge) (ends : List (Nat × Int)) (i : Nat)
    {a b : List Edge} (h : SubB a b) :
    PredRel (predEnds x ends (.instr i) a) (predEnds y ends (.instr i) b) := by
  induction h with
  | nil => simp only [predEnds]; exact fun _ _ => rfl
  | keep e _ ih =>
    simp only [predEnds]
    split
    · cases hs : e.src with
      | start => simp only; exact PredRel.cons 0 ih
      | instr p =>
        simp only
        cases hl : ends.lookup p with
        | none => trivial
        | some t => simp only; exact PredRel.cons t ih
      | stop => trivial
    · exact ih
  | drop e hb _ ih =>
    -- an edge out of the block start contributes end time 0, which `maxFrom` from `z ≥ 0` ignores; an edge
    -- into the block end is no predecessor of an instruction
    simp only [predEnds]
    split
    · rename_i hc
      rcases hb with hb | hb
      · rw [hb]; simp only; exact PredRel.zero_right ih
      · rw [hb] at hc; exact absurd hc.1 (by simp)
    · exact ih

/-- **The schedule does not depend on boundary edges**: for any visiting order and any durations. -/
theorem scheduleLoop_subB (L : Nat) {es' es : List Edge} (h : SubB es' es) (dur : Nat → Option Int)
    (order : List Node) :
    ∀ (ends : List (Nat × Int)) (items : List SItem) (D : Int),
      scheduleLoop L es' dur order ends items D = scheduleLoop L es dur order ends items D := by
  induction order with
  | nil => intro ends items D; simp [scheduleLoop]
  | cons v rest ih =>
    intro ends items D
    cases v with
    | start => simp only [scheduleLoop]; exact ih ends items D
    | stop => simp only [scheduleLoop]; exact ih ends items D
    | instr i =>
      simp only [scheduleLoop]
      split
      · rfl
      · cases hdur : dur i with
        | none => rfl
        | some d =>
          simp only
          have hp := predEnds_subB es' es ends i h
          match h1 : predEnds es' ends (.instr i) es', h2 : predEnds es ends (.instr i) es, hp with
          | none, none, _ => rfl
          | some none, some none, _ => rfl
          | some (some xs), some (some ys), hp =>
            simp only
            rw [hp 0 (Int.le_refl 0)]
            apply ih

end QV.C35
