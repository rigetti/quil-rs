import QV.Shared.Sched
/-!
The dependency-graph half of C35's schedule clause, over the shared scheduling model `QV.Sched` (C22–C25).
`SubB a b`: edge list `a` is `b` with some *boundary* edges (out of the block start / into the block end) deleted.
Two runs of `build` are followed side by side (`QRel`, `StRel`): removing a never-USED frame from every blocked set
changes the built dependency graph only by deleting boundary edges, same error otherwise (`buildBlock_dropBlocked`;
`dropBlockedL` for a list of frames).
-/
namespace QV.C35
open QV.Sched

def Boundary (e : Edge) : Prop := e.src = .start ∨ e.dst = .stop
inductive SubB : List Edge → List Edge → Prop
  | nil : SubB [] []
  | keep (e : Edge) {a b : List Edge} : SubB a b → SubB (e :: a) (e :: b)
  | drop (e : Edge) {a b : List Edge} : Boundary e → SubB a b → SubB a (e :: b)
theorem SubB.refl : ∀ a : List Edge, SubB a a
  | [] => .nil
  | e :: a => .keep e (SubB.refl a)
theorem SubB.append {a b c d : List Edge} (h1 : SubB a b) (h2 : SubB c d) : SubB (a ++ c) (b ++ d) := by
  induction h1 with
  | nil => simpa using h2
  | keep e _ ih => exact .keep e ih
  | drop e hb _ ih => exact .drop e hb ih
theorem SubB.nil_of_all {b : List Edge} (h : ∀ e ∈ b, Boundary e) : SubB [] b := by
  induction b with
  | nil => exact .nil
  | cons e r ih => exact .drop e (h e (by simp)) (ih (fun x hx => h x (by simp [hx])))
theorem SubB.append_boundary {a b : List Edge} (h : SubB a b) {c : List Edge} (hc : ∀ e ∈ c, Boundary e) :
    SubB a (b ++ c) := by
  have := SubB.append h (SubB.nil_of_all hc)
  simpa using this

theorem SubB.trans {a b c : List Edge} (h1 : SubB a b) (h2 : SubB b c) : SubB a c := by
  induction h2 generalizing a with
  | nil => exact h1
  | keep e _ ih =>
    cases h1 with
    | keep _ h => exact .keep e (ih h)
    | drop _ hb h => exact .drop e hb (ih h)
  | drop e hb _ ih => exact .drop e hb (ih h1)

theorem SubB.mem {a b : List Edge} (h : SubB a b) : ∀ e ∈ a, e ∈ b := by
  induction h with
  | nil => simp
  | keep e _ ih => intro x hx; simp only [List.mem_cons] at hx ⊢; exact hx.imp id (ih x)
  | drop e _ _ ih => intro x hx; exact List.mem_cons_of_mem _ (ih x hx)


/-- remove frame `f` from the blocked set an instruction reports -/
def dropBlockedI (f : Nat) (ins : Instr) : Instr :=
  { ins with frames := ins.frames.map fun fr => (fr.1, fr.2.filter (· ≠ f)) }

def dropBlocked (f : Nat) (b : Block) : Block :=
  ⟨b.instrs.map (dropBlockedI f), b.term.map (dropBlockedI f)⟩

/-- the instruction does not USE frame `f` -/
def NeverUsedI (f : Nat) (ins : Instr) : Prop := ∀ fr, ins.frames = some fr → f ∉ fr.1

/-- the frame queues of the two runs, `q'` of the run on `dropBlocked f b` (left) and `q` of the run on `b` (right):
equal away from `f`; `f` untouched on the left; on the right `f` has only ever been read (blocked), so its writer is
still the block start -/
structure QRel (f : Nat) (q' q : QMap) : Prop where
  get : ∀ g, g ≠ f → q'.get g = q.get g
  keys : q'.keys = q.keys.filter (· ≠ f)
  write : (q.get f).write = some ⟨.write, .start⟩

theorem QRel.init (f : Nat) : QRel f (QMap.empty Queue.frameInit) (QMap.empty Queue.frameInit) :=
  ⟨fun _ _ => rfl, rfl, rfl⟩

theorem QRel.record_other {f : Nat} {q' q : QMap} (h : QRel f q' q) (g : Nat) (hg : g ≠ f) (n : Node) (k : Kind) :
    (q'.record g n k).2 = (q.record g n k).2 ∧ QRel f (q'.record g n k).1 (q.record g n k).1 := by
  have e := h.get g hg
  refine ⟨by simp [QMap.record, e], ?_, ?_, ?_⟩
  · intro x hx
    simp only [QMap.record, QMap.set, e]
    split
    · rfl
    · exact h.get x hx
  · simp only [QMap.record, QMap.set, h.keys]
    have hm : g ∈ q.keys.filter (· ≠ f) ↔ g ∈ q.keys := by simp [hg]
    by_cases hk : g ∈ q.keys
    · rw [if_pos hk, if_pos (hm.2 hk)]
    · rw [if_neg hk, if_neg (fun x => hk (hm.1 x)), List.filter_append]
      simp [hg]
  · simp only [QMap.record, QMap.set]
    rw [if_neg (fun x => hg x.symm)]
    exact h.write

/-- a blocking access of `f` on the right only: the dependency is the block start, relation kept -/
theorem QRel.read_f {f : Nat} {q' q : QMap} (h : QRel f q' q) (n : Node) :
    (q.record f n .read).2 = [⟨.write, .start⟩] ∧ QRel f q' (q.record f n .read).1 := by
  refine ⟨by simp [QMap.record, Queue.record, h.write], ?_, ?_, ?_⟩
  · intro x hx
    simp only [QMap.record, QMap.set]
    rw [if_neg hx]; exact h.get x hx
  · simp only [QMap.record, QMap.set, h.keys]
    by_cases hk : f ∈ q.keys
    · rw [if_pos hk]
    · rw [if_neg hk, List.filter_append]; simp
  · simp [QMap.record, QMap.set, Queue.record, h.write]

/-- the states of the two runs: `s'` of the run on `dropBlocked f b`, `s` of the run on `b` -/
structure StRel (f : Nat) (s' s : St) : Prop where
  edges : SubB s'.edges s.edges
  trailing : s'.trailing = s.trailing
  mem : s'.mem = s.mem
  ord : QRel f s'.ord s.ord
  timed : QRel f s'.timed s.timed

/-- one iteration of `frameLoop`: the access is recorded in the timed queue (scheduled instructions only) and
in the ordering queue, with the edges each reports -/
def frameStep (sched : Bool) (n : Node) (k : Kind) (g : Nat) (st : St) : St :=
  let st1 : St := if sched then
      { st with timed := (st.timed.record g n k).1,
                edges := st.edges ++ (st.timed.record g n k).2.map fun d => ⟨d.node, n, .scheduled⟩ }
    else st
  { st1 with ord := (st1.ord.record g n k).1,
             edges := st1.edges ++ (st1.ord.record g n k).2.map fun d => ⟨d.node, n, .stable⟩ }

theorem frameLoop_cons (sched : Bool) (n : Node) (k : Kind) (g : Nat) (fs : List Nat) (st : St) :
    frameLoop sched n k (g :: fs) st = frameLoop sched n k fs (frameStep sched n k g st) := rfl

theorem step_other {f : Nat} {s' s : St} (h : StRel f s' s) (sched : Bool) (n : Node) (k : Kind) (g : Nat)
    (hg : g ≠ f) : StRel f (frameStep sched n k g s') (frameStep sched n k g s) := by
  obtain ⟨t1, t2⟩ := h.timed.record_other g hg n k
  obtain ⟨o1, o2⟩ := h.ord.record_other g hg n k
  cases sched with
  | true =>
    refine ⟨?_, h.trailing, h.mem, o2, t2⟩
    simp only [frameStep, if_true, t1, o1]
    exact SubB.append (SubB.append h.edges (SubB.refl _)) (SubB.refl _)
  | false =>
    refine ⟨?_, h.trailing, h.mem, o2, h.timed⟩
    simp only [frameStep, Bool.false_eq_true, if_false, o1]
    exact SubB.append h.edges (SubB.refl _)

/-- one blocking step on `f` on the right only: the new edges come out of the block start -/
theorem step_f {f : Nat} {s' s : St} (h : StRel f s' s) (sched : Bool) (n : Node) :
    StRel f s' (frameStep sched n .read f s) := by
  obtain ⟨t1, t2⟩ := h.timed.read_f n
  obtain ⟨o1, o2⟩ := h.ord.read_f n
  cases sched with
  | true =>
    refine ⟨?_, h.trailing, h.mem, o2, t2⟩
    simp only [frameStep, if_true, t1, o1, List.map_cons, List.map_nil]
    exact SubB.append_boundary (SubB.append_boundary h.edges (by simp [Boundary])) (by simp [Boundary])
  | false =>
    refine ⟨?_, h.trailing, h.mem, o2, h.timed⟩
    simp only [frameStep, Bool.false_eq_true, if_false, o1, List.map_cons, List.map_nil]
    exact SubB.append_boundary h.edges (by simp [Boundary])

theorem frameLoop_used {f : Nat} (sched : Bool) (n : Node) (fs : List Nat) (hf : f ∉ fs) :
    ∀ {s' s : St}, StRel f s' s → StRel f (frameLoop sched n .write fs s') (frameLoop sched n .write fs s) := by
  induction fs with
  | nil => intro s' s h; simpa [frameLoop] using h
  | cons g r ih =>
    intro s' s h
    rw [frameLoop_cons, frameLoop_cons]
    exact ih (fun x => hf (by simp [x])) (step_other h sched n .write g (fun x => hf (by simp [x])))

theorem frameLoop_blocked {f : Nat} (sched : Bool) (n : Node) (fs : List Nat) :
    ∀ {s' s : St}, StRel f s' s →
      StRel f (frameLoop sched n .read (fs.filter (· ≠ f)) s') (frameLoop sched n .read fs s) := by
  induction fs with
  | nil => intro s' s h; simpa [frameLoop] using h
  | cons g r ih =>
    intro s' s h
    by_cases hg : g = f
    · subst hg
      rw [frameLoop_cons]
      have : (g :: r).filter (· ≠ g) = r.filter (· ≠ g) := by simp
      rw [this]
      exact ih (step_f h sched n)
    · have : (g :: r).filter (· ≠ f) = g :: r.filter (· ≠ f) := by simp [hg]
      rw [this, frameLoop_cons, frameLoop_cons]
      exact ih (step_other h sched n .read g hg)

theorem memStep_rel {f : Nat} {s' s : St} (h : StRel f s' s) (n : Node) (ins : Instr) :
    StRel f (memStep n (dropBlockedI f ins) s').1 (memStep n ins s).1 ∧
      (memStep n (dropBlockedI f ins) s').2 = (memStep n ins s).2 := by
  have hm : memAccesses (dropBlockedI f ins) = memAccesses ins := rfl
  simp only [memStep, hm, h.mem, h.trailing]
  exact ⟨⟨SubB.append h.edges (SubB.refl _), rfl, rfl, h.ord, h.timed⟩, trivial⟩

def BuildRel : Except SchedErr (List Edge) → Except SchedErr (List Edge) → Prop
  | .ok es', .ok es => SubB es' es
  | .error e', .error e => e' = e
  | _, _ => False

theorem BuildRel.refl : ∀ x, BuildRel x x
  | .ok es => SubB.refl es
  | .error _ => rfl

theorem BuildRel.trans {x y z : Except SchedErr (List Edge)} (h1 : BuildRel x y) (h2 : BuildRel y z) :
    BuildRel x z := by
  cases x <;> cases y <;> cases z <;> simp only [BuildRel] at *
  · exact h1.trans h2
  · exact SubB.trans h1 h2

def OutRel (f : Nat) : Except SchedErr St → Except SchedErr St → Prop
  | .ok t', .ok t => StRel f t' t
  | .error e', .error e => e' = e
  | _, _ => False

theorem stepInstr_rel {f : Nat} {s' s : St} (h : StRel f s' s) (n : Node) (ins : Instr)
    (hu : NeverUsedI f ins) : OutRel f (stepInstr n (dropBlockedI f ins) s') (stepInstr n ins s) := by
  obtain ⟨hst, hlead⟩ := memStep_rel h n ins
  unfold stepInstr
  have e1 : (dropBlockedI f ins).memErr = ins.memErr := rfl
  have e2 : (dropBlockedI f ins).role = ins.role := rfl
  have e3 : (dropBlockedI f ins).scheduled = ins.scheduled := rfl
  rw [e1]
  by_cases hme : ins.memErr = true
  · simp only [hme, if_true]; exact rfl
  · simp only [hme, Bool.false_eq_true, if_false, e2, e3, hlead]
    cases hr : ins.role with
    | classical =>
      simp only
      refine ⟨SubB.append hst.edges (SubB.refl _), ?_, hst.mem, hst.ord, hst.timed⟩
      simp only [hst.trailing]
    | rf =>
      simp only
      cases hf : ins.frames with
      | none =>
        have : (dropBlockedI f ins).frames = none := by simp [dropBlockedI, hf]
        simp only [this]; exact hst
      | some fr =>
        have : (dropBlockedI f ins).frames = some (fr.1, fr.2.filter (· ≠ f)) := by simp [dropBlockedI, hf]
        simp only [this]
        exact frameLoop_blocked _ n fr.2 (frameLoop_used _ n fr.1 (hu fr hf) hst)
    | controlFlow =>
      simp only
      split
      · exact hst
      · exact rfl
    | composition => exact rfl

theorem runItems_rel {f : Nat} (items : List (Node × Instr)) (hu : ∀ p ∈ items, NeverUsedI f p.2) :
    ∀ {s' s : St}, StRel f s' s →
      OutRel f (runItems (items.map fun p => (p.1, dropBlockedI f p.2)) s') (runItems items s) := by
  induction items with
  | nil => intro s' s h; exact h
  | cons p rest ih =>
    intro s' s h
    obtain ⟨n, ins⟩ := p
    have hs := stepInstr_rel h n ins (hu (n, ins) (by simp))
    simp only [List.map_cons, runItems]
    match h1 : stepInstr n (dropBlockedI f ins) s', h2 : stepInstr n ins s, hs with
    | .ok t', .ok t, hs => exact ih (fun q hq => hu q (by simp [hq])) hs
    | .error e', .error e, hs => exact hs

theorem enumFrom_map (f : Nat) : ∀ (is : List Instr) (k : Nat),
    enumFrom k (is.map (dropBlockedI f)) = (enumFrom k is).map fun p => (p.1, dropBlockedI f p.2)
  | [], _ => rfl
  | i :: is, k => by simp [enumFrom, enumFrom_map f is (k + 1)]

theorem items_dropBlocked (f : Nat) (b : Block) :
    (dropBlocked f b).items = b.items.map fun p => (p.1, dropBlockedI f p.2) := by
  simp only [Block.items, dropBlocked, enumFrom_map, List.map_append]
  cases b.term <;> simp

theorem boundary_of_stop (ds : List Dep) (l : Label) :
    ∀ e ∈ ds.map (fun d => (⟨d.node, .stop, l⟩ : Edge)), Boundary e := by
  intro e he
  obtain ⟨d, _, rfl⟩ := List.mem_map.mp he
  exact Or.inr rfl

theorem pending_boundary (q : QMap) (l : Label) : ∀ e ∈ q.pendingAll.map (fun d => (⟨d.node, .stop, l⟩ : Edge)),
    Boundary e :=
  boundary_of_stop _ l

theorem pendingAll_subB {f : Nat} {q' q : QMap} (h : QRel f q' q) (l : Label) :
    SubB (q'.pendingAll.map (fun d => (⟨d.node, .stop, l⟩ : Edge)))
      (q.pendingAll.map (fun d => (⟨d.node, .stop, l⟩ : Edge))) := by
  simp only [QMap.pendingAll, h.keys]
  generalize q.keys = ks
  induction ks with
  | nil => exact .nil
  | cons g r ih =>
    by_cases hg : g = f
    · -- the pending accesses of `f` exist on the right only; their edges go into the block end
      subst hg
      simp only [List.filter_cons, ne_eq, not_true_eq_false, decide_false, Bool.false_eq_true, if_false,
        List.flatMap_cons, List.map_append]
      simpa using SubB.append (SubB.nil_of_all (boundary_of_stop (q.get g).pending l)) ih
    · simp only [List.filter_cons, ne_eq, hg, not_false_eq_true, decide_true, if_true, List.flatMap_cons,
        List.map_append, h.get g hg]
      exact SubB.append (SubB.refl _) ih

theorem finish_rel {f : Nat} (b : Block) {s' s : St} (h : StRel f s' s) :
    SubB (finish (dropBlocked f b) s') (finish b s) := by
  simp only [finish, h.trailing]
  have he : (dropBlocked f b).instrs.isEmpty = b.instrs.isEmpty := by simp [dropBlocked]
  rw [he]
  exact SubB.append (SubB.append (SubB.append (SubB.append h.edges (SubB.refl _))
    (pendingAll_subB h.timed _)) (pendingAll_subB h.ord _)) (SubB.refl _)

theorem StRel.init (f : Nat) : StRel f St.init St.init :=
  ⟨SubB.refl _, rfl, rfl, QRel.init f, QRel.init f⟩

/-- **Dependency graphs.** If no instruction of the block USES frame `f`, removing `f` from every blocked
set gives the same build error, or a graph that differs only by deleted edges out of the block start /
into the block end (in the same order otherwise). -/
theorem buildBlock_dropBlocked (f : Nat) (b : Block) (hu : ∀ p ∈ b.items, NeverUsedI f p.2) :
    BuildRel (buildBlock (dropBlocked f b)) (buildBlock b) := by
  have hr := runItems_rel (f := f) b.items hu (StRel.init f)
  simp only [buildBlock, items_dropBlocked]
  revert hr
  generalize runItems (b.items.map fun p => (p.1, dropBlockedI f p.2)) St.init = r'
  generalize runItems b.items St.init = r
  intro hr
  match r', r, hr with
  | .ok _, .ok _, hr => exact finish_rel b hr
  | .error _, .error _, hr => exact hr


def dropBlockedL (D : List Nat) (b : Block) : Block := D.foldr dropBlocked b

theorem neverUsed_dropBlocked (f g : Nat) (b : Block) (h : ∀ p ∈ b.items, NeverUsedI g p.2) :
    ∀ p ∈ (dropBlocked f b).items, NeverUsedI g p.2 := by
  rw [items_dropBlocked]
  intro p hp
  simp only [List.mem_map] at hp
  obtain ⟨q, hq, rfl⟩ := hp
  intro fr hfr
  simp only [dropBlockedI, Option.map_eq_some_iff] at hfr
  obtain ⟨fr0, h0, rfl⟩ := hfr
  exact h q hq fr0 h0

theorem neverUsed_dropBlockedL (D : List Nat) (g : Nat) (b : Block) (h : ∀ p ∈ b.items, NeverUsedI g p.2) :
    ∀ p ∈ (dropBlockedL D b).items, NeverUsedI g p.2 := by
  induction D with
  | nil => exact h
  | cons f r ih => exact neverUsed_dropBlocked f g _ ih

end QV.C35
