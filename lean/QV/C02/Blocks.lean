import QV.C02.Reads
import QV.C02.Fields
/-!
Definitions with a body: DEFCAL, DEFCAL MEASURE, DEFCIRCUIT.  The parser `pi` of the body's instructions is a parameter
(`parseInstruction` here; `parseInstructionAt (d + 1)` in `QV.C02.AtBudget`), and "`parse_block` reads the printed body
back" is a hypothesis of the three header lemmas (`BlockReads`).  The text of DEFCAL MEASURE and DEFCIRCUIT ends in a
newline: their round trip is stated for `lineToks`.
-/
namespace QV.C02
open QV QV.Tok QV.Ast QV.Parse QV.Print QV.ExprPrint QV.ExprRoundTrip

theorem parseBlockInstruction_stop (pi : Parser Instruction) (rest : List Token) (hr : restOk rest = true) :
    parseBlockInstruction pi (.newLine :: rest) = .err := by
  cases rest with
  | nil => simp [parseBlockInstruction, preceded, Parser.bind, tok]
  | cons t r =>
    have : t ≠ .indentation := by intro h; subst h; simp [restOk, startTok] at hr
    simp [parseBlockInstruction, preceded, Parser.bind, tok, this]

theorem opt_measure_modifiers (ms : List GateModifier) (name : String) (r : List Token) :
    opt (tok (.command .measure)) (ms.map modifierTok ++ identTok name :: r) =
      .ok none (ms.map modifierTok ++ identTok name :: r) := by
  cases ms with
  | nil => simp [opt, tok, identTok]
  | cons m ms => cases m <;> simp [opt, tok, modifierTok]

/-- the last instruction `t` only has to be read before the end of the block (`ht`): it may be a definition, whose own
block a following body line would continue -/
theorem parseBlock_items (F : NumFmt) (pi : Parser Instruction) (ls : List Instruction) (t : Instruction)
    (g : Instruction → Instruction)
    (hls : ∀ i ∈ ls, ReadsBy pi anyRest (toks F i) (g i)) (ht : ReadsBy pi topRest (toks F t) (g t))
    (rest : List Token) (hrest : restOk rest = true) :
    parseBlock pi ((ls ++ [t]).flatMap (calItemToks F) ++ .newLine :: rest) =
      .ok ((ls ++ [t]).map g) (.newLine :: rest) := by
  have item : ∀ y gy r, pi (toks F y ++ .newLine :: r) = .ok gy (.newLine :: r) →
      parseBlockInstruction pi (calItemToks F y ++ .newLine :: r) = .ok gy (.newLine :: r) := fun y gy r h => by
    simp only [parseBlockInstruction, preceded, bind_eq, Parser.bind, calItemToks, List.cons_append, tok, if_true, h]
  exact many1_items_last (parseBlockInstruction pi) (calItemToks F) g startsNL ls t (.newLine :: rest)
    (fun y hy r hr => by
      obtain ⟨r', rfl⟩ := eq_newLine_of_startsNL hr
      exact item y _ r' (hls y hy r' trivial).1)
    (fun y _ => by simp [calItemToks]) (by simp [calItemToks])
    (fun y r => by simp [calItemToks, startsNL]) (item t _ rest (ht rest hrest).1)
    (parseBlockInstruction_stop _ rest hrest)

def BlockReads (F : NumFmt) (pi : Parser Instruction) (body : List Instruction) (g : Instruction → Instruction) :
    Prop :=
  ∀ rest, restOk rest = true →
    parseBlock pi (body.flatMap (calItemToks F) ++ .newLine :: rest) = .ok (body.map g) (.newLine :: rest)

theorem blockReads_of_items (F : NumFmt) (pi : Parser Instruction) (body : List Instruction)
    (g : Instruction → Instruction) (hne : body ≠ [])
    (h : ∀ i ∈ body, ReadsBy pi anyRest (toks F i) (g i)) : BlockReads F pi body g := fun rest hrest => by
  rw [eq_dropLast_snoc body _ (List.getLast?_eq_some_getLast hne)]
  exact parseBlock_items F pi _ _ g (fun i hi => h i ((List.dropLast_sublist _).subset hi))
    (h _ (List.getLast_mem hne)).top rest hrest

theorem parseDefcal_toks (F : NumFmt) (pi : Parser Instruction) (id : CalibrationIdentifier)
    (body : List Instruction) (g : Instruction → Instruction)
    (hfin : id.parameters.all finiteLits = true) (hq : id.qubits.all noPlaceholder = true)
    (hn : id.parameters.all (numTokOk F) = true) (hbody : BlockReads F pi body g)
    (rest : List Token) (hrest : restOk rest = true) :
    parseDefcal parseExpression pi (calHeader F id ++ body.flatMap (calItemToks F) ++ .newLine :: rest) =
      .ok (.calibrationDefinition { id with parameters := id.parameters.map norm } (body.map g))
        (.newLine :: rest) := by
  obtain ⟨ms, name, ps, qs⟩ := id
  have hm := hbody rest hrest
  simp only [calHeader, parseDefcal, bind_eq, Parser.bind, List.append_assoc, List.cons_append,
    opt_measure_modifiers, parseDefcalGate, many0_modifiers]
  simp only [identTok, tokIdentifier, str_toList_eq]
  rw [parseParameters_toks F norm _ ps _ (parseExpression_all F hfin hn) (lparen_qubits qs .colon _ (by simp))]
  simp only [many0_parseQubit qs hq _ (show notQubit (.colon :: _) = true from rfl), tok, if_true, List.nil_append]
  erw [hm]
  simp only [pure_eq, Parser.pure]

theorem reads_cal (F : NumFmt) (id : CalibrationIdentifier) (body : List Instruction)
    (g : Instruction → Instruction) (hfin : id.parameters.all finiteLits = true)
    (hq : id.qubits.all noPlaceholder = true) (hn : id.parameters.all (numTokOk F) = true)
    (hbody : BlockReads F parseInstruction body g) :
    Reads topRest (toks F (.calibrationDefinition id body))
      (.calibrationDefinition { id with parameters := id.parameters.map norm } (body.map g)) :=
  reads_of_parser _ (toks_calibrationDefinition F id body) rfl
    (parseDefcal_toks F _ id body g hfin hq hn hbody)

/-- stated for `parse_command` at `DEFCAL`, not for `parse_defcal_measure`: the `MEASURE` token that selects it is part
of the header (`mcalHeader`) -/
theorem parseDefcalMeasure_toks (F : NumFmt) (pe : Parser PExpr) (pi : Parser Instruction)
    (id : MeasureCalibrationIdentifier) (body : List Instruction) (g : Instruction → Instruction)
    (hq : noPlaceholder id.qubit = true) (hbody : BlockReads F pi body g)
    (rest : List Token) (hrest : restOk rest = true) :
    parseCommand pe pi .defCal (mcalHeader id ++ body.flatMap (calItemToks F) ++ .newLine :: rest) =
      .ok (.measureCalibrationDefinition id (body.map g)) (.newLine :: rest) := by
  obtain ⟨name, q, target⟩ := id
  have hblock := hbody rest hrest
  dsimp only [parseCommand]
  simp only [mcalHeader, parseDefcal, bind_eq, Parser.bind, List.append_assoc, List.cons_append, List.nil_append,
    cmd, opt, tok, if_true, parseDefcalMeasure]
  rw [← List.append_assoc (measureNameToks name)]
  rw [parseMeasureName_toks]
  simp only [parseQubit_toks q hq]
  cases target with
  | none =>
    simp only [measureTargetToks, List.nil_append, tokIdentifier, if_true]
    erw [hblock]
    simp [Parser.pure]
  | some t =>
    simp only [measureTargetToks, List.cons_append, List.nil_append, identTok, tokIdentifier, if_true]
    erw [hblock]
    simp [Parser.pure]

theorem reads_measureCal (F : NumFmt) (id : MeasureCalibrationIdentifier) (body : List Instruction)
    (g : Instruction → Instruction) (hq : noPlaceholder id.qubit = true) (hne : body ≠ [])
    (hbody : BlockReads F parseInstruction body g) :
    Reads topRest (lineToks F (.measureCalibrationDefinition id body))
      (.measureCalibrationDefinition id (body.map g)) :=
  reads_of_parser _ (lineToks_measureCal F id body hne) rfl (parseDefcalMeasure_toks F _ _ id body g hq hbody)

theorem parseDefcircuit_toks (F : NumFmt) (pe : Parser PExpr) (pi : Parser Instruction) (name : String)
    (ps qvs : List String) (body : List Instruction) (g : Instruction → Instruction)
    (hqv : qvs.all (fun s => !isReservedWord s.toList) = true) (hbody : BlockReads F pi body g)
    (rest : List Token) (hrest : restOk rest = true) :
    parseCommand pe pi .defCircuit (circuitHeader name ps qvs ++ body.flatMap (calItemToks F) ++ .newLine :: rest) =
      .ok (.circuitDefinition name ps qvs (body.map g)) (.newLine :: rest) := by
  have hblock := hbody rest hrest
  dsimp only [parseCommand]
  simp only [circuitHeader, parseDefcircuit, bind_eq, Parser.bind, List.append_assoc, List.cons_append,
    List.nil_append, identTok, tokIdentifier, str_toList_eq]
  rw [parseVariableList_toks ps _ (lparen_names qvs _)]
  simp only [many0_variableQubits qvs hqv, tok, if_true]
  erw [hblock]
  cases ps <;> simp [Parser.pure]

theorem reads_circuit (F : NumFmt) (name : String) (ps qvs : List String) (body : List Instruction)
    (g : Instruction → Instruction) (hqv : qvs.all (fun s => !isReservedWord s.toList) = true) (hne : body ≠ [])
    (hbody : BlockReads F parseInstruction body g) :
    Reads topRest (lineToks F (.circuitDefinition name ps qvs body)) (.circuitDefinition name ps qvs (body.map g)) :=
  reads_of_parser _ (lineToks_circuit F name ps qvs body hne) rfl
    (parseDefcircuit_toks F _ _ name ps qvs body g hqv hbody)

end QV.C02
