import QV.C02.Wave
/-!
DEFWAVEFORM and DEFFRAME: definitions whose text spans several lines and does not end in a newline.
`many1(parse_frame_attribute)` would take a following indented line for another attribute, so DEFFRAME only has the
top-level form `Reads topRest`; DEFWAVEFORM is read back whatever follows.
-/
namespace QV.C02
open QV QV.Tok QV.Ast QV.Parse QV.Print QV.ExprPrint QV.ExprRoundTrip

theorem reads_waveformDefinition_norm (F : NumFmt) (w : WaveformDefinition)
    (hname : wfNameOk w.name = true) (hne : w.definition.matrix ≠ [])
    (hf : ∀ e ∈ w.definition.matrix, finiteLits e = true) (hn : ∀ e ∈ w.definition.matrix, numTokOk F e = true) :
    Reads anyRest (toks F (.waveformDefinition w))
      (.waveformDefinition ⟨w.name, ⟨w.definition.matrix.map norm, w.definition.parameters⟩⟩) := by
  obtain ⟨name, ⟨matrix, params⟩⟩ := w
  simp only at hname hne hf hn
  cases hm : matrix with
  | nil => exact absurd hm hne
  | cons e es =>
    subst hm
    refine reads_of_parser (payload := slashNameToks name ++ (varParamsToks params ++
      (.colon :: .newLine :: .indentation :: sepBy [.comma] ((e :: es).map (printTop F))))) _
      (by dsimp only [toks]; rw [List.append_assoc]) rfl ?_
    · intro rest _
      have hlist := (commaList_items parseExpression (printTop F) norm endOk e es (.newLine :: rest)
        (fun y hy r hr => parseExpression_printTop F y (hf y hy) (hn y hy) r hr) (fun _ => rfl) rfl rfl).1
      have hname' := parseWaveformName_toks name hname
        (varParamsToks params ++ (.colon :: .newLine :: .indentation ::
          (sepBy [.comma] ((e :: es).map (printTop F)) ++ .newLine :: rest)))
        (by cases params <;> simp [varParamsToks, headNe])
      have hvars := parseVariableList_toks params
        (.colon :: .newLine :: .indentation :: (sepBy [.comma] ((e :: es).map (printTop F)) ++ .newLine :: rest))
        rfl
      dsimp only [parseCommand]
      simp only [parseDefwaveform, bind_eq, Parser.bind, List.append_assoc, List.cons_append]
        at hname' hvars ⊢
      rw [hname']
      simp only
      rw [hvars]
      simp only [tok, if_true]
      erw [hlist]
      cases params <;> simp [Parser.pure]

theorem reads_waveformDefinition (F : NumFmt) (w : WaveformDefinition)
    (hp : parsedInstr (.waveformDefinition w) = true) (hn : numTokInstr F (.waveformDefinition w) = true) :
    Reads anyRest (toks F (.waveformDefinition w)) (.waveformDefinition w) := by
  dsimp only [parsedInstr] at hp
  simp only [Bool.and_eq_true, Bool.not_eq_true', List.isEmpty_eq_false_iff] at hp
  dsimp only [numTokInstr] at hn
  have := reads_waveformDefinition_norm F w hp.1.1 hp.1.2
    (fun e he => finiteLits_parsedExpr e (List.all_eq_true.mp hp.2 e he))
    (fun e he => List.all_eq_true.mp hn e he)
  rwa [map_norm_parsed _ hp.2] at this

def normAttr (kv : Attr) : Attr :=
  (kv.1, match kv.2 with | .string s => .string s | .expression e => .expression (norm e))

def attrFinite : AttributeValue → Bool
  | .string _ => true
  | .expression e => finiteLits e

theorem parseFrameAttribute_toks (F : NumFmt) (kv : Attr) (hf : attrFinite kv.2 = true)
    (hn : attrNumTok F kv.2 = true) (r : List Token) (hr : startsNL r = true) :
    parseFrameAttribute parseExpression (attrToks F kv ++ r) = .ok (normAttr kv) r := by
  obtain ⟨k, v⟩ := kv
  cases v with
  | string s =>
    simp [attrToks, attributeToks, parseFrameAttribute, Parser.bind, Parser.pure, tok, tokIdentifier, identTok, alt,
      pmap, tokString, strTok, Outcome.map, normAttr]
  | expression e =>
    have hx := parseExpression_printTop F e hf hn r (endOk_of_startsNL hr)
    have hns := tokString_of_notString (printTop_notString F e hn r)
    simp only [attrToks, attributeToks, List.cons_append, parseFrameAttribute, bind_eq, Parser.bind, tok, if_true,
      identTok, tokIdentifier, alt, pmap, hns, Outcome.map, hx, pure_eq, Parser.pure, str_toList_eq, normAttr]

theorem parseFrameAttribute_stop (pe : Parser PExpr) (rest : List Token) (hr : restOk rest = true) :
    parseFrameAttribute pe (.newLine :: rest) = .err := by
  cases rest with
  | nil => simp [parseFrameAttribute, Parser.bind, tok]
  | cons t r =>
    have : t ≠ .indentation := by intro h; subst h; simp [restOk, startTok] at hr
    simp [parseFrameAttribute, Parser.bind, tok, this]

theorem reads_frameDefinition_norm (F : NumFmt) (f : FrameDefinition) (hfr : frameOk f.identifier = true)
    (hne : f.attributes ≠ []) (hkeys : (f.attributes.map (·.1)).Nodup)
    (hfin : ∀ kv ∈ f.attributes, attrFinite kv.2 = true) (hn : ∀ kv ∈ f.attributes, attrNumTok F kv.2 = true) :
    Reads topRest (toks F (.frameDefinition f)) (.frameDefinition ⟨f.identifier, f.attributes.map normAttr⟩) := by
  obtain ⟨id, attrs⟩ := f
  simp only at hfr hne hkeys hfin hn
  cases ha : attrs with
  | nil => exact absurd ha hne
  | cons a as =>
    subst ha
    refine reads_of_parser (payload := frameToks id ++ .colon :: (a :: as).flatMap (attrToks F)) _ rfl rfl ?_
    · intro rest hrest
      have hm := many1_items_ok (parseFrameAttribute parseExpression) (attrToks F) normAttr startsNL
        a as (.newLine :: rest)
        (fun kv hkv r hr => parseFrameAttribute_toks F kv (hfin kv hkv) (hn kv hkv) r hr)
        (fun kv _ => by simp [attrToks]) (fun kv _ r => by simp [attrToks, startsNL]) rfl
        (parseFrameAttribute_stop _ rest hrest)
      have hnodup : (((a :: as).map normAttr).map (·.1)).Nodup := by
        simpa [normAttr, List.map_map, Function.comp_def] using hkeys
      dsimp only [parseCommand]
      simp only [parseDefframe, bind_eq, Parser.bind, List.append_assoc, List.cons_append,
        parseFrameIdentifier_toks id hfr, tok, if_true, List.flatMap_cons]
      erw [hm]
      simp only [pure_eq, Parser.pure, indexMapCollect_nodup _ hnodup]

theorem attr_parsed (kv : Attr) (h : attributeOk kv.2 = true) : attrFinite kv.2 = true ∧ normAttr kv = kv := by
  obtain ⟨k, v⟩ := kv
  cases v with
  | string s => exact ⟨rfl, rfl⟩
  | expression e => exact ⟨finiteLits_parsedExpr e h, by simp [normAttr, norm_parsedExpr e h]⟩

theorem reads_frameDefinition (F : NumFmt) (f : FrameDefinition)
    (hp : parsedInstr (.frameDefinition f) = true) (hn : numTokInstr F (.frameDefinition f) = true) :
    Reads topRest (toks F (.frameDefinition f)) (.frameDefinition f) := by
  dsimp only [parsedInstr] at hp
  simp only [Bool.and_eq_true, Bool.not_eq_true', List.isEmpty_eq_false_iff, distinctKeys,
    decide_eq_true_eq] at hp
  dsimp only [numTokInstr] at hn
  have hattr : ∀ kv ∈ f.attributes, attrFinite kv.2 = true ∧ normAttr kv = kv := fun kv hkv =>
    attr_parsed kv (List.all_eq_true.mp hp.2 kv hkv)
  have := reads_frameDefinition_norm F f hp.1.1.1 hp.1.1.2 hp.1.2 (fun kv hkv => (hattr kv hkv).1)
    (attrNumTok_of_numTokInstr F f hn)
  rwa [(List.map_congr_left fun kv hkv => (hattr kv hkv).2).trans (List.map_id _)] at this

end QV.C02
