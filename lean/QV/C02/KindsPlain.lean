import QV.C02.Reads
import QV.C02.Fields
/-!
The per-kind lemmas `reads_<kind>` for the kinds that contain no expression and no nested block: the printed tokens
are read back by the parser `parse_command` selects, whatever follows the newline.
-/
namespace QV.C02
open QV QV.Tok QV.Ast QV.Parse QV.Print QV.ExprPrint

theorem parseCommand_arithCmd (pe : Parser PExpr) (pi : Parser Instruction) (op : ArithmeticOperator) :
    parseCommand pe pi (arithCmd op) = parseArithmetic op := by cases op <;> rfl

theorem parseCommand_binCmd (pe : Parser PExpr) (pi : Parser Instruction) (op : BinaryOperator) :
    parseCommand pe pi (binCmd op) = parseLogicalBinary op := by cases op <;> rfl

theorem parseCommand_compCmd (pe : Parser PExpr) (pi : Parser Instruction) (op : ComparisonOperator) :
    parseCommand pe pi (compCmd op) = parseComparison op := by cases op <;> rfl

theorem parseCommand_unaryCmd (pe : Parser PExpr) (pi : Parser Instruction) (op : UnaryOperator) :
    parseCommand pe pi (unaryCmd op) = parseLogicalUnary op := by cases op <;> rfl

theorem reads_arithmetic (F : NumFmt) (a : Arithmetic) (h : parsedInstr (.arithmetic a) = true) :
    Reads anyRest (toks F (.arithmetic a)) (.arithmetic a) :=
  reads_of_parser (parseArithmetic a.operator) rfl (parseCommand_arithCmd _ _ _) fun rest _ => by
    dsimp only [parsedInstr] at h
    simp [parseArithmetic, Parser.bind, Parser.pure, h]

theorem reads_binaryLogic (F : NumFmt) (a : BinaryLogic) (h : parsedInstr (.binaryLogic a) = true) :
    Reads anyRest (toks F (.binaryLogic a)) (.binaryLogic a) :=
  reads_of_parser (parseLogicalBinary a.operator) rfl (parseCommand_binCmd _ _ _) fun rest _ => by
    dsimp only [parsedInstr] at h
    simp [parseLogicalBinary, Parser.bind, Parser.pure, h]

theorem reads_comparison (F : NumFmt) (a : Comparison) (h : parsedInstr (.comparison a) = true) :
    Reads anyRest (toks F (.comparison a)) (.comparison a) :=
  reads_of_parser (parseComparison a.operator) rfl (parseCommand_compCmd _ _ _) fun rest _ => by
    dsimp only [parsedInstr] at h
    simp [parseComparison, Parser.bind, Parser.pure, h]

theorem reads_unaryLogic (F : NumFmt) (a : UnaryLogic) : Reads anyRest (toks F (.unaryLogic a)) (.unaryLogic a) :=
  reads_of_parser (parseLogicalUnary a.operator) rfl (parseCommand_unaryCmd _ _ _) fun rest _ => by
    simp [parseLogicalUnary, Parser.bind, Parser.pure]

theorem reads_convert (F : NumFmt) (a : Convert) : Reads anyRest (toks F (.convert a)) (.convert a) :=
  reads_of_parser parseConvert rfl rfl fun rest _ => by simp [parseConvert, Parser.bind, Parser.pure]

theorem reads_exchange (F : NumFmt) (a : Exchange) : Reads anyRest (toks F (.exchange a)) (.exchange a) :=
  reads_of_parser parseExchange rfl rfl fun rest _ => by simp [parseExchange, Parser.bind, Parser.pure]

theorem reads_move (F : NumFmt) (a : Move) (h : parsedInstr (.move a) = true) :
    Reads anyRest (toks F (.move a)) (.move a) :=
  reads_of_parser parseMove rfl rfl fun rest _ => by
    dsimp only [parsedInstr] at h
    simp [parseMove, Parser.bind, Parser.pure, h]

theorem reads_load (F : NumFmt) (a : Load) : Reads anyRest (toks F (.load a)) (.load a) :=
  reads_of_parser parseLoad rfl rfl fun rest _ => by
    simp [parseLoad, Parser.bind, Parser.pure, tokIdentifier, identTok]

theorem reads_store (F : NumFmt) (a : Store) (h : parsedInstr (.store a) = true) :
    Reads anyRest (toks F (.store a)) (.store a) :=
  reads_of_parser parseStore rfl rfl fun rest _ => by
    dsimp only [parsedInstr] at h
    simp [parseStore, Parser.bind, Parser.pure, tokIdentifier, identTok, h]

theorem reads_halt (F : NumFmt) : Reads anyRest (toks F .halt) .halt :=
  reads_of_parser (pure .halt) rfl rfl fun _ _ => rfl

theorem reads_nop (F : NumFmt) : Reads anyRest (toks F .nop) .nop :=
  reads_of_parser (pure .nop) rfl rfl fun _ _ => rfl

theorem reads_wait (F : NumFmt) : Reads anyRest (toks F .wait) .wait :=
  reads_of_parser (pure .wait) rfl rfl fun _ _ => rfl

theorem reads_jump (F : NumFmt) (j : Jump) (h : parsedInstr (.jump j) = true) :
    Reads anyRest (toks F (.jump j)) (.jump j) := by
  obtain ⟨t⟩ := j
  obtain ⟨s, rfl⟩ := eq_fixed_of_fixedTarget h
  exact reads_of_parser parseJump rfl rfl fun rest _ => by simp [parseJump, Parser.bind, Parser.pure, tokTarget, targetToks]

theorem reads_label (F : NumFmt) (j : Label) (h : parsedInstr (.label j) = true) :
    Reads anyRest (toks F (.label j)) (.label j) := by
  obtain ⟨t⟩ := j
  obtain ⟨s, rfl⟩ := eq_fixed_of_fixedTarget h
  exact reads_of_parser parseLabel rfl rfl fun rest _ => by simp [parseLabel, Parser.bind, Parser.pure, tokTarget, targetToks]

theorem reads_jumpWhen (F : NumFmt) (j : JumpWhen) (h : parsedInstr (.jumpWhen j) = true) :
    Reads anyRest (toks F (.jumpWhen j)) (.jumpWhen j) := by
  obtain ⟨t, c⟩ := j
  obtain ⟨s, rfl⟩ := eq_fixed_of_fixedTarget h
  exact reads_of_parser parseJumpWhen rfl rfl fun rest _ => by
    simp [parseJumpWhen, Parser.bind, Parser.pure, tokTarget, targetToks]

theorem reads_jumpUnless (F : NumFmt) (j : JumpUnless) (h : parsedInstr (.jumpUnless j) = true) :
    Reads anyRest (toks F (.jumpUnless j)) (.jumpUnless j) := by
  obtain ⟨t, c⟩ := j
  obtain ⟨s, rfl⟩ := eq_fixed_of_fixedTarget h
  exact reads_of_parser parseJumpUnless rfl rfl fun rest _ => by
    simp [parseJumpUnless, Parser.bind, Parser.pure, tokTarget, targetToks]

theorem reads_include (F : NumFmt) (a : Include) : Reads anyRest (toks F (.include a)) (.include a) :=
  reads_of_parser parseInclude rfl rfl fun rest _ => by
    simp [parseInclude, Parser.bind, Parser.pure, tokString, strTok]

theorem reads_fence (F : NumFmt) (a : Fence) (h : parsedInstr (.fence a) = true) :
    Reads anyRest (toks F (.fence a)) (.fence a) :=
  reads_of_parser parseFence rfl rfl fun rest _ => by
    dsimp only [parsedInstr] at h
    simp [parseFence, Parser.bind, Parser.pure, many0_parseQubit a.qubits h _ (show notQubit (.newLine :: rest) = true from rfl)]

theorem reads_reset (F : NumFmt) (a : Reset) (h : parsedInstr (.reset a) = true) :
    Reads anyRest (toks F (.reset a)) (.reset a) := by
  obtain ⟨q⟩ := a
  cases q with
  | none =>
    exact reads_of_parser parseReset rfl rfl fun rest _ => by simp [parseReset, Parser.bind, Parser.pure, opt, parseQubit]
  | some q =>
    exact reads_of_parser parseReset rfl rfl fun rest _ => by
      dsimp only [parsedInstr] at h
      simp [parseReset, Parser.bind, Parser.pure, opt, parseQubit_toks q h]

theorem reads_measurement (F : NumFmt) (a : Measurement) (h : parsedInstr (.measurement a) = true) :
    Reads anyRest (toks F (.measurement a)) (.measurement a) := by
  obtain ⟨n, q, t⟩ := a
  dsimp only [parsedInstr] at h
  have hn : ∀ T, parseMeasureName (measureNameToks n ++ (qubitToks q ++ T)) = .ok n (qubitToks q ++ T) :=
    fun T => by rw [← List.append_assoc, parseMeasureName_toks]
  cases t with
  | none =>
    exact reads_of_parser parseMeasurement (congrArg _ (List.append_nil _)) rfl fun rest _ => by
      simp [parseMeasurement, Bind.bind, Parser.bind, hn, parseQubit_toks q h, parseMemoryReference, tokIdentifier, Parser.pure]
  | some t =>
    exact reads_of_parser parseMeasurement rfl rfl fun rest _ => by
      simp [parseMeasurement, Bind.bind, Parser.bind, hn, parseQubit_toks q h, Parser.pure]

theorem matchDataTypeToken_scalar (t : ScalarType) :
    (match scalarTok t with | .dataType x => matchDataTypeToken x | _ => .bit) = t := by
  cases t <;> rfl

theorem tokDataType_scalar (t : ScalarType) (r : List Token) :
    tokDataType (scalarTok t :: r) = .ok (match t with | .bit => .bit | .integer => .integer | .octet => .octet | .real => .real) r := by
  cases t <;> rfl

def offsetToks (o : Offset) : List Token := [Token.integer o.offset, scalarTok o.dataType]

/-- the item parser that `parseSharing` has inline under `many1` (`e` in `parseSharing_toks`), named for `many1_items` -/
def offsetParser : Parser Offset :=
  pmap (fun (o, t) => (⟨o, matchDataTypeToken t⟩ : Offset)) (pair tokInteger tokDataType)

theorem offsetParser_toks (o : Offset) (r : List Token) : offsetParser (offsetToks o ++ r) = .ok o r := by
  obtain ⟨n, t⟩ := o
  cases t <;> simp [offsetParser, offsetToks, pmap, pair, Parser.bind, Parser.pure, tokInteger, tokDataType,
    scalarTok, Outcome.map, matchDataTypeToken]

theorem parseVector_toks (v : Vector) (r : List Token) : parseVector (vectorToks v ++ r) = .ok v r := by
  obtain ⟨ty, len⟩ := v
  cases ty <;> rfl

/-- the SHARING clause as `Declaration`'s printer writes it (instruction/declaration.rs), followed by the end of the
line -/
theorem parseSharing_toks (sh : Option Sharing) (rest : List Token) :
    parseSharing ((match sh with
        | none => []
        | some s => .sharing :: identTok s.name ::
          (if s.offsets.isEmpty then [] else .offset :: s.offsets.flatMap offsetToks)) ++ .newLine :: rest) =
      .ok sh (.newLine :: rest) := by
  cases sh with
  | none => rfl
  | some s =>
    obtain ⟨sname, offs⟩ := s
    cases offs with
    | nil =>
      simp [parseSharing, Parser.bind, Parser.pure, tokIdentifier, identTok, opt, tok, preceded, pair]
    | cons o os =>
      have hm := many1_items offsetParser offsetToks o os (.newLine :: rest)
        (fun y _ r => offsetParser_toks y r) (fun y _ => by simp [offsetToks]) rfl
      have e : parseSharing = (do
          let sharing ← opt (preceded (tok .sharing)
            (pair tokIdentifier (opt (preceded (tok .offset) (many1 offsetParser)))))
          pure (sharing.map fun (name, offsets) => ⟨str name, offsets.getD []⟩)) := rfl
      simp [e, Parser.bind, Parser.pure, tokIdentifier, identTok, opt, tok, preceded, pair, hm]

theorem reads_declaration (F : NumFmt) (a : Declaration) : Reads anyRest (toks F (.declaration a)) (.declaration a) := by
  obtain ⟨name, size, sharing⟩ := a
  refine reads_of_parser (parseCommand parseExpression parseInstruction .declare) (payload := identTok name :: (vectorToks size ++
    match sharing with
    | none => []
    | some s => .sharing :: identTok s.name ::
      (if s.offsets.isEmpty then [] else .offset :: s.offsets.flatMap offsetToks))) ?_ rfl ?_
  · rfl
  · intro rest _
    have hn : ∀ r, tokIdentifier (identTok name :: r) = .ok name.toList r := fun _ => rfl
    dsimp only [parseCommand]
    simp only [parseDeclare, bind_eq, Parser.bind, hn, List.cons_append, List.append_assoc,
      parseVector_toks, parseSharing_toks, pure_eq, Parser.pure, str_toList_eq]

/-- the item parser that `parsePragma` has inline under `many0`, named for `many0_items` and unfolded again in
`reads_pragma` -/
def pragmaArgParser : Parser PragmaArgument :=
  alt (pmap (fun s => PragmaArgument.identifier (str s)) tokIdentifier) (pmap PragmaArgument.integer tokInteger)

theorem pragmaArg_toks (a : PragmaArgument) (r : List Token) :
    pragmaArgParser ([pragmaArgTok a] ++ r) = .ok a r := by
  cases a <;> simp [pragmaArgParser, pragmaArgTok, alt, pmap, tokIdentifier, tokInteger, Outcome.map, identTok]

theorem reads_pragma (F : NumFmt) (a : Pragma) : Reads anyRest (toks F (.pragma a)) (.pragma a) := by
  obtain ⟨name, args, data⟩ := a
  have hargs : ∀ rest, pragmaArgParser rest = .err →
      many0 pragmaArgParser (args.flatMap (fun a => [pragmaArgTok a]) ++ rest) = .ok args rest := by
    intro rest hr
    exact many0_items pragmaArgParser (fun a => [pragmaArgTok a]) args rest
      (fun y _ r => pragmaArg_toks y r) (fun y _ => by simp) hr
  rw [← List.map_eq_flatMap (f := pragmaArgTok)] at hargs
  unfold pragmaArgParser at hargs
  cases data with
  | none =>
    refine reads_of_parser (parseCommand parseExpression parseInstruction .pragma)
      (payload := identTok name :: args.map pragmaArgTok) ?_ rfl ?_
    · dsimp only [toks]; rw [List.append_nil]
    · intro rest _
      have h1 := hargs (.newLine :: rest) (by simp [alt, pmap, tokIdentifier, tokInteger, Outcome.map])
      dsimp only [parseCommand]
      simp only [parsePragma, bind_eq, Parser.bind, identTok, tokIdentifier, List.cons_append, h1]
      simp [opt, tokString, Parser.pure]
  | some s =>
    refine reads_of_parser (parseCommand parseExpression parseInstruction .pragma)
      (payload := identTok name :: (args.map pragmaArgTok ++ [strTok s])) ?_ rfl ?_
    · rfl
    · intro rest _
      have h1 := hargs (strTok s :: .newLine :: rest) (by simp [alt, pmap, tokIdentifier, tokInteger, Outcome.map, strTok])
      simp only [strTok] at h1
      dsimp only [parseCommand]
      simp only [parsePragma, bind_eq, Parser.bind, identTok, tokIdentifier, List.cons_append,
        List.append_assoc, strTok]
      erw [h1]
      simp [opt, tokString, Parser.pure]

end QV.C02
