import QV.C02.PrintView
/-!
Printer-only facts about `Parsed` instructions: printing one meets no placeholder (`firstErr_none_of_parsed`, every
kind, bodies included), and its canonical form prints alike (`toks_canonInstr`, `firstErr_canonInstr`).  Nothing here
looks at the parser.
-/
namespace QV.C02
open QV QV.Tok QV.Ast QV.Parse QV.Print QV.ExprPrint

theorem firstSome_eq_none {α : Type} (l : List (Option α)) : firstSome l = none ↔ ∀ x ∈ l, x = none := by
  induction l with
  | nil => simp [firstSome]
  | cons x xs ih =>
    cases x with
    | none => simp [firstSome, ih]
    | some a => simp [firstSome]

theorem firstSome_pair {α : Type} (a b : Option α) : firstSome [a, b] = none ↔ a = none ∧ b = none := by
  simp [firstSome_eq_none]

theorem firstSome_map {α β : Type} (f : β → Option α) (p : β → Bool) (h : ∀ x, f x = none ↔ p x = false)
    (l : List β) : firstSome (l.map f) = none ↔ l.any p = false := by
  simp only [firstSome_eq_none, List.mem_map, forall_exists_index, and_imp, forall_apply_eq_imp_iff₂, h,
    List.any_eq_false, Bool.not_eq_true]

theorem firstSome_none {α : Type} (l : List (Option α)) (h : ∀ x ∈ l, x = none) : firstSome l = none :=
  (firstSome_eq_none l).mpr h

theorem qubitErr_none (q : Qubit) (h : noPlaceholder q = true) : qubitErr q = none := by
  cases q <;> first | rfl | cases h

theorem targetErr_none (t : Target) (h : fixedTarget t = true) : targetErr t = none := by
  cases t <;> first | rfl | cases h

theorem qubitsErr_none (qs : List Qubit) (h : qs.all noPlaceholder = true) : qubitsErr qs = none := by
  apply firstSome_none
  intro x hx
  simp only [List.mem_map] at hx
  obtain ⟨q, hq, rfl⟩ := hx
  exact qubitErr_none q (List.all_eq_true.mp h q hq)

theorem frameErr_none (f : FrameIdentifier) (h : frameOk f = true) : frameErr f = none :=
  qubitsErr_none _ (Bool.and_eq_true_iff.mp h).2

theorem canonInstrs_eq_map (l : List Instruction) : canonInstrs l = l.map canonInstr := by
  induction l with
  | nil => simp [canonInstrs]
  | cons i l ih => simp [canonInstrs, ih]

theorem parsedInstrs_eq_all (l : List Instruction) : parsedInstrs l = l.all parsedInstr := by
  induction l with
  | nil => simp [parsedInstrs]
  | cons i l ih => simp [parsedInstrs, ih]

theorem numTokInstrs_eq_all (F : NumFmt) (l : List Instruction) : numTokInstrs F l = l.all (numTokInstr F) := by
  induction l with
  | nil => simp [numTokInstrs]
  | cons i l ih => simp [numTokInstrs, ih]

theorem firstErrList_none (L : List Instruction) (h : ∀ i ∈ L, firstErr i = none) : firstErrList L = none := by
  induction L with
  | nil => rfl
  | cons i L ih =>
    simp [firstErrList, firstSome, h i (by simp), ih (fun j hj => h j (by simp [hj]))]

theorem specErr_none_of_specOk (s : GateSpecification) (h : specOk s = true) : specErr s = none := by
  cases s with
  | sequence q =>
    simp only [specOk, Bool.and_eq_true, List.all_eq_true] at h
    refine firstSome_none _ fun x hx => ?_
    obtain ⟨g, hg, rfl⟩ := List.mem_map.mp hx
    refine firstSome_none _ fun y hy => ?_
    obtain ⟨q', hq', rfl⟩ := List.mem_map.mp hy
    have := (h.2 g hg).2 q' hq'
    cases q' <;> first | rfl | cases this
  | _ => rfl

mutual
theorem firstErr_none_of_parsed (i : Instruction) (hp : parsedInstr i = true) : firstErr i = none := by
  cases i with
  | fence a => exact qubitsErr_none _ hp
  | jump a | jumpWhen a | jumpUnless a | label a => exact targetErr_none _ hp
  | measurement a => exact qubitErr_none _ hp
  | reset a =>
    obtain ⟨q⟩ := a
    cases q with
    | none => rfl
    | some q => exact qubitErr_none q hp
  | gate a | delay a => exact qubitsErr_none _ (Bool.and_eq_true_iff.mp hp).2
  | setFrequency a | setPhase a | setScale a | shiftFrequency a | shiftPhase a | capture a | pulse a
  | rawCapture a => exact frameErr_none _ (Bool.and_eq_true_iff.mp hp).1
  | swapPhases a =>
    have hp := Bool.and_eq_true_iff.mp hp
    exact firstSome_none _ (by simp [frameErr_none _ hp.1, frameErr_none _ hp.2])
  | frameDefinition f =>
    dsimp only [parsedInstr] at hp
    simp only [Bool.and_eq_true] at hp
    exact frameErr_none _ hp.1.1.1
  | gateDefinition g => exact specErr_none_of_specOk _ hp
  | calibrationDefinition id body =>
    dsimp only [parsedInstr] at hp
    simp only [Bool.and_eq_true] at hp
    exact firstSome_none _ (by simp [qubitsErr_none _ hp.1.1.2, firstErrList_none_of_parsed body hp.2])
  | measureCalibrationDefinition id body =>
    dsimp only [parsedInstr] at hp
    simp only [Bool.and_eq_true] at hp
    exact firstSome_none _ (by simp [qubitErr_none _ hp.1.1, firstErrList_none_of_parsed body hp.2])
  | circuitDefinition name ps qvs body =>
    dsimp only [parsedInstr] at hp
    simp only [Bool.and_eq_true] at hp
    exact firstErrList_none_of_parsed body hp.2
  | _ => rfl
theorem firstErrList_none_of_parsed (l : List Instruction) (hp : parsedInstrs l = true) : firstErrList l = none := by
  cases l with
  | nil => rfl
  | cons i l =>
    have hp := Bool.and_eq_true_iff.mp hp
    exact firstSome_none _ (by simp [firstErr_none_of_parsed i hp.1, firstErrList_none_of_parsed l hp.2])
end

theorem invocationToks_canon (F : NumFmt) (w : WaveformInvocation) (hw : invocationOk w = true) :
    invocationToks F (canonInvocation w) = invocationToks F w := by
  simp only [invocationOk, Bool.and_eq_true, distinctKeys, decide_eq_true_eq] at hw
  have hidem := sortKV_idem w.parameters hw.1.2
  have hemp : (sortKV w.parameters).isEmpty = w.parameters.isEmpty := by
    cases hps : w.parameters with
    | nil => rfl
    | cons x xs =>
      have : x ∈ sortKV (x :: xs) := mem_sortKV.mpr (by simp)
      cases hs : sortKV (x :: xs) with
      | nil => rw [hs] at this; simp at this
      | cons a b => rfl
  simp only [invocationToks, canonInvocation, hidem, hemp]

mutual
/-- the printer sorts the parameters of an invocation anyway, and `canonInstr` changes nothing else.  `Parsed` is needed
for the distinct keys: `sortKV` puts a key behind an equal one, so with a repeated key it is not idempotent -/
theorem toks_canonInstr (F : NumFmt) (i : Instruction) (hp : parsedInstr i = true) :
    toks F (canonInstr i) = toks F i := by
  cases i with
  | capture c | pulse c =>
    dsimp only [parsedInstr] at hp
    dsimp only [canonInstr, toks]
    rw [invocationToks_canon F _ (Bool.and_eq_true_iff.mp hp).2]
  | calibrationDefinition id body =>
    dsimp only [parsedInstr] at hp
    dsimp only [canonInstr, toks]
    rw [calBodyToks_canon F body (Bool.and_eq_true_iff.mp hp).2]
  | measureCalibrationDefinition id body =>
    dsimp only [parsedInstr] at hp
    dsimp only [canonInstr, toks]
    rw [mcalBodyToks_canon F body (Bool.and_eq_true_iff.mp hp).2]
  | circuitDefinition name ps qvs body =>
    dsimp only [parsedInstr] at hp
    dsimp only [canonInstr, toks]
    rw [circuitBodyToks_canon F body (Bool.and_eq_true_iff.mp hp).2]
  | _ => rfl
theorem calBodyToks_canon (F : NumFmt) (l : List Instruction) (hp : parsedInstrs l = true) :
    calBodyToks F (canonInstrs l) = calBodyToks F l := by
  cases l with
  | nil => rfl
  | cons i l =>
    have hp := Bool.and_eq_true_iff.mp hp
    dsimp only [canonInstrs, calBodyToks]
    rw [toks_canonInstr F i hp.1, calBodyToks_canon F l hp.2]
theorem mcalBodyToks_canon (F : NumFmt) (l : List Instruction) (hp : parsedInstrs l = true) :
    mcalBodyToks F (canonInstrs l) = mcalBodyToks F l := by
  cases l with
  | nil => rfl
  | cons i l =>
    have hp := Bool.and_eq_true_iff.mp hp
    have ih := mcalBodyToks_canon F l hp.2
    cases l with
    | nil => dsimp only [canonInstrs, mcalBodyToks]; rw [toks_canonInstr F i hp.1]
    | cons j l =>
      dsimp only [canonInstrs, mcalBodyToks] at ih ⊢
      rw [toks_canonInstr F i hp.1, ih]
theorem circuitBodyToks_canon (F : NumFmt) (l : List Instruction) (hp : parsedInstrs l = true) :
    circuitBodyToks F (canonInstrs l) = circuitBodyToks F l := by
  cases l with
  | nil => rfl
  | cons i l =>
    have hp := Bool.and_eq_true_iff.mp hp
    dsimp only [canonInstrs, circuitBodyToks]
    rw [toks_canonInstr F i hp.1, circuitBodyToks_canon F l hp.2]
end

mutual
theorem firstErr_canonInstr (i : Instruction) : firstErr (canonInstr i) = firstErr i := by
  cases i with
  | calibrationDefinition id body | measureCalibrationDefinition id body =>
    dsimp only [canonInstr, firstErr]; rw [firstErrList_canonInstrs body]
  | circuitDefinition name ps qvs body => exact firstErrList_canonInstrs body
  | _ => rfl
theorem firstErrList_canonInstrs (l : List Instruction) : firstErrList (canonInstrs l) = firstErrList l := by
  cases l with
  | nil => rfl
  | cons i l =>
    dsimp only [canonInstrs, firstErrList]
    rw [firstErr_canonInstr i, firstErrList_canonInstrs l]
end

theorem programRaw_map_canonInstr (F : NumFmt) (L : List Instruction) (hp : ∀ i ∈ L, parsedInstr i = true) :
    programRaw F (L.map canonInstr) = programRaw F L := by
  induction L with
  | nil => rfl
  | cons i L ih =>
    simp only [programRaw, List.map_cons, List.flatMap_cons] at ih ⊢
    rw [toks_canonInstr F i (hp i (by simp)), ih (fun j hj => hp j (by simp [hj]))]

theorem programRaw_map_canon (F : NumFmt) (L : List Instruction) (hp : ∀ i ∈ L, parsedInstr i = true)
    (hk : ∀ i ∈ L, lineKind i = true) : programRaw F (L.map canonInstr) = programRaw F L :=
  programRaw_map_canonInstr F L hp

theorem programRaw_map_canon' (F : NumFmt) (L : List Instruction) (hp : ∀ i ∈ L, parsedInstr i = true)
    (hk : ∀ i ∈ L, blockKind i = true) : programRaw F (L.map canonInstr) = programRaw F L :=
  programRaw_map_canonInstr F L hp

theorem length_toks_le_programRaw (F : NumFmt) (L : List Instruction) (i : Instruction) (hi : i ∈ L) :
    (toks F i).length ≤ (programRaw F L).length := by
  induction L with
  | nil => simp at hi
  | cons j L ih =>
    have e : programRaw F (j :: L) = toks F j ++ .newLine :: programRaw F L := by simp [programRaw]
    rw [e]
    simp only [List.mem_cons] at hi
    simp only [List.length_append, List.length_cons]
    rcases hi with rfl | hi
    · omega
    · have := ih hi; omega

end QV.C02
