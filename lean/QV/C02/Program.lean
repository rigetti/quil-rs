import QV.C02.Reads
import QV.C02.Newlines
/-!
The program level: `many0` of an instruction parser `pi` over a printed program reads back every instruction that `pi`
reads back (`many0_progOf`, for any `pi`); for `parse_instruction` itself this is `parseProgram_progOf`, through the
recursion equation `QV.C01.parseInstructions_eq`.  `print_parse_listing` puts printing and parsing of a listing together:
it is what both C02 and C04 conclude from their per-instruction facts.
-/
namespace QV.C02
open QV QV.Tok QV.Ast QV.Parse QV.Print QV.ExprPrint

theorem length_le_progOf (e : Instruction → List Token) (L : List Instruction) :
    L.length ≤ (progOf e L).length := by
  induction L with
  | nil => simp [progOf]
  | cons i L ih => rw [progOf_cons]; simp only [List.length_append, List.length_cons]; omega

theorem restOk_progOf (e : Instruction → List Token) (L : List Instruction)
    (hh : ∀ i ∈ L, ∃ t r, e i = t :: r ∧ startTok t = true) : restOk (progOf e L) = true := by
  cases L with
  | nil => rfl
  | cons i L =>
    obtain ⟨t, r, ht, hst⟩ := hh i (by simp)
    simp [progOf_cons, ht, restOk, hst]

theorem newLine_progOf (e : Instruction → List Token) (L : List Instruction) :
    .newLine :: progOf e L = L.flatMap (fun i => .newLine :: e i) ++ [.newLine] := by
  induction L with
  | nil => rfl
  | cons i L ih => rw [progOf_cons, List.flatMap_cons, List.append_assoc, ← ih]; rfl

/-- the left-hand side is `parse_instructions` (`parseInstructionsAt`) with `pi` for `parse_instruction`; `hh` is
`fun i _ => toks_head F i` at `e := toks F` and `fun i _ => lineToks_head F i` at `e := lineToks F` -/
theorem many0_progOf (pi : Parser Instruction) (hnil : pi [] = .err) (hend : pi [.newLine] = .err)
    (e : Instruction → List Token) (g : Instruction → Instruction)
    (L : List Instruction) (hh : ∀ i ∈ L, ∃ t r, e i = t :: r ∧ startTok t = true)
    (h : ∀ i ∈ L, ReadsBy pi topRest (e i) (g i)) :
    allConsuming (delimited skipNewlinesAndComments (many0 pi) skipNewlinesAndComments) (progOf e L) =
      .ok (L.map g) [] := by
  cases L with
  | nil => simp [progOf, allConsuming, delimited, Parser.bind, Parser.pure, many0, many0Fuel, hnil]
  | cons i L =>
    have e0 := progOf_cons e i L
    obtain ⟨t, r, ht, hst⟩ := hh i (by simp)
    have hh' : ∀ j ∈ L, ∃ t r, e j = t :: r ∧ startTok t = true := fun j hj => hh j (by simp [hj])
    have hi := (h i (by simp) (progOf e L) (restOk_progOf e L hh')).1
    have hlen := length_le_progOf e L
    -- the items after the first are `newLine :: e j`; each must see a newline and then the start of an instruction
    have htail : many0Fuel pi (progOf e (i :: L)).length (.newLine :: progOf e L) = .ok (L.map g) [.newLine] := by
      rw [newLine_progOf]
      refine many0Fuel_items_ok _ _ g (fun T => match T with | .newLine :: r => restOk r | _ => false) L
        [.newLine] (fun j hj r hr => ?_) (fun _ _ => List.cons_ne_nil _ _) (fun j hj r => ?_) rfl hend _
        (by rw [e0]; simp; omega)
      · split at hr
        · exact (h j (by simp [hj]) _ hr).2
        · cases hr
      · obtain ⟨t, r', ht, hst⟩ := hh' j hj
        rw [ht]; exact hst
    simp only [allConsuming, delimited, bind_eq, Parser.bind, pure_eq, Parser.pure]
    have hskip : skipNewlinesAndComments (progOf e (i :: L)) = .ok () (progOf e (i :: L)) := by
      rw [e0, ht]; exact skip_start t _ hst
    rw [hskip]
    simp only [many0, many0Fuel]
    rw [show pi (progOf e (i :: L)) = .ok (g i) (.newLine :: progOf e L) by rw [e0]; exact hi]
    have this' : ¬ ((progOf e L).length + 1 = (progOf e (i :: L)).length) := by
      rw [e0]; simp only [List.length_append, List.length_cons]
      have : 0 < (e i).length := by rw [ht]; simp
      omega
    simp [this', htail, Outcome.map]

theorem parseProgram_progOf (e : Instruction → List Token) (g : Instruction → Instruction)
    (L : List Instruction) (hh : ∀ i ∈ L, ∃ t r, e i = t :: r ∧ startTok t = true)
    (h : ∀ i ∈ L, Reads topRest (e i) (g i)) : parseProgram (progOf e L) = .ok (L.map g) [] := by
  have hnil : parseInstruction [] = .err := by rw [QV.C01.parseInstruction_eq]; exact body_nil _ _
  have hend : parseInstruction [.newLine] = .err := by rw [QV.C01.parseInstruction_eq]; exact body_end _ _
  rw [parseProgram, QV.C01.parseInstructions_eq, many0_progOf parseInstruction hnil hend e g L hh h]
  rfl

theorem print_parse_listing (F : NumFmt) (L : List Instruction) (nf : Instruction → Instruction)
    (herr : firstErrList L = none) (hblock : ∀ i ∈ L, blockOk (lineToks F i) = true)
    (hrt : ∀ i ∈ L, Reads topRest (lineToks F i) (nf i)) :
    printProgramTokens F L = .ok (progOf (lineToks F) L) ∧
      parseProgram (progOf (lineToks F) L) = .ok (L.map nf) [] := by
  -- a definition's trailing newline and the program writer's newline are ONE token
  have hcollapse : collapseNL (programRaw F L) = progOf (lineToks F) L := (collapse_progOf (toks F) _ hblock).1
  exact ⟨by simp [printProgramTokens, herr, hcollapse], parseProgram_progOf (lineToks F) nf L (fun i _ => lineToks_head F i) hrt⟩

end QV.C02
