import QV.C02.PrintView
import QV.C02.Exprs
/-!
The fields of an instruction, each read back by its parser from its printed form: memory references, the three
classical operands, qubits and qubit lists, frame identifiers, gate modifiers, parameter lists, names (measurement
names, waveform names with a `/`, variable lists, frame-name strings).  Each lemma says what may follow the field.
-/
namespace QV.C02
open QV QV.Tok QV.Ast QV.Parse QV.Print QV.ExprPrint

@[simp] theorem parseMemoryReference_toks (r : MemRef) (rest : List Token) :
    parseMemoryReference (memRefToks r ++ rest) = .ok r rest := by
  simp [parseMemoryReference, memRefToks, identTok, Parser.bind, tokIdentifier, opt, delimited, tok,
    tokInteger, Parser.pure]

@[simp] theorem parseMemoryReference_toks' (r : MemRef) (rest : List Token) :
    parseMemoryReference (identTok r.name :: .lBracket :: .integer r.index :: .rBracket :: rest) = .ok r rest :=
  parseMemoryReference_toks r rest

theorem negBits_sub (b : Nat) (h1 : two63 ≤ b) (h2 : b < two64) : QV.DecF64.negBits (b - two63) = b := by
  unfold QV.DecF64.negBits
  have e1 : QV.DecF64.two63 = 9223372036854775808 := rfl
  have e2 : two63 = 9223372036854775808 := rfl
  have e3 : two64 = 18446744073709551616 := rfl
  rw [e1]; rw [e2] at h1 ⊢; rw [e3] at h2
  split <;> omega

theorem signedInteger_neg (v : Int) (h : i64Ok v = true) (hv : v < 0) :
    signedInteger true v.natAbs = some v := by
  simp only [i64Ok, Bool.and_eq_true, decide_eq_true_eq] at h
  unfold signedInteger
  have : v.natAbs ≤ 9223372036854775808 := by omega
  simp only [if_true, this]
  congr 1; omega

theorem signedInteger_pos (v : Int) (h : i64Ok v = true) (hv : ¬ v < 0) :
    signedInteger false v.toNat = some v := by
  simp only [i64Ok, Bool.and_eq_true, decide_eq_true_eq] at h
  unfold signedInteger
  have : v.toNat < 9223372036854775808 := by omega
  simp only [this, if_true]
  simp only [Bool.false_eq_true, if_false]
  congr 1; omega

theorem applySign_real (b : Nat) (h : realLitOk b = true) :
    (if fSign b = true then applySign true (b - two63) else applySign false b) = b := by
  simp only [realLitOk, Bool.and_eq_true, decide_eq_true_eq] at h
  unfold applySign fSign
  by_cases hs : two63 ≤ b
  · simp [hs, negBits_sub b hs h.1]
  · simp [hs]

/-- the last two alternatives of the three operand parsers (`parse_arithmetic_operand`, `parse_comparison_operand`,
`parse_binary_logic_operand`, common.rs:62-120), for any result constructors: a signed integer within `i64`, or a
memory reference.  (`parseBinaryLogicOperand` IS `intOrMem .literalInteger .memoryReference`, `parseArithmeticOperand`
and `parseComparisonOperand` ARE `floatOrIntOrMem …` of their constructors, by `rfl`: the lemmas below are used at
the model's parsers directly.) -/
def intOrMem {α : Type} (mkI : Int → α) (mkM : MemRef → α) : Parser α :=
  alt (mapRes (pair optMinus tokInteger) fun (neg, v) => (signedInteger neg v).map mkI) (pmap mkM parseMemoryReference)

def floatOrIntOrMem {α : Type} (mkR : Nat → α) (mkI : Int → α) (mkM : MemRef → α) : Parser α :=
  alt (do let neg ← optMinus; let v ← tokFloat; pure (mkR (applySign neg v))) (intOrMem mkI mkM)

variable {α : Type} (mkR : Nat → α) (mkI : Int → α) (mkM : MemRef → α)

theorem intOrMem_int (v : Int) (h : i64Ok v = true) (rest : List Token) :
    intOrMem mkI mkM (intToks v ++ rest) = .ok (mkI v) rest := by
  unfold intOrMem intToks
  by_cases hv : v < 0
  · simp [hv, alt, optMinus, opt, tok, Parser.bind, Parser.pure, mapRes, pair, tokInteger, signedInteger_neg v h hv]
  · simp [hv, alt, optMinus, opt, tok, Parser.bind, Parser.pure, mapRes, pair, tokInteger, signedInteger_pos v h hv]

theorem intOrMem_mem (r : MemRef) (rest : List Token) :
    intOrMem mkI mkM (memRefToks r ++ rest) = .ok (mkM r) rest := by
  simp [intOrMem, memRefToks, identTok, alt, optMinus, opt, tok, Parser.bind, Parser.pure, mapRes, pair, tokInteger,
    pmap, Outcome.map, parseMemoryReference, tokIdentifier, delimited]

theorem floatOrIntOrMem_real (b : Nat) (h : realLitOk b = true) (rest : List Token) :
    floatOrIntOrMem mkR mkI mkM (realLitToks b ++ rest) = .ok (mkR b) rest := by
  have hf : ¬ (b % two63 > infBits) ∧ ¬ (b % two63 = infBits) := by
    simp only [realLitOk, Bool.and_eq_true, decide_eq_true_eq] at h; omega
  have ha := applySign_real b h
  unfold floatOrIntOrMem realLitToks
  by_cases hs : fSign b = true <;>
    simp [hf.1, hf.2, hs, alt, optMinus, opt, tok, Parser.bind, Parser.pure, tokFloat] at ha ⊢ <;> rw [ha]

theorem floatOrIntOrMem_int (v : Int) (h : i64Ok v = true) (rest : List Token) :
    floatOrIntOrMem mkR mkI mkM (intToks v ++ rest) = .ok (mkI v) rest := by
  rw [← intOrMem_int mkI mkM v h rest]
  unfold floatOrIntOrMem intToks
  by_cases hv : v < 0 <;> simp [hv, alt, optMinus, opt, tok, Parser.bind, Parser.pure, tokFloat]

theorem floatOrIntOrMem_mem (r : MemRef) (rest : List Token) :
    floatOrIntOrMem mkR mkI mkM (memRefToks r ++ rest) = .ok (mkM r) rest := by
  rw [← intOrMem_mem mkI mkM r rest]
  simp [floatOrIntOrMem, memRefToks, identTok, alt, optMinus, opt, tok, Parser.bind, Parser.pure, tokFloat]

@[simp] theorem parseArithmeticOperand_toks (src : ArithmeticOperand) (h : arithOperandOk src = true)
    (rest : List Token) : parseArithmeticOperand (arithOperandToks src ++ rest) = .ok src rest := by
  cases src with
  | literalInteger v => exact floatOrIntOrMem_int _ _ _ v h rest
  | literalReal b => exact floatOrIntOrMem_real _ _ _ b h rest
  | memoryReference r => exact floatOrIntOrMem_mem _ _ _ r rest

@[simp] theorem parseComparisonOperand_toks (src : ComparisonOperand) (h : compOperandOk src = true)
    (rest : List Token) : parseComparisonOperand (compOperandToks src ++ rest) = .ok src rest := by
  cases src with
  | literalInteger v => exact floatOrIntOrMem_int _ _ _ v h rest
  | literalReal b => exact floatOrIntOrMem_real _ _ _ b h rest
  | memoryReference r => exact floatOrIntOrMem_mem _ _ _ r rest

@[simp] theorem parseBinaryLogicOperand_toks (src : BinaryOperand) (h : binOperandOk src = true)
    (rest : List Token) : parseBinaryLogicOperand (binOperandToks src ++ rest) = .ok src rest := by
  cases src with
  | literalInteger v => exact intOrMem_int _ _ v h rest
  | memoryReference r => exact intOrMem_mem _ _ r rest

theorem parseQubit_toks (q : Qubit) (h : noPlaceholder q = true) (rest : List Token) :
    parseQubit (qubitToks q ++ rest) = .ok q rest := by
  cases q with
  | fixed n => simp [qubitToks, parseQubit]
  | placeholder k => simp [noPlaceholder] at h
  | «variable» s =>
    simp only [noPlaceholder, Bool.not_eq_true'] at h
    simp [qubitToks, nameTok, keywordOrIdentifier_eq_identifier _ h, parseQubit]

def notQubit : List Token → Bool
  | .integer _ :: _ | .variable _ :: _ | .identifier _ :: _ => false
  | _ => true

theorem parseQubit_stop (rest : List Token) (h : notQubit rest = true) : parseQubit rest = .err := by
  unfold parseQubit
  split <;> simp_all [notQubit]

theorem qubitToks_ne_nil (q : Qubit) : qubitToks q ≠ [] := by cases q <;> simp [qubitToks]

theorem many0_parseQubit (qs : List Qubit) (h : qs.all noPlaceholder = true) (rest : List Token)
    (hr : notQubit rest = true) : many0 parseQubit (qubitsToks qs ++ rest) = .ok qs rest := by
  unfold qubitsToks
  apply many0_items parseQubit qubitToks qs rest
  · intro q hq r
    exact parseQubit_toks q (List.all_eq_true.mp h q hq) r
  · intro q _; exact qubitToks_ne_nil q
  · exact parseQubit_stop rest hr

theorem eq_fixed_of_fixedTarget {t : Target} (h : fixedTarget t = true) : ∃ s, t = .fixed s := by
  cases t with
  | fixed s => exact ⟨s, rfl⟩
  | placeholder k b => cases h

theorem parseMeasureName_toks (n : Option String) (q : Qubit) (r : List Token) :
    parseMeasureName (measureNameToks n ++ qubitToks q ++ r) = .ok n (qubitToks q ++ r) := by
  cases n with
  | none =>
    have hq : ∃ t r', qubitToks q = t :: r' ∧ t ≠ .bang := by
      cases q with
      | fixed n => exact ⟨_, _, rfl, by simp⟩
      | placeholder k => exact ⟨_, _, rfl, by simp⟩
      | «variable» s =>
        exact ⟨nameTok s, [], rfl, (nameTok_ne_bang_lParen_newLine s).1⟩
    obtain ⟨t, r', hq, hne⟩ := hq
    simp [measureNameToks, parseMeasureName, Parser.bind, Parser.pure, opt, preceded, tok, hq, hne]
  | some n =>
    simp [measureNameToks, parseMeasureName, Parser.bind, Parser.pure, opt, preceded, tok, tokIdentifier, identTok]

theorem parseFrameIdentifier_toks (f : FrameIdentifier) (h : frameOk f = true) (rest : List Token) :
    parseFrameIdentifier (frameToks f ++ rest) = .ok f rest := by
  obtain ⟨name, qs⟩ := f
  simp only [frameOk, Bool.and_eq_true, Bool.not_eq_true', List.isEmpty_eq_false_iff] at h
  cases qs with
  | nil => simp at h
  | cons q qs =>
    have hall : ∀ y ∈ q :: qs, noPlaceholder y = true := fun y hy => List.all_eq_true.mp h.2 y hy
    have hm := many1_items parseQubit qubitToks q qs (strTok name :: rest)
      (fun y hy r => parseQubit_toks y (hall y hy) r) (fun y _ => qubitToks_ne_nil y)
      (parseQubit_stop _ rfl)
    simp only [parseFrameIdentifier, bind_eq, Parser.bind, frameToks, qubitsToks, List.flatMap_cons,
      List.append_assoc, List.singleton_append, hm]
    simp [tokString, strTok, Parser.pure]

theorem parseGateModifier_toks (m : GateModifier) (r : List Token) :
    parseGateModifier ([modifierTok m] ++ r) = .ok m r := by
  cases m <;> simp [parseGateModifier, modifierTok, tokModifier, Parser.bind, Parser.pure]

theorem many0_modifiers (ms : List GateModifier) (name : String) (r : List Token) :
    many0 parseGateModifier (ms.map modifierTok ++ identTok name :: r) = .ok ms (identTok name :: r) := by
  rw [List.map_eq_flatMap (f := modifierTok)]
  exact many0_items parseGateModifier (fun m => [modifierTok m]) ms _ (fun m _ r => parseGateModifier_toks m r)
    (fun _ _ => by simp) (by simp [parseGateModifier, identTok, tokModifier, Parser.bind])

theorem lparen_qubits (qs : List Qubit) (t : Token) (rest : List Token) (ht : t ≠ .lParenthesis) :
    tok .lParenthesis (qubitsToks qs ++ t :: rest) = .err := by
  cases qs with
  | nil => simp [qubitsToks, tok, ht]
  | cons q qs =>
    cases q with
    | fixed n => simp [qubitsToks, qubitToks, tok]
    | placeholder k => simp [qubitsToks, qubitToks, tok, phName]
    | «variable» s => simp [qubitsToks, qubitToks, tok, (nameTok_ne_bang_lParen_newLine s).2.1]

theorem parseParameters_toks (F : NumFmt) (g : PExpr → PExpr) (pe : Parser PExpr) (ps : List PExpr)
    (rest : List Token)
    (hpe : ∀ x ∈ ps, ∀ r, ExprRoundTrip.endOk r = true → pe (printTop F x ++ r) = .ok (g x) r)
    (hrest : tok .lParenthesis rest = .err) :
    parseParameters pe (paramsToks F ps ++ rest) = .ok (ps.map g) rest := by
  cases ps with
  | nil => simp [parseParameters, paramsToks, opt, delimited, Parser.bind, hrest, Parser.pure]
  | cons e es =>
    have hs := (commaList_items pe (printTop F) g ExprRoundTrip.endOk e es (.rParenthesis :: rest) hpe (fun _ => rfl) rfl rfl).2
    simp only [List.map_cons] at hs
    simp only [parseParameters, paramsToks, List.isEmpty_cons, Bool.false_eq_true, if_false, bind_eq, Parser.bind,
      opt, delimited, List.cons_append, List.append_assoc, List.singleton_append, pure_eq,
      Parser.pure]
    simp only [tok, if_true]
    erw [hs]
    simp

theorem length_qubitsToks (qs : List Qubit) : (qubitsToks qs).length = qs.length := by
  induction qs with
  | nil => rfl
  | cons q qs ih =>
    have : (qubitToks q).length = 1 := by cases q <;> rfl
    simp [qubitsToks, List.flatMap_cons, this] at ih ⊢
    omega

theorem tokString_of_notString {T : List Token} (h : notString T = true) : tokString T = .err := by
  cases T with
  | nil => rfl
  | cons t r => cases t <;> first | rfl | cases h

theorem map_str_toList (ns : List String) : (ns.map fun s => s.toList).map Parse.str = ns := by
  induction ns with
  | nil => rfl
  | cons n ns ih => simp [ih]

theorem many0_tokString_names (ns : List String) (T : List Token) (h : notString T = true) :
    many0 tokString (ns.map strTok ++ T) = .ok (ns.map fun s => s.toList) T := by
  have hflat : ns.map strTok = (ns.map fun s => s.toList).flatMap (fun s => [Token.string s]) := by
    rw [List.flatMap_map]; exact List.map_eq_flatMap (f := strTok)
  rw [hflat]
  apply many0_items tokString (fun s => [Token.string s])
  · intro s _ r; rfl
  · intro s _; simp
  · exact tokString_of_notString h

theorem parseVariableList_toks (ps : List String) (rest : List Token) (hrest : tok .lParenthesis rest = .err) :
    parseVariableList (varParamsToks ps ++ rest) = .ok (if ps.isEmpty then none else some ps) rest := by
  cases ps with
  | nil =>
    simp [parseVariableList, varParamsToks, opt, delimited, Parser.bind, hrest, Parser.pure]
  | cons x xs =>
    have hl := (commaList_items tokVariable (fun v : String => [Token.variable v.toList])
      (fun v : String => v.toList) (fun _ => true) x xs (.rParenthesis :: rest)
      (fun y _ r _ => rfl) (fun _ => rfl) rfl rfl).2
    simp only [parseVariableList, varParamsToks, List.isEmpty_cons, Bool.false_eq_true, if_false, bind_eq,
      Parser.bind, opt, delimited, List.cons_append, List.append_assoc, List.singleton_append, pure_eq, Parser.pure]
    simp only [tok, if_true]
    erw [hl]
    simp [List.map_map, Function.comp_def]

theorem many0_variableQubits (qvs : List String) (h : qvs.all (fun s => !isReservedWord s.toList) = true)
    (r : List Token) :
    many0 parseVariableQubit (qvs.map nameTok ++ .colon :: r) = .ok qvs (.colon :: r) := by
  rw [List.map_eq_flatMap (f := nameTok)]
  apply many0_items parseVariableQubit (fun s => [nameTok s]) qvs _
  · intro s hs r
    have := List.all_eq_true.mp h s hs
    simp only [Bool.not_eq_true'] at this
    simp [nameTok, keywordOrIdentifier_eq_identifier _ this, parseVariableQubit]
  · intro _ _; simp
  · rfl

theorem lparen_names (qvs : List String) (r : List Token) : tok .lParenthesis (qvs.map nameTok ++ .colon :: r) = .err := by
  cases qvs with
  | nil => simp [tok]
  | cons s qs => simp [tok, (nameTok_ne_bang_lParen_newLine s).2.1]

theorem many0_idents (args : List String) (r : List Token) :
    many0 tokIdentifier (args.map identTok ++ .as :: r) = .ok (args.map (·.toList)) (.as :: r) := by
  have hflat : args.map identTok = (args.map (·.toList)).flatMap (fun s => [Token.identifier s]) := by
    rw [List.flatMap_map]; exact List.map_eq_flatMap (f := identTok)
  rw [hflat]
  exact many0_items tokIdentifier (fun s => [Token.identifier s]) _ _
    (fun s _ r => by simp [tokIdentifier]) (fun _ _ => by simp) (by simp [tokIdentifier])

theorem lparen_idents (args : List String) (r : List Token) :
    tok .lParenthesis (args.map identTok ++ .as :: r) = .err := by
  cases args <;> simp [tok, identTok]

theorem splitAtSlash_none (cs : List Char) (h : (splitAtSlash cs).2 = none) :
    (splitAtSlash cs).1 = cs ∧ ∀ c ∈ cs, c ≠ '/' := by
  induction cs with
  | nil => simp [splitAtSlash]
  | cons c cs ih =>
    by_cases hc : c = '/'
    · simp [splitAtSlash, hc] at h
    · simp only [splitAtSlash, hc, if_false] at h ⊢
      have := ih h
      exact ⟨by simp [this.1], by intro x hx; simp at hx; rcases hx with rfl | hx; exact hc; exact this.2 x hx⟩

theorem splitAtSlash_some (cs b : List Char) (h : (splitAtSlash cs).2 = some b) :
    cs = (splitAtSlash cs).1 ++ '/' :: b ∧ ∀ c ∈ (splitAtSlash cs).1, c ≠ '/' := by
  induction cs with
  | nil => simp [splitAtSlash] at h
  | cons c cs ih =>
    by_cases hc : c = '/'
    · simp only [splitAtSlash, hc, if_true, Option.some.injEq] at h ⊢
      subst h; simp
    · simp only [splitAtSlash, hc, if_false] at h ⊢
      have := ih h
      refine ⟨by simp; exact this.1, ?_⟩
      intro x hx; simp at hx; rcases hx with rfl | hx; exact hc; exact this.2 x hx

theorem slashNameAux_noSlash (acc cs : List Char) (h : ∀ c ∈ cs, c ≠ '/') :
    slashNameAux acc cs = [.identifier (acc.reverse ++ cs)] := by
  induction cs generalizing acc with
  | nil => simp [slashNameAux]
  | cons c cs ih =>
    have hc : c ≠ '/' := h c (by simp)
    simp only [slashNameAux, hc, if_false]
    rw [ih (c :: acc) (fun x hx => h x (by simp [hx]))]
    simp

theorem slashNameAux_slash (acc a b : List Char) (h : ∀ c ∈ a, c ≠ '/') :
    slashNameAux acc (a ++ '/' :: b) = .identifier (acc.reverse ++ a) :: .operator .slash :: slashNameAux [] b := by
  induction a generalizing acc with
  | nil => simp [slashNameAux]
  | cons c cs ih =>
    have hc : c ≠ '/' := h c (by simp)
    simp only [List.cons_append, slashNameAux, hc, if_false]
    rw [ih (c :: acc) (fun x hx => h x (by simp [hx]))]
    simp

theorem parseWaveformName_toks (s : String) (h : wfNameOk s = true) (rest : List Token)
    (hr : headNe (.operator .slash) rest = true) : parseWaveformName (slashNameToks s ++ rest) = .ok s rest := by
  have hrest : opt (pair (tok (.operator .slash)) tokIdentifier) rest = .ok none rest :=
    opt_err (bind_err (tok_of_headNe hr))
  unfold wfNameOk at h
  unfold slashNameToks
  cases hs : (splitAtSlash s.toList).2 with
  | none =>
    have hsp := splitAtSlash_none _ hs
    rw [slashNameAux_noSlash [] _ hsp.2]
    simp only [List.reverse_nil, List.nil_append, List.singleton_append, parseWaveformName, bind_eq, Parser.bind,
      tokIdentifier, hrest, pure_eq, Parser.pure, str_toList_eq]
  | some b =>
    have hsp := splitAtSlash_some _ b hs
    have hb : ∀ c ∈ b, c ≠ '/' := by
      have : (splitAtSlash s.toList) = ((splitAtSlash s.toList).1, some b) := by rw [← hs]
      rw [this] at h
      simp only [Bool.and_eq_true, Bool.not_eq_true', List.contains_eq_mem, decide_eq_false_iff_not] at h
      intro c hc hcs
      exact h.2 (hcs ▸ hc)
    rw [hsp.1, slashNameAux_slash [] _ b hsp.2, slashNameAux_noSlash [] b hb]
    simp only [List.reverse_nil, List.nil_append, List.cons_append, parseWaveformName, bind_eq, Parser.bind,
      tokIdentifier, opt, pair, tok, if_true, pure_eq, Parser.pure]
    simp only [Parse.str]
    congr 1
    rw [← hsp.1]; simp

theorem endOk_of_startsNL {r : List Token} (h : startsNL r = true) : ExprRoundTrip.endOk r = true := by
  obtain ⟨r', rfl⟩ := eq_newLine_of_startsNL h; rfl

theorem parseExpression_all (F : NumFmt) {ps : List PExpr} (hfin : ps.all finiteLits = true)
    (hn : ps.all (numTokOk F) = true) :
    ∀ x ∈ ps, ∀ r, ExprRoundTrip.endOk r = true → parseExpression (printTop F x ++ r) = .ok (norm x) r :=
  fun x hx r hr => ExprRoundTrip.parseExpression_printTop F x (List.all_eq_true.mp hfin x hx) (List.all_eq_true.mp hn x hx) r hr

/-- the identifier token `i` directly after a number is read as its imaginary unit: hence the names other than `i` (a
RAW-CAPTURE region, a CALL argument after a real immediate) -/
theorem name_ne_i (s : String) (h : (s == "i") = false) : (s.toList != ['i']) = true := by
  simp only [bne_iff_ne, ne_eq]
  intro hs
  have : s = "i" := by
    have : s = String.ofList s.toList := by simp
    rw [this, hs]
  simp [this] at h

end QV.C02
