import QV.C02.Spec
import QV.Shared.Upsert
/-!
The program container.  `build (listing (build is)) = build is`: re-adding the listing of a built program
reproduces every container (the key lemma behind "the reparsed program equals P"), and every listed instruction
is one of the added ones.  `mapProg` / `build_map`: the same for a slot-preserving image of the listing (the
reparsed instructions are the `canonInstr` images of the printed ones).
-/
namespace QV.C02
open QV QV.Ast

theorem rank_le_8 (s : Slot) : s.rank ≤ 8 := by cases s <;> simp [Slot.rank]

theorem rank_eq_8 {s : Slot} : s.rank = 8 ↔ s = .body := by cases s <;> simp [Slot.rank]

theorem upsert_eq : upsert = upsertBy slotOf := by
  funext l i
  induction l with
  | nil => rfl
  | cons x xs ih => simp only [upsert, upsertBy, ih]

theorem mem_addAt {r : Nat} {l : List Instruction} {i x : Instruction} (h : x ∈ addAt r l i) : x = i ∨ x ∈ l := by
  unfold addAt at h
  split at h
  · exact (List.mem_append.mp h).symm.imp_left List.mem_singleton.mp
  · exact mem_upsertBy slotOf (upsert_eq ▸ h)

theorem mem_add {p : Prog} {i x : Instruction} {r : Nat} (h : x ∈ (p.add i) r) :
    x = i ∧ r = (slotOf i).rank ∨ x ∈ p r := by
  simp only [Prog.add] at h
  split at h
  · next hr => exact (mem_addAt h).imp_left fun e => ⟨e, hr⟩
  · exact .inr h

structure WF (p : Prog) : Prop where
  ranks : ∀ r, ∀ x ∈ p r, (slotOf x).rank = r
  nodup : ∀ r, r ≠ 8 → ((p r).map slotOf).Nodup

theorem wf_empty : WF Prog.empty := ⟨fun _ _ hx => (nomatch hx), fun _ _ => List.nodup_nil⟩

theorem wf_add {p : Prog} (h : WF p) (i : Instruction) : WF (p.add i) where
  ranks r x hx := by
    rcases mem_add hx with ⟨rfl, hr⟩ | hx
    · exact hr.symm
    · exact h.ranks r x hx
  nodup r h8 := by
    simp only [Prog.add, addAt, h8, if_false, upsert_eq]
    split
    · exact nodup_upsertBy slotOf i (h.nodup r h8)
    · exact h.nodup r h8

theorem wf_foldl {p : Prog} (h : WF p) (is : List Instruction) : WF (is.foldl Prog.add p) := by
  induction is generalizing p with
  | nil => exact h
  | cons i is ih => exact ih (wf_add h i)

theorem wf_build (is : List Instruction) : WF (build is) := wf_foldl wf_empty is

theorem mem_foldl {is : List Instruction} {p : Prog} {x : Instruction} {r : Nat}
    (h : x ∈ (is.foldl Prog.add p) r) : x ∈ is ∨ x ∈ p r := by
  induction is generalizing p with
  | nil => exact .inr h
  | cons i is ih =>
    rcases ih h with h | h
    · exact .inl (List.mem_cons_of_mem _ h)
    · rcases mem_add h with ⟨rfl, _⟩ | h
      · exact .inl (List.mem_cons_self ..)
      · exact .inr h

theorem mem_build {is : List Instruction} {x : Instruction} {r : Nat} (h : x ∈ (build is) r) : x ∈ is :=
  (mem_foldl h).resolve_right (fun h => nomatch h)

theorem mem_listing {p : Prog} {x : Instruction} : x ∈ p.listing ↔ ∃ r, r ≤ 8 ∧ x ∈ p r := by
  simp only [Prog.listing, List.mem_append]
  constructor
  · intro h
    rcases h with h | h | h | h | h | h | h | h | h <;> exact ⟨_, by omega, h⟩
  · rintro ⟨r, hr, h⟩
    have : r = 0 ∨ r = 1 ∨ r = 2 ∨ r = 3 ∨ r = 4 ∨ r = 5 ∨ r = 6 ∨ r = 7 ∨ r = 8 := by omega
    rcases this with rfl | rfl | rfl | rfl | rfl | rfl | rfl | rfl | rfl <;> simp [h]

theorem mem_listing_build {is : List Instruction} {x : Instruction} (h : x ∈ (build is).listing) : x ∈ is :=
  let ⟨_, _, hx⟩ := mem_listing.mp h
  mem_build hx

theorem foldl_add_at (is : List Instruction) (p : Prog) (r : Nat) :
    (is.foldl Prog.add p) r = (is.filter fun x => (slotOf x).rank = r).foldl (addAt r) (p r) := by
  induction is generalizing p with
  | nil => rfl
  | cons i is ih =>
    simp only [List.foldl_cons, ih, List.filter_cons]
    by_cases hr : (slotOf i).rank = r
    · simp [hr, Prog.add]
    · have hr' : ¬ r = (slotOf i).rank := fun h => hr h.symm
      simp [hr, hr', Prog.add]

theorem foldl_push (xs l : List Instruction) : xs.foldl (fun a i => a ++ [i]) l = l ++ xs := by
  induction xs generalizing l with
  | nil => simp
  | cons x xs ih => simp [ih]

theorem filter_rank_container {p : Prog} (h : WF p) (r s : Nat) :
    (p s).filter (fun x => (slotOf x).rank = r) = if s = r then p s else [] := by
  split
  · rename_i hs
    subst hs
    exact List.filter_eq_self.mpr (fun x hx => by simpa using h.ranks s x hx)
  · rename_i hs
    exact List.filter_eq_nil_iff.mpr (fun x hx => by
      have := h.ranks s x hx
      simp
      omega)

theorem filter_rank_listing {p : Prog} (h : WF p) (r : Nat) (hr : r ≤ 8) :
    p.listing.filter (fun x => (slotOf x).rank = r) = p r := by
  simp only [Prog.listing, List.filter_append, filter_rank_container h]
  have : r = 0 ∨ r = 1 ∨ r = 2 ∨ r = 3 ∨ r = 4 ∨ r = 5 ∨ r = 6 ∨ r = 7 ∨ r = 8 := by omega
  rcases this with rfl | rfl | rfl | rfl | rfl | rfl | rfl | rfl | rfl <;> simp

theorem build_high (is : List Instruction) (r : Nat) (hr : 8 < r) : (build is) r = [] := by
  rw [build, foldl_add_at]
  have : (is.filter fun x => (slotOf x).rank = r) = [] :=
    List.filter_eq_nil_iff.mpr (fun x _ => by have := rank_le_8 (slotOf x); simp; omega)
  simp [this, Prog.empty]

/-- **`from_instructions(to_instructions(P)) = P`** for every program built by `add_instruction`s -/
theorem build_listing_build (is : List Instruction) : build (build is).listing = build is := by
  funext r
  by_cases hr : r ≤ 8
  · have hwf := wf_build is
    rw [build, foldl_add_at, filter_rank_listing hwf r hr]
    by_cases h8 : r = 8
    · subst h8
      have : addAt 8 = fun a i => a ++ [i] := by funext a i; simp [addAt]
      rw [this, foldl_push]; simp [Prog.empty]
    · have : addAt r = upsertBy slotOf := by funext a i; simp [addAt, h8, upsert_eq]
      rw [this, foldl_upsertBy_of_nodup slotOf _ _ (by simpa [Prog.empty] using hwf.nodup r h8)]
      simp [Prog.empty]
  · rw [build_high _ r (by omega), build_high _ r (by omega)]

def mapProg (f : Instruction → Instruction) (p : Prog) : Prog := fun r => (p r).map f

theorem add_map (f : Instruction → Instruction) (hf : ∀ i, slotOf (f i) = slotOf i) (p : Prog) (i : Instruction) :
    (mapProg f p).add (f i) = mapProg f (p.add i) := by
  funext r
  simp only [Prog.add, mapProg, hf]
  split
  · simp only [addAt]
    split
    · simp
    · rw [upsert_eq]; exact upsertBy_map slotOf f hf _ _
  · rfl

theorem foldl_add_map (f : Instruction → Instruction) (hf : ∀ i, slotOf (f i) = slotOf i)
    (xs : List Instruction) (p : Prog) :
    (xs.map f).foldl Prog.add (mapProg f p) = mapProg f (xs.foldl Prog.add p) := by
  induction xs generalizing p with
  | nil => rfl
  | cons x xs ih =>
    simp only [List.map_cons, List.foldl_cons]
    rw [add_map f hf p x]
    exact ih (p.add x)

theorem build_map (f : Instruction → Instruction) (hf : ∀ i, slotOf (f i) = slotOf i) (xs : List Instruction) :
    build (xs.map f) = mapProg f (build xs) :=
  foldl_add_map f hf xs Prog.empty

theorem listing_mapProg (f : Instruction → Instruction) (p : Prog) :
    (mapProg f p).listing = p.listing.map f := by
  simp [Prog.listing, mapProg]

theorem slotOf_canonInstr (i : Instruction) : slotOf (canonInstr i) = slotOf i := by
  cases i <;> rfl

theorem mapProg_eq_self (f : Instruction → Instruction) (is : List Instruction) (h : ∀ i ∈ is, f i = i) :
    mapProg f (build is) = build is := by
  funext r
  exact (List.map_congr_left fun x hx => h x (mem_build hx)).trans (List.map_id _)

end QV.C02
