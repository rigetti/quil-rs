import QV.C02.Reads
import QV.C02.Fields
/-!
DELAY.  `parse_delay` reads the qubits greedily (`many0(parse_qubit)`), which may swallow the first token of the
duration, then gives qubits back one at a time until the rest parses as frame names and an expression; the printer
parenthesises the durations for which that would go wrong.  `delayShape_of` classifies a printed duration as the qubit
parser sees it, `parseDelay_noNames` runs the loop; frame names (strings) stop the qubit parser.  Last: RAW-CAPTURE.
-/
namespace QV.C02
open QV QV.Tok QV.Ast QV.Parse QV.Print QV.ExprPrint QV.ExprRoundTrip

theorem many0_parseQubit_extra (qs : List Qubit) (h : qs.all noPlaceholder = true) (t : Token) (q : Qubit)
    (tl : List Token) (ht : ∀ r, parseQubit (t :: r) = .ok q r) (htl : notQubit tl = true) :
    many0 parseQubit (qubitsToks qs ++ t :: tl) = .ok (qs ++ [q]) tl := by
  unfold many0
  have hl : (qubitsToks qs ++ t :: tl).length + 1 = qs.length + (tl.length + 2) := by
    simp [length_qubitsToks]; omega
  rw [hl]
  unfold qubitsToks
  rw [many0Fuel_items_append parseQubit qubitToks id (fun _ => true) qs (t :: tl)
    (fun q hq r _ => parseQubit_toks q (List.all_eq_true.mp h q hq) r) (fun q _ => qubitToks_ne_nil q)
    (fun _ _ _ => rfl) rfl]
  simp only [many0Fuel, ht, parseQubit_stop tl htl]
  simp [Outcome.map]

theorem namesAndDuration_nil (pe : Parser PExpr) (T : List Token) (h : notString T = true) :
    parseDelayFrameNamesAndDuration pe T = (pe T).map (fun x => (([] : List String), x)) := by
  simp only [parseDelayFrameNamesAndDuration, bind_eq, Parser.bind, many0_err (tokString_of_notString h), List.map_nil,
    pure_eq, Parser.pure]
  cases pe T <;> rfl

/-- the two shapes of a printed duration `D` that directly follows the qubits: it does not look like a qubit, or its
first token does and what remains after that token is not an expression (so the second attempt of `parse_delay`,
with one qubit given back, is the one that succeeds) -/
structure DelayShape (pe : Parser PExpr) (D : List Token) (e' : PExpr) (rest : List Token) : Prop where
  parses : pe (D ++ .newLine :: rest) = .ok e' (.newLine :: rest)
  notStr : notString (D ++ .newLine :: rest) = true
  shape : notQubit (D ++ .newLine :: rest) = true ∨
    ∃ t q tl, D = t :: tl ∧ (∀ r, parseQubit (t :: r) = .ok q r) ∧ notQubit (tl ++ .newLine :: rest) = true ∧
      notString (tl ++ .newLine :: rest) = true ∧ pe (tl ++ .newLine :: rest) = .err

theorem parseDelay_first (pe : Parser PExpr) (qs : List Qubit) (hq : qs.all noPlaceholder = true)
    (T : List Token) (hT : notQubit T = true) (ns : List String) (e' : PExpr) (R : List Token)
    (hp : parseDelayFrameNamesAndDuration pe T = .ok (ns, e') R) :
    parseDelay pe (qubitsToks qs ++ T) = .ok (.delay ⟨e', ns, qs⟩) R := by
  have hdrop : (qubitsToks qs ++ T).drop qs.length = T := by rw [← length_qubitsToks qs, List.drop_left]
  have hle : qs.length ≤ (qubitsToks qs ++ T).length := by simp [length_qubitsToks]
  simp only [parseDelay, many0_parseQubit qs hq T hT, delayAttempts, sliceFrom, hle, if_true, hdrop, hp,
    List.take_length]

theorem parseDelay_noNames (pe : Parser PExpr) (qs : List Qubit) (hq : qs.all noPlaceholder = true)
    (D : List Token) (e' : PExpr) (rest : List Token) (hs : DelayShape pe D e' rest) :
    parseDelay pe (qubitsToks qs ++ (D ++ .newLine :: rest)) = .ok (.delay ⟨e', [], qs⟩) (.newLine :: rest) := by
  have hdrop : (qubitsToks qs ++ (D ++ .newLine :: rest)).drop qs.length = D ++ .newLine :: rest := by
    rw [← length_qubitsToks qs, List.drop_left]
  have hp0 : parseDelayFrameNamesAndDuration pe (D ++ .newLine :: rest) = .ok ([], e') (.newLine :: rest) := by
    rw [namesAndDuration_nil pe _ hs.notStr, hs.parses]; rfl
  rcases hs.shape with h0 | ⟨t, q, tl, hD, ht, htl, htls, herr⟩
  · exact parseDelay_first pe qs hq _ h0 [] e' _ hp0
  · -- the first token of the duration was taken for a qubit: one step of back-tracking
    subst hD
    have hm := many0_parseQubit_extra qs hq t q (tl ++ .newLine :: rest) ht htl
    have hle : qs.length + 1 ≤ (qubitsToks qs ++ (t :: tl ++ .newLine :: rest)).length := by
      simp [length_qubitsToks]
    have hle' : qs.length ≤ (qubitsToks qs ++ (t :: tl ++ .newLine :: rest)).length := by omega
    have hdrop1 : (qubitsToks qs ++ (t :: tl ++ .newLine :: rest)).drop (qs.length + 1) = tl ++ .newLine :: rest := by
      rw [← List.drop_drop, hdrop]; rfl
    have hp1 : parseDelayFrameNamesAndDuration pe (tl ++ .newLine :: rest) = .err := by
      rw [namesAndDuration_nil pe _ htls, herr]; rfl
    have hlenq : (qs ++ [q]).length = qs.length + 1 := by simp
    simp only [List.cons_append] at hle hle' hdrop1 hdrop hp0 ⊢
    simp only [parseDelay, hm, hlenq, delayAttempts, sliceFrom, hle, if_true, hdrop1, hp1, delayBacktrack,
      hle', hdrop, hp0]
    simp

/-- the `match` of `Delay::write`'s `is_ambiguous` (timing.rs:55) -/
def durAmb : PExpr → Bool
  | .call _ _ => true
  | .bin _ _ _ => true
  | .number z => isPrintedAsInfix z
  | .pre .plus _ => true
  | _ => false

theorem delayAmbiguous_noNames (dur : PExpr) (qs : List Qubit) : delayAmbiguous ⟨dur, [], qs⟩ = durAmb dur := by
  cases dur <;> simp [delayAmbiguous, durAmb]
  rename_i o _; cases o <;> simp

theorem parseExpression_wrapped (F : NumFmt) (e : PExpr) (hf : finiteLits e = true) (hn : numTokOk F e = true)
    (rest : List Token) :
    parseExpression (.lParenthesis :: (printTop F e ++ .rParenthesis :: .newLine :: rest)) =
      .ok (norm e) (.newLine :: rest) := by
  simpa using (((roundtrip F e hf hn).2.group.operand (by simp)).readsAt Prec.lowest).parseExpression
    (rest := .newLine :: rest) rfl

theorem number_shape (F : NumFmt) (z : CBits) (hn : numTokOkAt F z = true) (hi : delayImagOk F (.number z) = true)
    (ha : isPrintedAsInfix z = false) (T : List Token) :
    notQubit (complexToks F z ++ T) = true ∨ ∃ n, complexToks F z = [.integer n] := by
  simp only [numTokOkAt, Bool.and_eq_true, beq_iff_eq] at hn
  unfold complexToks
  by_cases h1 : (fZero z.re && fZero z.im) = true
  · rw [if_pos h1]; exact .inr ⟨0, rfl⟩
  · rw [if_neg h1]
    by_cases h2 : fZero z.im = true
    · rw [if_pos h2, signedToks_eq]
      cases fSign z.re
      · obtain ⟨n, e⟩ | ⟨b, e⟩ := tokBits_not_num hn.1
        · exact .inr ⟨n, by rw [e]; rfl⟩
        · exact .inl (by rw [e]; rfl)
      · exact .inl rfl
    · have h3 : fZero z.re = true := by simpa [isPrintedAsInfix, h2] using ha
      rw [if_neg h2, if_pos h3, signedToks_eq]
      cases fSign z.im
      · simp only [delayImagOk, h3, h2, Bool.not_true, Bool.not_false, Bool.and_self, Bool.false_or] at hi
        split at hi
        · rename_i b e; exact .inl (by rw [e]; rfl)
        · cases hi
      · exact .inl rfl

theorem delayShape_of (F : NumFmt) (e : PExpr) (hf : finiteLits e = true) (hn : numTokOk F e = true)
    (hi : delayImagOk F e = true) (rest : List Token) :
    DelayShape parseExpression (wrapIf (durAmb e) (printTop F e)) (norm e) rest := by
  by_cases ha : durAmb e = true
  · rw [ha]
    refine ⟨?_, rfl, Or.inl rfl⟩
    simp only [wrapIf_true, List.cons_append, List.append_assoc]
    exact parseExpression_wrapped F e hf hn rest
  · rw [Bool.not_eq_true] at ha
    rw [ha, wrapIf_false]
    refine ⟨parseExpression_printTop F e hf hn (.newLine :: rest) rfl, printTop_notString F e hn _, ?_⟩
    -- the first token may be taken for a qubit when it is an integer, a variable or a name
    cases e with
    | call f x => cases ha
    | bin l o r => cases ha
    | address r =>
      exact .inr ⟨identTok r.name, .variable r.name, [.lBracket, .integer r.index, .rBracket], rfl,
        fun r' => by simp [parseQubit, identTok], rfl, rfl, parseExpression_lBracket _⟩
    | var x =>
      exact .inr ⟨.variable x.toList, .variable x, [], rfl, fun r' => by simp [parseQubit], rfl, rfl,
        parseExpression_newLine _⟩
    | pi =>
      exact .inr ⟨tokPi, .variable "pi", [], rfl, fun r' => by simp [parseQubit, tokPi, Parse.str], rfl, rfl,
        parseExpression_newLine _⟩
    | pre o x =>
      cases o with
      | plus => cases ha
      | minus => exact .inl rfl
    | number z =>
      simp only [numTokOk, allLits] at hn
      rcases number_shape F z hn hi ha (.newLine :: rest) with h | ⟨n, e⟩
      · exact .inl h
      · rw [printTop, e]
        exact .inr ⟨.integer n, .fixed n, [], rfl, fun r' => rfl, rfl, rfl, parseExpression_newLine _⟩

/-- for C04 (a DELAY built through the API) -/
theorem reads_delay_norm (F : NumFmt) (dl : Delay) (hq : dl.qubits.all noPlaceholder = true)
    (hf : finiteLits dl.duration = true) (hn : numTokOk F dl.duration = true)
    (hi : delayImagOk F dl.duration = true) :
    Reads anyRest (toks F (.delay dl)) (.delay { dl with duration := norm dl.duration }) := by
  obtain ⟨dur, names, qs⟩ := dl
  cases names with
  | nil =>
    have hamb := delayAmbiguous_noNames dur qs
    refine reads_of_parser (c := .delay) (parseDelay parseExpression)
      (payload := qubitsToks qs ++ wrapIf (durAmb dur) (printTop F dur)) ?_ rfl fun rest _ => ?_
    · dsimp only [toks]
      simp [delayToks, hamb, cmd]
    · rw [List.append_assoc]
      exact parseDelay_noNames parseExpression qs hq _ _ rest (delayShape_of F dur hf hn hi rest)
  | cons n ns =>
    have hamb : delayAmbiguous ⟨dur, n :: ns, qs⟩ = false := by simp [delayAmbiguous]
    refine reads_of_parser (c := .delay) (parseDelay parseExpression)
      (payload := qubitsToks qs ++ (n :: ns).map strTok ++ printTop F dur) ?_ rfl fun rest _ => ?_
    · dsimp only [toks]
      simp [delayToks, hamb, cmd, wrapIf]
    · have hnames := many0_tokString_names (n :: ns) (printTop F dur ++ .newLine :: rest)
        (printTop_notString F dur hn _)
      have hp : parseDelayFrameNamesAndDuration parseExpression
          ((n :: ns).map strTok ++ (printTop F dur ++ .newLine :: rest)) =
            .ok (n :: ns, norm dur) (.newLine :: rest) := by
        simp only [parseDelayFrameNamesAndDuration, bind_eq, Parser.bind, hnames,
          parseExpression_printTop F dur hf hn (.newLine :: rest) rfl, pure_eq, Parser.pure, map_str_toList]
      simp only [List.append_assoc]
      exact parseDelay_first _ qs hq _ rfl (n :: ns) (norm dur) _ hp

theorem reads_delay (F : NumFmt) (dl : Delay) (hp : parsedInstr (.delay dl) = true)
    (hn : numTokInstr F (.delay dl) = true) : Reads anyRest (toks F (.delay dl)) (.delay dl) := by
  dsimp only [parsedInstr] at hp
  simp only [Bool.and_eq_true] at hp
  dsimp only [numTokInstr] at hn
  simp only [Bool.and_eq_true] at hn
  have := reads_delay_norm F dl hp.2 (finiteLits_parsedExpr _ hp.1) hn.1 hn.2
  rwa [norm_parsedExpr _ hp.1] at this

theorem parseRawCapture_toks (F : NumFmt) (b : Bool) (f : FrameIdentifier) (e : PExpr) (m : MemRef)
    (hf : frameOk f = true) (he : finiteLits e = true) (hn : numTokOk F e = true)
    (hm : m.name ≠ "i") (rest : List Token) :
    parseRawCapture parseExpression b (frameToks f ++ (printTop F e ++ (memRefToks m ++ rest))) =
      .ok (.rawCapture ⟨b, f, norm e, m⟩) rest := by
  have hend : endOk (memRefToks m ++ rest) = true := name_ne_i m.name (beq_eq_false_iff_ne.mpr hm)
  simp only [parseRawCapture, bind_eq, Parser.bind, parseFrameIdentifier_toks f hf,
    parseExpression_printTop F e he hn (memRefToks m ++ rest) hend, parseMemoryReference_toks, pure_eq, Parser.pure]

/-- for C04 (a RAW-CAPTURE built through the API) -/
theorem reads_rawCapture_norm (F : NumFmt) (r : RawCapture) (hf : frameOk r.frame = true)
    (he : finiteLits r.duration = true) (hn : numTokOk F r.duration = true)
    (hm : r.memoryReference.name ≠ "i") :
    Reads anyRest (toks F (.rawCapture r)) (.rawCapture { r with duration := norm r.duration }) := by
  obtain ⟨b, f, e, m⟩ := r
  refine reads_of_blocking .rawCapture b (frameToks f ++ (printTop F e ++ memRefToks m))
    (parseRawCapture parseExpression) (by dsimp only [toks]; simp only [List.append_assoc]) rfl (fun _ => rfl)
    fun rest => ?_
  simp only [List.append_assoc]
  exact parseRawCapture_toks F b f e m hf he hn hm (.newLine :: rest)

theorem reads_rawCapture (F : NumFmt) (r : RawCapture) (hp : parsedInstr (.rawCapture r) = true)
    (hn : numTokInstr F (.rawCapture r) = true) (hm : r.memoryReference.name ≠ "i") :
    Reads anyRest (toks F (.rawCapture r)) (.rawCapture r) := by
  dsimp only [parsedInstr] at hp
  simp only [Bool.and_eq_true] at hp
  dsimp only [numTokInstr] at hn
  have := reads_rawCapture_norm F r hp.1 (finiteLits_parsedExpr _ hp.2) hn hm
  rwa [norm_parsedExpr _ hp.2] at this

end QV.C02
