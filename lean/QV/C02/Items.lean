import QV.C02.Spec
import QV.Shared.ParseLemmas
/-!
Printed lists under the list combinators, generic in the item parser and in the encoding of an item: `many0` / `many1`
over a concatenation of items, `separated_list0/1` over items joined by separator tokens (commas; newlines with an
indentation); the three `rfl` equations that turn `do` notation into `Parser.bind` / `Parser.pure`; and the token
classes that say what may follow an instruction (`startTok`, `restOk`, `startsNL`).
-/
namespace QV.C02
open QV QV.Tok QV.Ast QV.Parse QV.Print QV.ExprPrint

/- `do` notation is `Parser.bind` / `Parser.pure` by `rfl`, and simp uses these three to say so.  After `simp only
[…, bind_eq, Parser.bind, …]` has stepped through a parser, the continuation is a `fun` over a `match` that is the next
field lemma's left-hand side only up to unfolding: that is where the proofs of this directory write `erw`. -/
@[simp] theorem bind_eq {α β : Type} (p : Parser α) (f : α → Parser β) : (p >>= f) = Parser.bind p f := rfl

@[simp] theorem pure_eq {α : Type} (a : α) : (Pure.pure a : Parser α) = Parser.pure a := rfl

@[simp] theorem seq_unit_eq {β : Type} (p : Parser Unit) (q : Parser β) :
    (do p; q) = Parser.bind p (fun _ => q) := rfl

attribute [simp] QV.Parse.str_toList_eq

theorem length_le_flatMap {α : Type} (enc : α → List Token) (xs : List α) (hne : ∀ x ∈ xs, enc x ≠ []) :
    xs.length ≤ (xs.flatMap enc).length := by
  induction xs with
  | nil => simp
  | cons x xs ih =>
    have h1 : 0 < (enc x).length := List.length_pos_iff.mpr (hne x (by simp))
    have h2 := ih (fun y hy => hne y (by simp [hy]))
    simp only [List.flatMap_cons, List.length_append, List.length_cons]
    omega

theorem okTail_flatMap {α : Type} (enc : α → List Token) (okTail : List Token → Bool) (xs : List α) (T : List Token)
    (henc : ∀ x ∈ xs, ∀ r, okTail (enc x ++ r) = true) (hT : okTail T = true) :
    okTail (xs.flatMap enc ++ T) = true := by
  cases xs with
  | nil => exact hT
  | cons y ys => rw [List.flatMap_cons, List.append_assoc]; exact henc y (by simp) _

/-- `okTail`: what must follow an item for the item parser to read it back (`endOk` for expressions, which an operator
would continue); every item and `T` begin in that way (`henc`, `hT`). -/
theorem many0Fuel_items_append {α β : Type} (p : Parser β) (enc : α → List Token) (g : α → β)
    (okTail : List Token → Bool) (xs : List α) (T : List Token)
    (hp : ∀ x ∈ xs, ∀ r, okTail r = true → p (enc x ++ r) = .ok (g x) r)
    (hne : ∀ x ∈ xs, enc x ≠ []) (henc : ∀ x ∈ xs, ∀ r, okTail (enc x ++ r) = true)
    (hT : okTail T = true) (k : Nat) :
    many0Fuel p (xs.length + k) (xs.flatMap enc ++ T) = (many0Fuel p k T).map (fun l => xs.map g ++ l) := by
  induction xs with
  | nil =>
    simp only [List.length_nil, Nat.zero_add, List.flatMap_nil, List.nil_append, List.map_nil]
    cases many0Fuel p k T <;> rfl
  | cons x xs ih =>
    have hx := hp x (by simp) _ (okTail_flatMap enc okTail xs T (fun y hy => henc y (by simp [hy])) hT)
    have hlen : 0 < (enc x).length := List.length_pos_iff.mpr (hne x (by simp))
    have e : (x :: xs).length + k = (xs.length + k) + 1 := by simp only [List.length_cons]; omega
    rw [e]
    simp only [List.flatMap_cons, List.append_assoc, many0Fuel, hx]
    have : ¬ ((xs.flatMap enc ++ T).length == (enc x ++ (xs.flatMap enc ++ T)).length) = true := by
      simp only [List.length_append, beq_iff_eq]; omega
    simp only [this, if_false]
    rw [ih (fun y hy => hp y (by simp [hy])) (fun y hy => hne y (by simp [hy])) (fun y hy => henc y (by simp [hy]))]
    cases many0Fuel p k T <;> rfl

theorem many0Fuel_items_ok {α β : Type} (p : Parser β) (enc : α → List Token) (g : α → β)
    (okTail : List Token → Bool) (xs : List α) (rest : List Token)
    (hp : ∀ x ∈ xs, ∀ r, okTail r = true → p (enc x ++ r) = .ok (g x) r)
    (hne : ∀ x ∈ xs, enc x ≠ []) (henc : ∀ x ∈ xs, ∀ r, okTail (enc x ++ r) = true)
    (hrest : okTail rest = true) (hstop : p rest = .err) (k : Nat) (hk : xs.length < k) :
    many0Fuel p k (xs.flatMap enc ++ rest) = .ok (xs.map g) rest := by
  obtain ⟨k', rfl⟩ : ∃ k', k = xs.length + (k' + 1) := ⟨k - xs.length - 1, by omega⟩
  rw [many0Fuel_items_append p enc g okTail xs rest hp hne henc hrest]
  simp [many0Fuel, hstop, Outcome.map]

/-- The last item `z` is read back before this `rest` only (`hz`), not before every `okTail` continuation: a definition
at the end of a body, whose own block a further body line would continue. -/
theorem many0Fuel_items_last {α β : Type} (p : Parser β) (enc : α → List Token) (g : α → β)
    (okTail : List Token → Bool) (xs : List α) (z : α) (rest : List Token)
    (hp : ∀ x ∈ xs, ∀ r, okTail r = true → p (enc x ++ r) = .ok (g x) r)
    (hne : ∀ x ∈ xs, enc x ≠ []) (hzne : enc z ≠ []) (henc : ∀ x r, okTail (enc x ++ r) = true)
    (hz : p (enc z ++ rest) = .ok (g z) rest) (hstop : p rest = .err) (k : Nat) (hk : xs.length + 1 < k) :
    many0Fuel p k (xs.flatMap enc ++ (enc z ++ rest)) = .ok (xs.map g ++ [g z]) rest := by
  obtain ⟨k', rfl⟩ : ∃ k', k = xs.length + (k' + 2) := ⟨k - xs.length - 2, by omega⟩
  rw [many0Fuel_items_append p enc g okTail xs _ hp hne (fun x _ => henc x) (henc z rest)]
  simp [many0Fuel, hz, hstop, Outcome.map, hzne]

theorem many1_items_ok {α β : Type} (p : Parser β) (enc : α → List Token) (g : α → β)
    (okTail : List Token → Bool) (x : α) (xs : List α) (rest : List Token)
    (hp : ∀ y ∈ x :: xs, ∀ r, okTail r = true → p (enc y ++ r) = .ok (g y) r)
    (hne : ∀ y ∈ x :: xs, enc y ≠ []) (henc : ∀ y ∈ x :: xs, ∀ r, okTail (enc y ++ r) = true)
    (hrest : okTail rest = true) (hstop : p rest = .err) :
    many1 p (enc x ++ (xs.flatMap enc ++ rest)) = .ok ((x :: xs).map g) rest := by
  unfold many1
  rw [hp x (by simp) _ (okTail_flatMap enc okTail xs rest (fun y hy => henc y (by simp [hy])) hrest)]
  simp only []
  rw [many0Fuel_items_ok p enc g okTail xs rest (fun y hy => hp y (by simp [hy]))
    (fun y hy => hne y (by simp [hy])) (fun y hy => henc y (by simp [hy])) hrest hstop]
  · rfl
  · have := length_le_flatMap enc xs (fun y hy => hne y (by simp [hy]))
    simp only [List.length_append]; omega

theorem many1_items_last {α β : Type} (p : Parser β) (enc : α → List Token) (g : α → β)
    (okTail : List Token → Bool) (xs : List α) (z : α) (rest : List Token)
    (hp : ∀ x ∈ xs, ∀ r, okTail r = true → p (enc x ++ r) = .ok (g x) r)
    (hne : ∀ x ∈ xs, enc x ≠ []) (hzne : enc z ≠ []) (henc : ∀ x r, okTail (enc x ++ r) = true)
    (hz : p (enc z ++ rest) = .ok (g z) rest) (hstop : p rest = .err) :
    many1 p ((xs ++ [z]).flatMap enc ++ rest) = .ok ((xs ++ [z]).map g) rest := by
  cases xs with
  | nil => simp [many1, hz, many0Fuel, hstop, Outcome.map]
  | cons x xs =>
    have hx := hp x (by simp) _ (okTail_flatMap enc okTail xs _ (fun y _ => henc y) (henc z rest))
    have h0 := many0Fuel_items_last p enc g okTail xs z rest (fun y hy => hp y (by simp [hy]))
      (fun y hy => hne y (by simp [hy])) hzne henc hz hstop
      ((xs.flatMap enc ++ (enc z ++ rest)).length + 1) (by
        have := length_le_flatMap enc xs (fun y hy => hne y (by simp [hy]))
        have hlen : 0 < (enc z).length := List.length_pos_iff.mpr hzne
        simp only [List.length_append]; omega)
    simp only [List.cons_append, List.flatMap_cons, List.flatMap_append, List.flatMap_nil, List.append_nil,
      List.append_assoc, many1, hx, h0, Outcome.map, List.map_cons, List.map_append, List.map_nil]

theorem many0_items {α : Type} (p : Parser α) (enc : α → List Token) (xs : List α) (rest : List Token)
    (hp : ∀ x ∈ xs, ∀ r, p (enc x ++ r) = .ok x r) (hne : ∀ x ∈ xs, enc x ≠ []) (hstop : p rest = .err) :
    many0 p (xs.flatMap enc ++ rest) = .ok xs rest := by
  have h := many0Fuel_items_ok p enc id (fun _ => true) xs rest (fun x hx r _ => hp x hx r) hne (fun _ _ _ => rfl)
    rfl hstop ((xs.flatMap enc ++ rest).length + 1) (by
      have := length_le_flatMap enc xs hne
      simp only [List.length_append]; omega)
  rwa [List.map_id] at h

theorem many1_items {α : Type} (p : Parser α) (enc : α → List Token) (x : α) (xs : List α) (rest : List Token)
    (hp : ∀ y ∈ x :: xs, ∀ r, p (enc y ++ r) = .ok y r) (hne : ∀ y ∈ x :: xs, enc y ≠ []) (hstop : p rest = .err) :
    many1 p (enc x ++ (xs.flatMap enc ++ rest)) = .ok (x :: xs) rest := by
  have h := many1_items_ok p enc id (fun _ => true) x xs rest (fun y hy r _ => hp y hy r) hne (fun _ _ _ => rfl)
    rfl hstop
  rwa [List.map_id] at h

theorem sepBy_cons (sep : List Token) (x : List Token) (xs : List (List Token)) :
    sepBy sep (x :: xs) = x ++ xs.flatMap (fun y => sep ++ y) := by
  induction xs generalizing x with
  | nil => simp [sepBy]
  | cons y ys ih => simp [sepBy, ih]

/-- The second alternative of `hstop` is how a list of indented lines ends: the newline separator succeeds and the
indentation after it fails (`separatedList1_lines_toks`). -/
theorem sepLoopFuel_items {α β γ : Type} (sep : Parser γ) (sv : γ) (st : List Token) (p : Parser β)
    (enc : α → List Token) (g : α → β) (okTail : List Token → Bool) (xs : List α) (rest : List Token)
    (hst : st ≠ [])
    (hsep : ∀ x ∈ xs, ∀ r, sep (st ++ (enc x ++ r)) = .ok sv (enc x ++ r))
    (hp : ∀ x ∈ xs, ∀ r, okTail r = true → p (enc x ++ r) = .ok (g x) r)
    (hmid : ∀ r, okTail (st ++ r) = true) (he : okTail rest = true)
    (hstop : sep rest = .err ∨ ∃ v r1, sep rest = .ok v r1 ∧ r1.length ≠ rest.length ∧ p r1 = .err)
    (k : Nat) (hk : xs.length < k) :
    sepLoopFuel sep p k (xs.flatMap (fun x => st ++ enc x) ++ rest) = .ok (xs.map g) rest := by
  induction xs generalizing k with
  | nil =>
    cases k with
    | zero => omega
    | succ k =>
      rcases hstop with h | ⟨v, r1, h1, h2, h3⟩
      · simp [sepLoopFuel, h]
      · simp [sepLoopFuel, h1, h2, h3]
  | cons x xs ih =>
    cases k with
    | zero => omega
    | succ k =>
      have hnext := okTail_flatMap (fun x => st ++ enc x) okTail xs rest
        (fun _ _ _ => by simp only [List.append_assoc]; exact hmid _) he
      have h1 := hp x (by simp) _ hnext
      have hs := hsep x (by simp) (xs.flatMap (fun x => st ++ enc x) ++ rest)
      have ih' := ih (fun y hy => hsep y (by simp [hy])) (fun y hy => hp y (by simp [hy])) k
        (by simp at hk; omega)
      simp only [List.flatMap_cons, List.append_assoc]
      simp only [sepLoopFuel, hs]
      have hl : ¬ ((enc x ++ (List.flatMap (fun x => st ++ enc x) xs ++ rest)).length ==
          (st ++ (enc x ++ (List.flatMap (fun x => st ++ enc x) xs ++ rest))).length) = true := by
        have : 0 < st.length := List.length_pos_iff.mpr hst
        simp only [List.length_append, beq_iff_eq]; omega
      simp only [hl, h1, ih', Outcome.map, List.map_cons]
      simp

theorem separatedList_items {α β γ : Type} (sep : Parser γ) (sv : γ) (st : List Token) (p : Parser β)
    (enc : α → List Token) (g : α → β) (okTail : List Token → Bool) (x : α) (xs : List α) (rest : List Token)
    (hst : st ≠ [])
    (hsep : ∀ y ∈ xs, ∀ r, sep (st ++ (enc y ++ r)) = .ok sv (enc y ++ r))
    (hp : ∀ y ∈ x :: xs, ∀ r, okTail r = true → p (enc y ++ r) = .ok (g y) r)
    (hmid : ∀ r, okTail (st ++ r) = true) (he : okTail rest = true)
    (hstop : sep rest = .err ∨ ∃ v r1, sep rest = .ok v r1 ∧ r1.length ≠ rest.length ∧ p r1 = .err) :
    separatedList1 sep p (enc x ++ (xs.flatMap (fun y => st ++ enc y) ++ rest)) = .ok ((x :: xs).map g) rest ∧
    separatedList0 sep p (enc x ++ (xs.flatMap (fun y => st ++ enc y) ++ rest)) = .ok ((x :: xs).map g) rest := by
  have hnext := okTail_flatMap (fun x => st ++ enc x) okTail xs rest
    (fun _ _ _ => by simp only [List.append_assoc]; exact hmid _) he
  have h1 := hp x (by simp) _ hnext
  have hloop := sepLoopFuel_items sep sv st p enc g okTail xs rest hst hsep (fun y hy => hp y (by simp [hy])) hmid he hstop
    ((xs.flatMap (fun y => st ++ enc y) ++ rest).length + 1) (by
      have := length_le_flatMap (fun y => st ++ enc y) xs fun _ _ => List.append_ne_nil_of_left_ne_nil hst _
      simp only [List.length_append]; omega)
  simp only [separatedList1, separatedList0, h1, hloop, Outcome.map, List.map_cons, and_self]

theorem commaList_items {α β : Type} (p : Parser β) (enc : α → List Token) (g : α → β)
    (okTail : List Token → Bool) (x : α) (xs : List α) (rest : List Token)
    (hp : ∀ y ∈ x :: xs, ∀ r, okTail r = true → p (enc y ++ r) = .ok (g y) r)
    (hcomma : ∀ r, okTail (.comma :: r) = true)
    (hc : headNe .comma rest = true) (he : okTail rest = true) :
    separatedList1 (tok .comma) p (sepBy [.comma] ((x :: xs).map enc) ++ rest) = .ok ((x :: xs).map g) rest ∧
    separatedList0 (tok .comma) p (sepBy [.comma] ((x :: xs).map enc) ++ rest) = .ok ((x :: xs).map g) rest := by
  have h := separatedList_items (tok .comma) () [.comma] p enc g okTail x xs rest (by simp)
    (fun _ _ _ => rfl) hp hcomma he (.inl (tok_of_headNe hc))
  have hflat : (xs.map enc).flatMap (fun y => [Token.comma] ++ y) = xs.flatMap (fun x => [Token.comma] ++ enc x) := by
    simp [List.flatMap_map]
  rw [List.map_cons, sepBy_cons, hflat, List.append_assoc]
  exact h

theorem length_le_sepBy (sep : List Token) (x : List Token) (xs : List (List Token)) (hx : x ∈ xs) :
    x.length ≤ (sepBy sep xs).length := by
  induction xs with
  | nil => simp at hx
  | cons y ys ih =>
    cases ys with
    | nil => simp at hx; subst hx; simp [sepBy]
    | cons z zs =>
      simp only [sepBy, List.length_append]
      simp only [List.mem_cons] at hx
      rcases hx with rfl | hx
      · omega
      · have := ih (by simpa using hx)
        omega

/-- a token at which `skip_newlines_and_comments` stops -/
def startTok : Token → Bool
  | .indentation | .comment _ | .newLine | .semicolon => false
  | _ => true

/-- what follows a top-level instruction's newline: nothing, or the first token of the next instruction — in
particular NOT an indentation (which would continue the block of a definition) -/
def restOk : List Token → Bool
  | [] => true
  | t :: _ => startTok t

def startsNL : List Token → Bool
  | .newLine :: _ => true
  | _ => false

theorem eq_newLine_of_startsNL {r : List Token} (h : startsNL r = true) : ∃ r', r = .newLine :: r' := by
  unfold startsNL at h
  split at h
  · exact ⟨_, rfl⟩
  · cases h

/-- the printer writes `INDENT line NL` per line; the parser reads `NL INDENT line` per line and leaves a final newline -/
theorem lines_eq {α : Type} (f : α → List Token) (x : α) (xs : List α) :
    .newLine :: (x :: xs).flatMap (fun y => .indentation :: (f y ++ [.newLine])) =
      (x :: xs).flatMap (fun y => [Token.newLine] ++ (.indentation :: f y)) ++ [.newLine] := by
  induction xs generalizing x with
  | nil => simp
  | cons c cs ih =>
    have := ih c
    simp only [List.flatMap_cons, List.cons_append, List.append_assoc, List.nil_append] at this ⊢
    rw [this]

theorem separatedList1_lines_toks {α β : Type} (q : Parser β) (f : α → List Token) (g : α → β) (l : List α) (hne : l ≠ [])
    (rest : List Token) (hrest : restOk rest = true)
    (hq : ∀ y ∈ l, ∀ r, startsNL r = true → q (f y ++ r) = .ok (g y) r) :
    preceded (tok .newLine) (separatedList1 (tok .newLine) (preceded (tok .indentation) q))
      (l.flatMap (fun y => [Token.newLine] ++ (.indentation :: f y)) ++ .newLine :: rest) =
        .ok (l.map g) (.newLine :: rest) := by
  obtain ⟨x, xs, rfl⟩ := List.exists_cons_of_ne_nil hne
  have hstop : tok .newLine (.newLine :: rest) = .err ∨ ∃ v r1, tok .newLine (.newLine :: rest) = .ok v r1 ∧
      r1.length ≠ (Token.newLine :: rest).length ∧ preceded (tok .indentation) q r1 = .err := by
    right
    refine ⟨(), rest, by simp [tok], by simp, ?_⟩
    cases rest with
    | nil => simp [preceded, Parser.bind, tok]
    | cons t r =>
      have : t ≠ .indentation := by intro h; subst h; simp [restOk, startTok] at hrest
      simp [preceded, Parser.bind, tok, this]
  have h := (separatedList_items (tok .newLine) () [.newLine] (preceded (tok .indentation) q)
    (fun y => .indentation :: f y) g startsNL x xs (.newLine :: rest) (by simp)
    (fun y _ r => by simp [tok])
    (fun y hy r hr => by
      have := hq y hy r hr
      simp only [preceded, bind_eq, Parser.bind, List.cons_append, tok, if_true, this])
    (fun r => by simp [startsNL]) rfl hstop).1
  simp only [preceded, bind_eq, Parser.bind, List.flatMap_cons, List.append_assoc, List.cons_append,
    List.nil_append, tok, if_true] at h ⊢
  exact h

end QV.C02
