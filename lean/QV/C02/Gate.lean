import QV.C02.Reads
import QV.C02.Fields
/-!
DEFGATE — header, and the four specification bodies (every line is `INDENT … "\n"`; the last newline is the one
`lineToks` strips), each for any expression parser `pe` that reads a printed expression `e` back as `nf e`;
`reads_gateDefinition_norm` puts them together for `parse_expression` and `norm`.
-/
namespace QV.C02
open QV QV.Tok QV.Ast QV.Parse QV.Print QV.ExprPrint QV.ExprRoundTrip

/-- the `match` on the gate type in `parse_defgate`, as a function of its own so that the four specifications can be
treated one by one (`spec_matrix`, `spec_permutation`, `spec_pauliSum`, `spec_sequence`) and put together in
`parseDefgate_of` -/
def specParser (pe : Parser PExpr) (arguments : List String) : GateType → Parser GateSpecification
  | .matrix => pmap GateSpecification.matrix (parseMatrix pe)
  | .permutation => pmap GateSpecification.permutation parsePermutation
  | .pauliSum => mapRes (parsePauliTerms pe) fun terms => (pauliSumNew arguments terms).map .pauliSum
  | .sequence => mapRes (parseSequenceElements pe) fun gates =>
      (defGateSequenceTryNew arguments gates).map .sequence

def typeOf : GateSpecification → GateType
  | .matrix _ => .matrix | .permutation _ => .permutation | .pauliSum _ => .pauliSum | .sequence _ => .sequence

/-- the type is read off the printed specification `spec₀`; what the body parser returns for it may be another `spec` -/
theorem parseDefgate_of (pe : Parser PExpr) (name : String) (ps args : List String) (spec₀ spec : GateSpecification)
    (body rest' : List Token) (hspec : specParser pe args (typeOf spec₀) body = .ok spec rest') :
    parseDefgate pe (identTok name :: (varParamsToks ps ++ (args.map identTok ++
      .as :: gateTypeTok spec₀ :: .colon :: body))) = .ok (.gateDefinition ⟨name, ps, spec⟩) rest' := by
  have hty : opt (preceded (tok .as) parseGateType) (.as :: gateTypeTok spec₀ :: .colon :: body) =
      .ok (some (typeOf spec₀)) (.colon :: body) := by
    cases spec₀ <;>
      simp [opt, preceded, parseGateType, alt, pmap, tok, Parser.bind, Outcome.map, gateTypeTok, typeOf]
  simp only [parseDefgate, bind_eq, Parser.bind, identTok, tokIdentifier, str_toList_eq]
  rw [parseVariableList_toks ps _ (lparen_idents args _)]
  have hids : opt (many0 tokIdentifier) (args.map identTok ++ .as :: gateTypeTok spec₀ :: .colon :: body) =
      .ok (some (args.map (·.toList))) (.as :: gateTypeTok spec₀ :: .colon :: body) := by
    simp [opt, many0_idents]
  simp only [hids, hty]
  simp only [Option.getD_some, tok, if_true, map_str_toList]
  cases spec₀ <;> simp only [typeOf, specParser] at hspec ⊢ <;> rw [hspec] <;> cases ps <;> simp [Parser.pure]

theorem spec_permutation (F : NumFmt) (pe : Parser PExpr) (args : List String) (p : List Nat) (hne : p ≠ [])
    (rest : List Token) :
    specParser pe args .permutation (specLines F (.permutation p) ++ .newLine :: rest) =
      .ok (.permutation p) (.newLine :: rest) := by
  cases hp : p with
  | nil => exact absurd hp hne
  | cons n ns =>
    have h := (commaList_items tokInteger (fun n : Nat => [Token.integer n]) id (fun _ => true) n ns
      (.newLine :: rest) (fun y _ r _ => by simp [tokInteger]) (fun _ => rfl) rfl rfl).1
    simp only [List.map_id] at h
    simp only [specLines, specLineList, List.flatMap_cons, List.flatMap_nil, List.append_nil, List.cons_append,
      List.nil_append, specParser, pmap, parsePermutation, preceded, bind_eq, Parser.bind, tok, if_true, h, Outcome.map]

theorem printTop_not_indentation (F : NumFmt) (e : PExpr) (hn : numTokOk F e = true) (r : List Token) :
    headNe .indentation (printTop F e ++ r) = true := by
  obtain ⟨t, r', e, ht⟩ := printTop_head F e hn r
  rw [e]
  cases t <;> first | rfl | cases ht

/-- one printed MATRIX row, possibly empty (then `separated_list0` returns `[]` because the expression parser fails
recoverably on the newline, `hnl`).  The separator is `Comma many0(Indentation)`; the `many0` takes nothing because
a printed expression never begins with an indentation -/
theorem separatedList0_row_toks (F : NumFmt) (nf : PExpr → PExpr) (pe : Parser PExpr) (row : List PExpr)
    (hnl : ∀ r', pe (.newLine :: r') = .err)
    (hn : ∀ e ∈ row, numTokOk F e = true)
    (hpe : ∀ e ∈ row, ∀ r, endOk r = true → pe (printTop F e ++ r) = .ok (nf e) r)
    (r : List Token) (hr : startsNL r = true) :
    separatedList0 (pair (tok .comma) (many0 (tok .indentation))) pe
      (sepBy [.comma] (row.map (printTop F)) ++ r) = .ok (row.map nf) r := by
  have hend := endOk_of_startsNL hr
  obtain ⟨r', rfl⟩ := eq_newLine_of_startsNL hr
  cases row with
  | nil => simp [sepBy, separatedList0, hnl]
  | cons e es =>
    have hstop : pair (tok .comma) (many0 (tok .indentation)) (.newLine :: r') = .err ∨ ∃ v r1,
        pair (tok .comma) (many0 (tok .indentation)) (.newLine :: r') = .ok v r1 ∧
          r1.length ≠ (Token.newLine :: r').length ∧ pe r1 = .err := .inl rfl
    have h := (separatedList_items (pair (tok .comma) (many0 (tok .indentation))) ((), []) [.comma] pe
      (printTop F) nf endOk e es (.newLine :: r') (by simp)
      (fun y hy r'' => by
        have := many0_err (tok_of_headNe (printTop_not_indentation F y (hn y (by simp [hy])) r''))
        simp [pair, Parser.bind, tok, this, Parser.pure])
      (fun y hy r'' hr' => hpe y hy r'' hr') (fun _ => rfl) hend hstop).2
    have hflat : (es.map (printTop F)).flatMap (fun y => [Token.comma] ++ y) =
        es.flatMap (fun x => [Token.comma] ++ printTop F x) := by
      simp [List.flatMap_map]
    simp only [List.map_cons, sepBy_cons, hflat, List.append_assoc] at h ⊢
    exact h

theorem spec_matrix (F : NumFmt) (nf : PExpr → PExpr) (pe : Parser PExpr) (args : List String)
    (rows : List (List PExpr)) (hne : rows ≠ []) (hnl : ∀ r', pe (.newLine :: r') = .err)
    (hn : ∀ row ∈ rows, ∀ e ∈ row, numTokOk F e = true)
    (hpe : ∀ row ∈ rows, ∀ e ∈ row, ∀ r, endOk r = true → pe (printTop F e ++ r) = .ok (nf e) r)
    (rest : List Token) (hrest : restOk rest = true) :
    specParser pe args .matrix (specLines F (.matrix rows) ++ .newLine :: rest) =
      .ok (.matrix (rows.map (·.map nf))) (.newLine :: rest) := by
  have h := separatedList1_lines_toks (separatedList0 (pair (tok .comma) (many0 (tok .indentation))) pe)
    (fun row : List PExpr => sepBy [.comma] (row.map (printTop F))) (·.map nf) rows hne rest hrest
    (fun row hrow r hr => separatedList0_row_toks F nf pe row hnl (hn row hrow) (hpe row hrow) r hr)
  simp only [specParser, pmap, parseMatrix, specLines, specLineList, List.flatMap_map]
  erw [h]
  rfl

theorem pauliWord_chars (gs : List PauliGate) : pauliWordOfChars (gs.map pauliGateChar) = some gs := by
  induction gs with
  | nil => rfl
  | cons g gs ih => cases g <;> simp [pauliWordOfChars, pauliGateChar, pauliGateOfChar, ih]

/-- the printed word is the gate letters of the arguments (`pauliWord_chars` reads it back as `map fst`), the arguments
are read by `many1` as `map snd`, and zipping the two gives the argument list back -/
theorem parsePauliTerm_line (F : NumFmt) (nf : PExpr → PExpr) (pe : Parser PExpr) (t : PauliTerm)
    (hne : t.arguments ≠ [])
    (hpe : ∀ r, endOk r = true → pe (printTop F t.expression ++ r) = .ok (nf t.expression) r)
    (r : List Token) (hr : startsNL r = true) :
    parsePauliTerm pe (pauliLine F t ++ r) = .ok ⟨t.arguments, nf t.expression⟩ r := by
  obtain ⟨targs, e⟩ := t
  simp only at hne hpe
  cases hargs : targs with
  | nil => exact absurd hargs hne
  | cons a as =>
    have hstop : tokIdentifier r = .err := by
      obtain ⟨r', rfl⟩ := eq_newLine_of_startsNL hr; rfl
    have hm := many1_items_ok tokIdentifier (fun ga : PauliGate × String => [identTok ga.2])
      (fun ga => ga.2.toList) (fun _ => true) a as r
      (fun y _ r' _ => by simp [identTok, tokIdentifier]) (fun _ _ => by simp) (fun _ _ _ => rfl) rfl hstop
    have hflat : ∀ l : List (PauliGate × String),
        l.flatMap (fun ga => [identTok ga.2]) = l.map (fun ga => identTok ga.2) :=
      fun _ => List.map_eq_flatMap.symm
    have hx := hpe (.rParenthesis :: ((a :: as).map (fun ga => identTok ga.2) ++ r)) rfl
    have hword := pauliWord_chars ((a :: as).map (·.1))
    simp only [List.map_map] at hword
    have hw' : pauliWordOfChars (List.map (fun ga => pauliGateChar ga.1) (a :: as)) =
        some ((a :: as).map (·.1)) := by
      simpa [Function.comp_def] using hword
    simp only [parsePauliTerm, mapRes, pauliLine, bind_eq, Parser.bind, parsePauliWord, tokIdentifier,
      List.cons_append, List.append_assoc, hw', delimited, tok, if_true, hx, pure_eq, Parser.pure]
    rw [← hflat]
    simp only [List.flatMap_cons, List.append_assoc]
    erw [hm]
    have hz : ((a :: as).map (·.1)).zip ((a :: as).map (·.2)) = a :: as := (List.zip_of_prod rfl rfl).symm
    have hstr : ((a :: as).map fun ga => ga.2.toList).map str = (a :: as).map (·.2) := by
      simp [List.map_map, Function.comp_def]
    simp only [hstr, List.length_map, bne_self_eq_false, Bool.false_eq_true, if_false, hz]

theorem spec_pauliSum (F : NumFmt) (nf : PExpr → PExpr) (pe : Parser PExpr) (args : List String)
    (terms : List PauliTerm) (hne : terms ≠ [])
    (hok : ∀ t ∈ terms, t.arguments ≠ [] ∧ ∀ ga ∈ t.arguments, args.contains ga.2 = true)
    (hpe : ∀ t ∈ terms, ∀ r, endOk r = true → pe (printTop F t.expression ++ r) = .ok (nf t.expression) r)
    (rest : List Token) (hrest : restOk rest = true) :
    specParser pe args .pauliSum (specLines F (.pauliSum ⟨args, terms⟩) ++ .newLine :: rest) =
        .ok (.pauliSum ⟨args, terms.map fun t => ⟨t.arguments, nf t.expression⟩⟩) (.newLine :: rest) := by
  have h := separatedList1_lines_toks (parsePauliTerm pe) (pauliLine F) (fun t : PauliTerm => (⟨t.arguments, nf t.expression⟩ : PauliTerm))
    terms hne rest hrest
    (fun t ht r hr => parsePauliTerm_line F nf pe t (hok t ht).1 (hpe t ht) r hr)
  have hall : ((terms.map fun t : PauliTerm => (⟨t.arguments, nf t.expression⟩ : PauliTerm)).all
      fun t => t.arguments.all fun ga => args.contains ga.2) = true := by
    simp only [List.all_map, List.all_eq_true, Function.comp_apply]
    exact fun t ht => (hok t ht).2
  simp only [specParser, mapRes, parsePauliTerms, specLines, specLineList, List.flatMap_map]
  erw [h]
  simp only [pauliSumNew, hall, if_true, Option.map_some]

theorem parseSequenceElement_toks (F : NumFmt) (nf : PExpr → PExpr) (pe : Parser PExpr) (g : Gate)
    (hq : g.qubits.all noPlaceholder = true)
    (hpe : ∀ e ∈ g.parameters, ∀ r, endOk r = true → pe (printTop F e ++ r) = .ok (nf e) r)
    (r : List Token) (hr : startsNL r = true) :
    parseSequenceElement pe (gateToks F g ++ r) = .ok { g with parameters := g.parameters.map nf } r := by
  obtain ⟨name, ps, qs, ms⟩ := g
  obtain ⟨r', rfl⟩ := eq_newLine_of_startsNL hr
  have hp := parseParameters_toks F nf pe ps _ hpe (lparen_qubits qs .newLine r' (by simp))
  simp only [gateToks, List.append_assoc, List.cons_append, parseSequenceElement, bind_eq, Parser.bind,
    many0_modifiers]
  simp only [identTok, tokIdentifier, str_toList_eq, hp,
    many0_parseQubit qs hq _ (show notQubit (.newLine :: r') = true from rfl), pure_eq, Parser.pure]

theorem defGateSequenceTryNew_eq_some (args : List String) (hargs : args ≠ []) (gs : List Gate)
    (hvars : ∀ g ∈ gs, (g.qubits.all fun q => match q with | .variable a => args.contains a | _ => false) = true) :
    defGateSequenceTryNew args gs = some ⟨args, gs⟩ := by
  have hemp : args.isEmpty = false := by cases args <;> simp_all
  unfold defGateSequenceTryNew
  simp only [hemp, Bool.false_eq_true, if_false]
  rw [if_pos]
  rw [List.all_eq_true]
  intro g hg
  exact hvars g hg

theorem spec_sequence (F : NumFmt) (nf : PExpr → PExpr) (pe : Parser PExpr) (args : List String) (hargs : args ≠ [])
    (gates : List Gate) (hne : gates ≠ []) (hq : ∀ g ∈ gates, ∀ q ∈ g.qubits, noPlaceholder q = true)
    (hvars : ∀ g ∈ gates, ∀ q ∈ g.qubits, (match q with | .variable a => args.contains a | _ => false) = true)
    (hpe : ∀ g ∈ gates, ∀ e ∈ g.parameters, ∀ r, endOk r = true → pe (printTop F e ++ r) = .ok (nf e) r)
    (rest : List Token) (hrest : restOk rest = true) :
    specParser pe args .sequence (specLines F (.sequence ⟨args, gates⟩) ++ .newLine :: rest) =
        .ok (.sequence ⟨args, gates.map fun g => { g with parameters := g.parameters.map nf }⟩)
          (.newLine :: rest) := by
  have h := separatedList1_lines_toks (parseSequenceElement pe) (gateToks F)
    (fun g : Gate => ({ g with parameters := g.parameters.map nf } : Gate)) gates hne rest hrest
    (fun g hg r hr => parseSequenceElement_toks F nf pe g (List.all_eq_true.mpr (hq g hg)) (hpe g hg) r hr)
  have hvars' : ∀ g' ∈ gates.map (fun g : Gate => ({ g with parameters := g.parameters.map nf } : Gate)),
      (g'.qubits.all fun q => match q with | .variable a => args.contains a | _ => false) = true := by
    intro g' hg'
    obtain ⟨g, hg, rfl⟩ := List.mem_map.mp hg'
    exact List.all_eq_true.mpr (hvars g hg)
  simp only [specParser, mapRes, parseSequenceElements, specLines, specLineList, List.flatMap_map]
  erw [h]
  simp only [defGateSequenceTryNew_eq_some args hargs _ hvars', Option.map_some]

theorem length_header_lines (F : NumFmt) (g : GateDefinition) :
    (specLines F g.specification).length ≤ (gateDefHeader g ++ specLines F g.specification).length := by
  simp only [List.length_append]; omega

def normSpec : GateSpecification → GateSpecification
  | .matrix rows => .matrix (rows.map (·.map norm))
  | .permutation p => .permutation p
  | .pauliSum s => .pauliSum ⟨s.arguments, s.terms.map fun t => ⟨t.arguments, norm t.expression⟩⟩
  | .sequence s => .sequence ⟨s.qubits, s.gates.map fun g => { g with parameters := g.parameters.map norm }⟩

/-- what `reads_gateDefinition_norm` needs of a specification: implied by `specOk` with `gateSpecKind` for a parsed one
(`specApiOk_of_parsed`), by C04's `wellFormed` without placeholders for an API-built one
(`QV.C04.specApiOk_of_wellFormed`) -/
def specApiOk : GateSpecification → Bool
  | .matrix rows => !rows.isEmpty && rows.all fun r => r.all finiteLits
  | .permutation p => !p.isEmpty
  | .pauliSum s =>
    !s.terms.isEmpty && s.terms.all fun t =>
      !t.arguments.isEmpty && finiteLits t.expression && t.arguments.all fun ga => s.arguments.contains ga.2
  | .sequence s =>
    !s.qubits.isEmpty && !s.gates.isEmpty && s.gates.all fun g =>
      g.parameters.all finiteLits && g.qubits.all noPlaceholder && g.qubits.all fun q =>
        match q with
        | .variable a => s.qubits.contains a
        | _ => false

theorem specLineList_ne_of_specApiOk (F : NumFmt) (spec : GateSpecification) (h : specApiOk spec = true) :
    specLineList F spec ≠ [] := by
  cases spec <;> simp_all [specLineList, specApiOk]

theorem reads_gateDefinition_norm (F : NumFmt) (g : GateDefinition) (hp : specApiOk g.specification = true)
    (hn : numTokSpec F g.specification = true) :
    Reads topRest (lineToks F (.gateDefinition g))
      (.gateDefinition ⟨g.name, g.parameters, normSpec g.specification⟩) := by
  obtain ⟨name, ps, spec⟩ := g
  simp only at hp hn
  rw [lineToks_gateDefinition_of_ne F _ (specLineList_ne_of_specApiOk F spec hp)]
  refine reads_of_parser (c := .defGate) (payload := identTok name :: (varParamsToks ps ++ ((specQubitParams spec).map identTok ++
      .as :: gateTypeTok spec :: .colon :: specLines F spec))) _ (by simp [gateDefHeader]) rfl
    fun rest hrest => ?_
  dsimp only [parseCommand]
  simp only [List.append_assoc, List.cons_append]
  refine parseDefgate_of parseExpression name ps (specQubitParams spec) spec (normSpec spec) _ _ ?_
  cases spec <;> simp only [specApiOk, numTokSpec, Bool.and_eq_true, Bool.not_eq_true',
    List.isEmpty_eq_false_iff, List.all_eq_true] at hp hn
  case permutation p =>
    exact spec_permutation F _ _ p hp rest
  case matrix rows =>
    exact spec_matrix F norm _ _ rows hp.1 parseExpression_newLine hn
      (fun row hrow e he => parseExpression_printTop F e (hp.2 row hrow e he) (hn row hrow e he)) rest hrest
  case pauliSum s =>
    exact spec_pauliSum F norm _ s.arguments s.terms hp.1 (fun t ht => ⟨(hp.2 t ht).1.1, (hp.2 t ht).2⟩)
      (fun t ht => parseExpression_printTop F t.expression (hp.2 t ht).1.2 (hn t ht)) rest hrest
  case sequence s =>
    exact spec_sequence F norm _ s.qubits hp.1.1 s.gates hp.1.2
      (fun g hg => (hp.2 g hg).1.2) (fun g hg => (hp.2 g hg).2)
      (fun g hg e he => parseExpression_printTop F e ((hp.2 g hg).1.1 e he) (hn g hg e he)) rest hrest

theorem specApiOk_of_parsed (spec : GateSpecification) (hp : specOk spec = true) (hk : gateSpecKind spec = true) :
    specApiOk spec = true := by
  cases spec with
  | matrix rows =>
    simp only [specOk, specApiOk, Bool.and_eq_true, List.all_eq_true] at hp ⊢
    exact ⟨hp.1, fun r hr e he => finiteLits_parsedExpr e (hp.2 r hr e he)⟩
  | permutation p => exact hp
  | pauliSum s =>
    simp only [specOk, pauliTermOk, specApiOk, Bool.and_eq_true, List.all_eq_true] at hp ⊢
    exact ⟨hp.1, fun t ht => ⟨⟨(hp.2 t ht).1.1, finiteLits_parsedExpr _ (hp.2 t ht).1.2⟩, (hp.2 t ht).2⟩⟩
  | sequence s =>
    simp only [specOk, gateSpecKind, specApiOk, Bool.and_eq_true, List.all_eq_true] at hp hk ⊢
    exact ⟨hp.1, fun g hg =>
      ⟨⟨fun e he => finiteLits_parsedExpr e ((hp.2 g hg).1 e he), hk g hg⟩, (hp.2 g hg).2⟩⟩

theorem normSpec_parsed (spec : GateSpecification) (hp : specOk spec = true) : normSpec spec = spec := by
  have self {α : Type} {f : α → α} {l : List α} (h : ∀ x ∈ l, f x = x) : l.map f = l :=
    (List.map_congr_left h).trans (List.map_id l)
  cases spec with
  | matrix rows =>
    simp only [specOk, Bool.and_eq_true] at hp
    exact congrArg GateSpecification.matrix (self fun r hr => map_norm_parsed r (List.all_eq_true.mp hp.2 r hr))
  | permutation p => rfl
  | pauliSum s =>
    obtain ⟨args, terms⟩ := s
    simp only [specOk, Bool.and_eq_true] at hp
    refine congrArg (fun l => GateSpecification.pauliSum ⟨args, l⟩) (self fun t ht => ?_)
    have := List.all_eq_true.mp hp.2 t ht
    simp only [pauliTermOk, Bool.and_eq_true] at this
    rw [norm_parsedExpr _ this.1.2]
  | sequence s =>
    obtain ⟨sq, gates⟩ := s
    simp only [specOk, Bool.and_eq_true] at hp
    refine congrArg (fun l => GateSpecification.sequence ⟨sq, l⟩) (self fun g hg => ?_)
    have := List.all_eq_true.mp hp.2 g hg
    rw [Bool.and_eq_true] at this
    rw [map_norm_parsed _ this.1]

theorem reads_gateDefinition (F : NumFmt) (g : GateDefinition)
    (hp : parsedInstr (.gateDefinition g) = true) (hk : gateSpecKind g.specification = true)
    (hn : numTokInstr F (.gateDefinition g) = true) :
    Reads topRest (lineToks F (.gateDefinition g)) (.gateDefinition g) := by
  dsimp only [parsedInstr] at hp
  dsimp only [numTokInstr] at hn
  have := reads_gateDefinition_norm F g (specApiOk_of_parsed _ hp hk) hn
  rwa [normSpec_parsed _ hp] at this

end QV.C02
