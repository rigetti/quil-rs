import QV.C02.Blocks
import QV.C02.Program
/-!
The round trip stated at a depth budget, `parseInstructionAt (d + 1)` in place of `parseInstruction`.  Nothing in C02 or
C04 goes through these statements (the proofs use `Reads`, the parser without its budget); they are why
`readsBy_of_parser`, `blockReads_of_items`, `many0_progOf`, … take any instruction parser `pi`.  `RTtop F d i` and
`RTtopL ts d` are `ReadsBy (parseInstructionAt (d + 1)) topRest` of `toks F i` / `ts`; `RT` is `RTtop` for `anyRest`.
-/
namespace QV.C02
open QV QV.Tok QV.Ast QV.Parse QV.Print QV.ExprPrint

def RT (F : NumFmt) (d : Nat) (i i' : Instruction) : Prop :=
  ∀ rest, parseInstructionAt (d + 1) (toks F i ++ .newLine :: rest) = .ok i' (.newLine :: rest) ∧
    parseInstructionAt (d + 1) (.newLine :: (toks F i ++ .newLine :: rest)) = .ok i' (.newLine :: rest)

def RTtop (F : NumFmt) (d : Nat) (i i' : Instruction) : Prop :=
  ∀ rest, restOk rest = true →
    parseInstructionAt (d + 1) (toks F i ++ .newLine :: rest) = .ok i' (.newLine :: rest) ∧
    parseInstructionAt (d + 1) (.newLine :: (toks F i ++ .newLine :: rest)) = .ok i' (.newLine :: rest)

def RTtopL (ts : List Token) (d : Nat) (i' : Instruction) : Prop :=
  ∀ rest, restOk rest = true →
    parseInstructionAt (d + 1) (ts ++ .newLine :: rest) = .ok i' (.newLine :: rest) ∧
    parseInstructionAt (d + 1) (.newLine :: (ts ++ .newLine :: rest)) = .ok i' (.newLine :: rest)

theorem rt_measureCal_gen (F : NumFmt) (d : Nat) (id : MeasureCalibrationIdentifier)
    (body : List Instruction) (g : Instruction → Instruction) (hq : noPlaceholder id.qubit = true)
    (hne : body ≠ []) (hbody : ∀ i ∈ body, RT F d i (g i)) :
    RTtopL (lineToks F (.measureCalibrationDefinition id body)) (d + 1)
      (.measureCalibrationDefinition id (body.map g)) :=
  readsBy_of_parser (fun _ => rfl) _ (lineToks_measureCal F _ body hne) rfl
    (parseDefcalMeasure_toks F _ _ id body g hq
      (blockReads_of_items F _ body g hne fun i hi rest _ => hbody i hi rest))

theorem rt_circuit_gen (F : NumFmt) (d : Nat) (name : String) (ps qvs : List String)
    (body : List Instruction) (g : Instruction → Instruction)
    (hqv : qvs.all (fun s => !isReservedWord s.toList) = true)
    (hne : body ≠ []) (hbody : ∀ i ∈ body, RT F d i (g i)) :
    RTtopL (lineToks F (.circuitDefinition name ps qvs body)) (d + 1)
      (.circuitDefinition name ps qvs (body.map g)) :=
  readsBy_of_parser (fun _ => rfl) _ (lineToks_circuit F name ps qvs body hne) rfl
    (parseDefcircuit_toks F _ _ name ps qvs body g hqv
      (blockReads_of_items F _ body g hne fun i hi rest _ => hbody i hi rest))

/-- `RTtop F n` speaks of `parseInstructionAt (n + 1)`; with `n` the length of the printed program, `n + 1` is the `budget`
that `parseProgram` runs `parse_instruction` with on this input -/
theorem parseProgram_programRaw (F : NumFmt) (g : Instruction → Instruction) (L : List Instruction)
    (h : ∀ i ∈ L, RTtop F (programRaw F L).length i (g i)) :
    parseProgram (programRaw F L) = .ok (L.map g) [] := by
  have := many0_progOf (parseInstructionAt ((programRaw F L).length + 1)) (body_nil _ _) (body_end _ _) (toks F) g L
    (fun i _ => toks_head F i) h
  rw [parseProgram, parseInstructions, parseInstructionsAt, budget, programRaw_eq_progOf] at *
  rw [this]
  rfl

open QV.ExprRoundTrip in
theorem parseExpr_toks (F : NumFmt) (e : PExpr) (h : parsedExpr e = true) (hn : numTokOk F e = true)
    (d : Nat) (rest : List Token) (hd : (printTop F e).length < d) (he : endOk rest = true) :
    parseExpressionAt d (printTop F e ++ rest) = .ok e rest := by
  have := parseExpressionAt_printTop F e (finiteLits_parsedExpr e h) hn d rest hd he
  rwa [norm_parsedExpr e h] at this

end QV.C02
