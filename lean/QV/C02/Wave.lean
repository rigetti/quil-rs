import QV.C02.Reads
import QV.C02.Fields
import QV.Shared.Upsert
/-!
Waveform invocations.  The printer writes the parameters SORTED by key (`sortKV`), the parser collects them into an
`IndexMap` in textual order (`indexMapCollect`): the reparsed invocation is the canonical form of the original one.
-/
namespace QV.C02
open QV QV.Tok QV.Ast QV.Parse QV.Print QV.ExprPrint QV.ExprRoundTrip

theorem indexMapInsert_eq {V : Type} (m : List (String × V)) (k : String) (v : V) :
    indexMapInsert m k v = upsertBy Prod.fst m (k, v) := by
  induction m with
  | nil => rfl
  | cons a as ih => simp only [indexMapInsert, upsertBy, ih]

theorem indexMapCollect_nodup {V : Type} (l : List (String × V)) (hd : (l.map (·.1)).Nodup) :
    indexMapCollect l = l := by
  have : (fun (m : List (String × V)) kv => indexMapInsert m kv.1 kv.2) = upsertBy Prod.fst := by
    funext m kv; exact indexMapInsert_eq m kv.1 kv.2
  rw [indexMapCollect, this, foldl_upsertBy_of_nodup Prod.fst l [] hd, List.nil_append]

def normKV (kv : KV) : KV := (kv.1, norm kv.2)

theorem parseNamedArgument_toks (F : NumFmt) (kv : KV) (hf : finiteLits kv.2 = true)
    (hn : numTokOk F kv.2 = true) (r : List Token) (hr : endOk r = true) :
    parseNamedArgument parseExpression (namedArgToks F kv ++ r) = .ok (normKV kv) r := by
  simp only [namedArgToks, List.cons_append, parseNamedArgument, bind_eq, Parser.bind, identTok, tokIdentifier, tok,
    if_true, parseExpression_printTop F kv.2 hf hn r hr, pure_eq, Parser.pure, str_toList_eq, normKV]

/-- what follows a waveform invocation: a memory reference (CAPTURE) or the end of the line (PULSE) -/
def afterInvocation : List Token → Bool
  | .identifier _ :: _ => true
  | .newLine :: _ => true
  | _ => false

theorem afterInvocation_stop {rest : List Token} (h : afterInvocation rest = true) :
    headNe (.operator .slash) rest = true ∧ tok .lParenthesis rest = .err := by
  unfold afterInvocation at h
  split at h <;> first | exact ⟨rfl, rfl⟩ | cases h

/-- the invocation the parser returns for the printed `w` (`parseWaveformInvocation_toks`) -/
def normInvocation (w : WaveformInvocation) : WaveformInvocation := ⟨w.name, (sortKV w.parameters).map normKV⟩

structure InvOk (F : NumFmt) (w : WaveformInvocation) : Prop where
  name : wfNameOk w.name = true
  keys : (w.parameters.map (·.1)).Nodup
  finite : ∀ kv ∈ w.parameters, finiteLits kv.2 = true
  numTok : ∀ kv ∈ w.parameters, numTokOk F kv.2 = true

theorem parseWaveformInvocation_toks (F : NumFmt) (w : WaveformInvocation) (hw : InvOk F w)
    (rest : List Token) (hr : afterInvocation rest = true) :
    parseWaveformInvocation parseExpression (invocationToks F w ++ rest) = .ok (normInvocation w) rest := by
  obtain ⟨name, params⟩ := w
  obtain ⟨hname, hkeys, hf, hn⟩ := hw
  obtain ⟨hrs, hrl⟩ := afterInvocation_stop hr
  cases hp : params with
  | nil =>
    simp only [invocationToks, List.isEmpty_nil, if_true, List.append_nil, parseWaveformInvocation, bind_eq,
      Parser.bind, parseWaveformName_toks name hname rest hrs, opt, delimited, hrl, pure_eq, Parser.pure,
      Option.getD_none, normInvocation, sortKV, List.map_nil, indexMapCollect, List.foldl_nil]
  | cons kv kvs =>
    subst hp
    obtain ⟨s0, ss, hs⟩ := List.exists_cons_of_ne_nil
      (List.ne_nil_of_mem (mem_sortKV.mpr (List.mem_cons_self (a := kv) (l := kvs))))
    have henc : (fun kv : KV => identTok kv.1 :: .colon :: printTop F kv.2) = namedArgToks F := rfl
    have htoks : invocationToks F ⟨name, kv :: kvs⟩ ++ rest = slashNameToks name ++
        (.lParenthesis :: (sepBy [.comma] ((s0 :: ss).map (namedArgToks F)) ++ .rParenthesis :: rest)) := by
      simp [invocationToks, hs, henc]
    have hmem : ∀ y ∈ s0 :: ss, y ∈ kv :: kvs := fun y hy => mem_sortKV.mp (hs ▸ hy)
    have hlist := (commaList_items (parseNamedArgument parseExpression) (namedArgToks F) normKV endOk
      s0 ss (.rParenthesis :: rest)
      (fun y hy r hr' => parseNamedArgument_toks F y (hf y (hmem y hy)) (hn y (hmem y hy)) r hr')
      (fun _ => rfl) rfl rfl).2
    have hsorted : SortedKV (s0 :: ss) := hs ▸ sortKV_sorted _ hkeys
    have hnodup : (((s0 :: ss).map normKV).map (·.1)).Nodup := by
      have := sorted_nodup _ hsorted
      simpa [normKV, List.map_map, Function.comp_def] using this
    rw [htoks]
    simp only [parseWaveformInvocation, bind_eq, Parser.bind,
      parseWaveformName_toks name hname _ (show headNe _ (.lParenthesis :: _) = true from rfl), opt, delimited, tok,
      if_true, cut]
    erw [hlist]
    simp only [if_true, pure_eq, Parser.pure, Option.getD_some, indexMapCollect_nodup _ hnodup, hs, normInvocation]

theorem reads_pulse_norm (F : NumFmt) (p : Pulse) (hf : frameOk p.frame = true) (hw : InvOk F p.waveform) :
    Reads anyRest (toks F (.pulse p)) (.pulse { p with waveform := normInvocation p.waveform }) := by
  obtain ⟨b, f, w⟩ := p
  apply reads_of_blocking .pulse b (frameToks f ++ invocationToks F w) (parsePulse parseExpression)
    (List.append_assoc _ _ _) rfl (fun _ => rfl)
  intro rest
  simp only [List.append_assoc, parsePulse, bind_eq, Parser.bind, parseFrameIdentifier_toks f hf,
    parseWaveformInvocation_toks F w hw (.newLine :: rest) rfl, pure_eq, Parser.pure]

theorem reads_capture_norm (F : NumFmt) (c : Capture) (hf : frameOk c.frame = true) (hw : InvOk F c.waveform) :
    Reads anyRest (toks F (.capture c)) (.capture { c with waveform := normInvocation c.waveform }) := by
  obtain ⟨b, f, m, w⟩ := c
  apply reads_of_blocking .capture b (frameToks f ++ (invocationToks F w ++ memRefToks m))
    (parseCapture parseExpression) (by dsimp only [toks]; simp only [List.append_assoc]) rfl (fun _ => rfl)
  intro rest
  simp only [List.append_assoc, parseCapture, bind_eq, Parser.bind, parseFrameIdentifier_toks f hf,
    parseWaveformInvocation_toks F w hw (memRefToks m ++ .newLine :: rest)
      (by simp [memRefToks, identTok, afterInvocation]),
    parseMemoryReference_toks, pure_eq, Parser.pure]

theorem normInvocation_parsed (w : WaveformInvocation) (h : invocationOk w = true) :
    normInvocation w = canonInvocation w := by
  simp only [invocationOk, Bool.and_eq_true, List.all_eq_true] at h
  exact congrArg (WaveformInvocation.mk w.name) ((List.map_congr_left fun kv hkv => by
    rw [normKV, norm_parsedExpr _ (h.2 kv (mem_sortKV.mp hkv))]; rfl).trans (List.map_id _))

theorem invOk_of_parsed (F : NumFmt) (w : WaveformInvocation) (h : invocationOk w = true)
    (hn : (w.parameters.all fun kv => numTokOk F kv.2) = true) : InvOk F w := by
  simp only [invocationOk, Bool.and_eq_true, distinctKeys, decide_eq_true_eq] at h
  exact ⟨h.1.1, h.1.2, fun kv hkv => finiteLits_parsedExpr _ (List.all_eq_true.mp h.2 kv hkv),
    fun kv hkv => List.all_eq_true.mp hn kv hkv⟩

theorem reads_pulse (F : NumFmt) (p : Pulse) (hp : parsedInstr (.pulse p) = true)
    (hn : numTokInstr F (.pulse p) = true) : Reads anyRest (toks F (.pulse p)) (canonInstr (.pulse p)) := by
  dsimp only [parsedInstr] at hp
  simp only [Bool.and_eq_true] at hp
  dsimp only [numTokInstr] at hn
  have := reads_pulse_norm F p hp.1 (invOk_of_parsed F _ hp.2 hn)
  rw [normInvocation_parsed _ hp.2] at this
  exact this

theorem reads_capture (F : NumFmt) (c : Capture) (hp : parsedInstr (.capture c) = true)
    (hn : numTokInstr F (.capture c) = true) : Reads anyRest (toks F (.capture c)) (canonInstr (.capture c)) := by
  dsimp only [parsedInstr] at hp
  simp only [Bool.and_eq_true] at hp
  dsimp only [numTokInstr] at hn
  have := reads_capture_norm F c hp.1 (invOk_of_parsed F _ hp.2 hn)
  rw [normInvocation_parsed _ hp.2] at this
  exact this

end QV.C02
