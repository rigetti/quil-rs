import QV.C02.PrintView
/-!
Runs of newlines.  The lexer reads a run of `'\n'` as one token (`collapseNL`).  `blockOk b`: the raw tokens `b` can be
followed by a newline and another such block without creating a run; on a program of such blocks `collapseNL` only
merges the trailing newline that DEFCAL MEASURE, DEFCIRCUIT and DEFGATE print with the program writer's own
(`collapse_progOf`).  A header line followed by blocks, each after one newline, is such a block (`blockOk_header_lines`).
-/
namespace QV.C02
open QV QV.Tok QV.Ast QV.Parse QV.Print QV.ExprPrint

def noAdjNL : List Token → Bool
  | [] => true
  | [_] => true
  | t :: u :: rest => !(decide (t = .newLine) && decide (u = .newLine)) && noAdjNL (u :: rest)

theorem collapseNL_of_noAdj (ts : List Token) (h : noAdjNL ts = true) : collapseNL ts = ts := by
  induction ts with
  | nil => rfl
  | cons t rest ih =>
    cases rest with
    | nil => rfl
    | cons u rest =>
      simp only [noAdjNL, Bool.and_eq_true, Bool.not_eq_true', Bool.and_eq_false_iff, decide_eq_false_iff_not] at h
      have hnot : ¬ (t = .newLine ∧ u = .newLine) := by
        intro ⟨h1, h2⟩
        rcases h.1 with h' | h'
        · exact h' h1
        · exact h' h2
      simp only [collapseNL, hnot, if_false]
      rw [ih h.2]

def blockOk (b : List Token) : Bool :=
  (match b with | [] => false | t :: _ => decide (t ≠ .newLine)) && noAdjNL (b ++ [.newLine])

theorem blockOk_iff {b : List Token} :
    blockOk b = true ↔ (∃ a r, b = a :: r ∧ a ≠ .newLine) ∧ noAdjNL (b ++ [.newLine]) = true := by
  cases b with
  | nil => simp [blockOk]
  | cons a r => simp [blockOk]

theorem noAdjNL_cons2 (t u : Token) (rest : List Token) :
    noAdjNL (t :: u :: rest) = true ↔ ¬ (t = .newLine ∧ u = .newLine) ∧ noAdjNL (u :: rest) = true := by
  simp only [noAdjNL, Bool.and_eq_true, Bool.not_eq_true', Bool.and_eq_false_iff, decide_eq_false_iff_not]
  constructor
  · rintro ⟨h1, h2⟩
    refine ⟨fun ⟨a, b⟩ => ?_, h2⟩
    rcases h1 with h | h
    · exact h a
    · exact h b
  · rintro ⟨h1, h2⟩
    refine ⟨?_, h2⟩
    by_cases ht : t = .newLine
    · exact Or.inr (fun hu => h1 ⟨ht, hu⟩)
    · exact Or.inl ht

theorem noAdjNL_append_block (b rest : List Token) (hb : blockOk b = true)
    (hr : noAdjNL rest = true) (hh : ∀ t r, rest = t :: r → t ≠ .newLine) :
    noAdjNL (b ++ .newLine :: rest) = true := by
  have key : ∀ (x : List Token), noAdjNL (x ++ [.newLine]) = true → noAdjNL (x ++ .newLine :: rest) = true := by
    intro x
    induction x with
    | nil =>
      intro _
      cases rest with
      | nil => rfl
      | cons t r =>
        have := hh t r rfl
        simp only [List.nil_append]
        rw [noAdjNL_cons2]
        exact ⟨fun ⟨_, h⟩ => this h, hr⟩
    | cons a x ih =>
      intro hx
      cases x with
      | nil =>
        simp only [List.nil_append, List.cons_append] at hx ⊢
        rw [noAdjNL_cons2] at hx ⊢
        exact ⟨hx.1, ih (by simp [noAdjNL])⟩
      | cons a' x =>
        simp only [List.cons_append] at hx ⊢
        rw [noAdjNL_cons2] at hx ⊢
        exact ⟨hx.1, ih hx.2⟩
  exact key b (blockOk_iff.mp hb).2

theorem noAdjNL_programRaw (F : NumFmt) (L : List Instruction) (h : ∀ i ∈ L, blockOk (toks F i) = true) :
    noAdjNL (programRaw F L) = true ∧ ∀ t r, programRaw F L = t :: r → t ≠ .newLine := by
  induction L with
  | nil => simp [programRaw, noAdjNL]
  | cons i L ih =>
    have hi := h i (by simp)
    have ih' := ih (fun j hj => h j (by simp [hj]))
    have e : programRaw F (i :: L) = toks F i ++ .newLine :: programRaw F L := by
      simp [programRaw]
    rw [e]
    refine ⟨noAdjNL_append_block _ _ hi ih'.1 ih'.2, ?_⟩
    obtain ⟨⟨a, b, hb, ha⟩, -⟩ := blockOk_iff.mp hi
    rw [hb]
    rintro t r ⟨rfl, -⟩
    exact ha

theorem blockOk_of_noNL (b : List Token) (hne : b ≠ []) (h : ∀ t ∈ b, t ≠ .newLine) : blockOk b = true := by
  have key : ∀ (x : List Token), (∀ t ∈ x, t ≠ .newLine) → noAdjNL (x ++ [.newLine]) = true := by
    intro x
    induction x with
    | nil => intro _; rfl
    | cons a x ih =>
      intro hx
      have ha : a ≠ .newLine := hx a (by simp)
      cases x with
      | nil =>
        simp only [List.cons_append, List.nil_append]
        rw [noAdjNL_cons2]
        exact ⟨fun ⟨h1, _⟩ => ha h1, rfl⟩
      | cons a' x =>
        simp only [List.cons_append]
        rw [noAdjNL_cons2]
        exact ⟨fun ⟨h1, _⟩ => ha h1, ih (fun t ht => hx t (by simp [ht]))⟩
  cases b with
  | nil => exact absurd rfl hne
  | cons a b =>
    simp only [blockOk, Bool.and_eq_true, decide_eq_true_eq]
    exact ⟨h a (by simp), key _ h⟩

theorem noAdjNL_snoc2 (d : List Token) : noAdjNL (d ++ [.newLine, .newLine]) = false := by
  induction d with
  | nil => rfl
  | cons a d ih =>
    cases d with
    | nil => simp [noAdjNL]
    | cons b d =>
      simp only [List.cons_append] at ih ⊢
      simp [noAdjNL, ih]

theorem stripNL_of_blockOk (ts : List Token) (h : blockOk ts = true) : stripNL ts = ts := by
  unfold stripNL
  split
  · rename_i hl
    have e := eq_dropLast_snoc _ _ hl
    simp only [blockOk, Bool.and_eq_true] at h
    have h2 := h.2
    rw [e] at h2
    simp only [List.append_assoc, List.cons_append, List.nil_append] at h2
    rw [noAdjNL_snoc2] at h2
    exact absurd h2 (by simp)
  · rfl

theorem collapseNL_cons_ne (t : Token) (r : List Token) (h : t ≠ .newLine) :
    collapseNL (t :: r) = t :: collapseNL r := by
  cases r with
  | nil => rfl
  | cons u r => simp [collapseNL, h]

theorem collapseNL_nl_nl (r : List Token) :
    collapseNL (.newLine :: .newLine :: r) = collapseNL (.newLine :: r) := by simp [collapseNL]

theorem collapseNL_nl_ne (r : List Token) (h : ∀ t s, r = t :: s → t ≠ .newLine) :
    collapseNL (.newLine :: r) = .newLine :: collapseNL r := by
  cases r with
  | nil => rfl
  | cons u r => simp [collapseNL, h u r rfl]

theorem collapseNL_block (a : List Token) (hne : a ≠ []) (h : noAdjNL (a ++ [.newLine]) = true)
    (r : List Token) : collapseNL (a ++ .newLine :: r) = a ++ collapseNL (.newLine :: r) := by
  induction a with
  | nil => exact absurd rfl hne
  | cons t x ih =>
    cases x with
    | nil =>
      simp only [List.cons_append, List.nil_append] at h ⊢
      rw [noAdjNL_cons2] at h
      have ht : t ≠ .newLine := fun e => h.1 ⟨e, rfl⟩
      rw [collapseNL_cons_ne t _ ht]
    | cons u x =>
      simp only [List.cons_append] at h ih ⊢
      rw [noAdjNL_cons2] at h
      have : collapseNL (t :: u :: (x ++ .newLine :: r)) = t :: collapseNL (u :: (x ++ .newLine :: r)) := by
        simp only [collapseNL, h.1, if_false]
      rw [this, ih (by simp) h.2]

theorem collapse_progOf (e : Instruction → List Token) (L : List Instruction)
    (h : ∀ i ∈ L, blockOk (stripNL (e i)) = true) :
    collapseNL (progOf e L) = progOf (fun i => stripNL (e i)) L ∧
      ∀ t s, progOf e L = t :: s → t ≠ .newLine := by
  induction L with
  | nil => simp [progOf, collapseNL]
  | cons i L ih =>
    have ih' := ih (fun j hj => h j (by simp [hj]))
    have hb := h i (by simp)
    rw [progOf_cons, progOf_cons]
    have hc := stripNL_cases (e i)
    generalize stripNL (e i) = b at hb hc
    obtain ⟨⟨t', s', rfl, ht'⟩, hadj⟩ := blockOk_iff.mp hb
    have hne : t' :: s' ≠ [] := List.cons_ne_nil _ _
    have hcol : collapseNL (t' :: s' ++ .newLine :: progOf e L) =
        t' :: s' ++ .newLine :: progOf (fun i => stripNL (e i)) L := by
      rw [collapseNL_block _ hne hadj, collapseNL_nl_ne _ ih'.2, ih'.1]
    constructor
    · rcases hc with hc | hc
      · rw [hc]; exact hcol
      -- `e i` ends in a newline: with the one that follows the instruction it is a run of two, which collapses
      · rw [hc]
        simp only [List.append_assoc, List.cons_append, List.nil_append]
        rw [← List.cons_append, collapseNL_block _ hne hadj, collapseNL_nl_nl, ← collapseNL_block _ hne hadj]
        exact hcol
    · intro t s hts
      rcases hc with hc | hc <;>
        (rw [hc] at hts; simp only [List.cons_append, List.cons.injEq] at hts; rw [← hts.1]; exact ht')

theorem blockOk_append_newLine (a b : List Token) (ha : blockOk a = true) (hb : blockOk b = true) :
    blockOk (a ++ .newLine :: b) = true := by
  obtain ⟨⟨t, r, rfl, ht⟩, -⟩ := blockOk_iff.mp ha
  obtain ⟨⟨t', r', hb', ht'⟩, hB⟩ := blockOk_iff.mp hb
  refine blockOk_iff.mpr ⟨⟨t, r ++ .newLine :: b, rfl, ht⟩, ?_⟩
  rw [List.append_assoc, List.cons_append]
  exact noAdjNL_append_block _ _ ha hB fun u s hus => by rw [hb'] at hus; exact (List.cons.inj hus).1 ▸ ht'

theorem blockOk_cons_indent (b : List Token) (h : blockOk b = true) : blockOk (.indentation :: b) = true := by
  simp only [blockOk, Bool.and_eq_true] at h ⊢
  cases b with
  | nil => simp at h
  | cons t r =>
    refine ⟨by simp, ?_⟩
    simp only [List.cons_append]
    rw [noAdjNL_cons2]
    exact ⟨fun h' => Token.noConfusion h'.1, by simpa using h.2⟩

/-- the shape of every definition the printer writes: a header line, then blocks (lines, or indented nested
instructions), each after one newline -/
theorem blockOk_header_lines {α : Type} (hdr : List Token) (f : α → List Token) (xs : List α) (hne : hdr ≠ [])
    (hnl : Token.newLine ∉ hdr) (hf : ∀ x ∈ xs, blockOk (f x) = true) :
    blockOk (hdr ++ xs.flatMap (fun x => .newLine :: f x)) = true := by
  have key : ∀ (xs : List α) (b : List Token), blockOk b = true → (∀ x ∈ xs, blockOk (f x) = true) →
      blockOk (b ++ xs.flatMap (fun x => .newLine :: f x)) = true := by
    intro xs
    induction xs with
    | nil => intro b hb _; simpa using hb
    | cons x xs ih =>
      intro b hb h
      rw [List.flatMap_cons, ← List.append_assoc]
      exact ih _ (blockOk_append_newLine b (f x) hb (h x (by simp))) fun y hy => h y (by simp [hy])
  exact key xs hdr (blockOk_of_noNL _ hne (fun t ht e => hnl (e ▸ ht))) hf

theorem blockOk_header_indented {α : Type} (hdr : List Token) (f : α → List Token) (xs : List α) (hne : hdr ≠ [])
    (hnl : Token.newLine ∉ hdr) (hf : ∀ x ∈ xs, Token.newLine ∉ f x) :
    blockOk (hdr ++ xs.flatMap (fun x => .newLine :: .indentation :: f x)) = true :=
  blockOk_header_lines hdr (fun x => .indentation :: f x) xs hne hnl fun x hx =>
    blockOk_of_noNL _ (by simp) (fun t ht e => by
      subst e; rcases List.mem_cons.mp ht with h | h
      · cases h
      · exact hf x hx h)

end QV.C02
