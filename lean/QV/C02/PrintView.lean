import QV.C02.Items
/-!
What the printer writes, seen as the parser will read it: a definition as a header line followed by a flat map of items
(`calItemToks`: newline, indentation, instruction) or of indented lines (`specLines`), a program as instructions each
followed by a newline (`progOf`), an instruction without its trailing newline (`lineToks`), and the printer's sort of
invocation parameters.  Nothing here mentions a parser.
-/
namespace QV.C02
open QV QV.Tok QV.Ast QV.Parse QV.Print QV.ExprPrint

def stripNL (ts : List Token) : List Token := if ts.getLast? = some .newLine then ts.dropLast else ts

/-- the tokens of an instruction without the trailing newline that DEFCAL MEASURE, DEFCIRCUIT and DEFGATE print -/
def lineToks (F : NumFmt) (i : Instruction) : List Token := stripNL (toks F i)

def progOf (e : Instruction → List Token) (L : List Instruction) : List Token :=
  L.flatMap fun i => e i ++ [.newLine]

theorem progOf_cons (e : Instruction → List Token) (i : Instruction) (L : List Instruction) :
    progOf e (i :: L) = e i ++ .newLine :: progOf e L := by simp [progOf]

theorem programRaw_eq_progOf (F : NumFmt) (L : List Instruction) : programRaw F L = progOf (toks F) L := rfl

theorem stripNL_snoc (X : List Token) : stripNL (X ++ [.newLine]) = X := by simp [stripNL]

theorem eq_dropLast_snoc {α : Type} (l : List α) (a : α) (h : l.getLast? = some a) : l = l.dropLast ++ [a] := by
  induction l with
  | nil => simp at h
  | cons x l ih =>
    cases l with
    | nil => simp at h; simp [h]
    | cons y l =>
      rw [List.getLast?_cons_cons] at h
      simp only [List.dropLast_cons₂, List.cons_append]
      rw [← ih h]

theorem stripNL_cases (ts : List Token) : ts = stripNL ts ∨ ts = stripNL ts ++ [.newLine] := by
  unfold stripNL
  split
  · rename_i h
    right
    exact eq_dropLast_snoc _ _ h
  · left; rfl

theorem toks_head (F : NumFmt) (i : Instruction) : ∃ t r, toks F i = t :: r ∧ startTok t = true := by
  cases i with
  | gate g =>
    obtain ⟨n, ps, qs, ms⟩ := g
    cases ms with
    | nil => exact ⟨_, _, rfl, rfl⟩
    | cons m ms => cases m <;> exact ⟨_, _, rfl, rfl⟩
  | capture c => obtain ⟨b, f, m, w⟩ := c; cases b <;> exact ⟨_, _, rfl, rfl⟩
  | pulse c => obtain ⟨b, f, w⟩ := c; cases b <;> exact ⟨_, _, rfl, rfl⟩
  | rawCapture c => obtain ⟨b, f, e, m⟩ := c; cases b <;> exact ⟨_, _, rfl, rfl⟩
  | _ => exact ⟨_, _, rfl, rfl⟩

theorem lineToks_head (F : NumFmt) (i : Instruction) : ∃ t r, lineToks F i = t :: r ∧ startTok t = true := by
  obtain ⟨t, r, ht, hst⟩ := toks_head F i
  unfold lineToks stripNL
  rw [ht]
  split
  · cases r with
    | nil => rename_i h; cases (Option.some.inj h : t = .newLine); cases hst
    | cons u r => exact ⟨t, _, rfl, hst⟩
  · exact ⟨t, r, rfl, hst⟩

abbrev Attr := String × AttributeValue

def attrToks (F : NumFmt) (kv : Attr) : List Token :=
  .newLine :: .indentation :: identTok kv.1 :: .colon :: attributeToks F kv.2

abbrev KV := String × PExpr

def namedArgToks (F : NumFmt) (kv : KV) : List Token := identTok kv.1 :: .colon :: printTop F kv.2

def calItemToks (F : NumFmt) (i : Instruction) : List Token := .newLine :: .indentation :: toks F i

theorem calBodyToks_eq (F : NumFmt) (body : List Instruction) :
    calBodyToks F body = body.flatMap (calItemToks F) := by
  induction body with
  | nil => rfl
  | cons i l ih => simp [calBodyToks, calItemToks, ih]

def calHeader (F : NumFmt) (id : CalibrationIdentifier) : List Token :=
  id.modifiers.map modifierTok ++ identTok id.name ::
    (paramsToks F id.parameters ++ qubitsToks id.qubits ++ [.colon])

theorem toks_calibrationDefinition (F : NumFmt) (id : CalibrationIdentifier) (body : List Instruction) :
    toks F (.calibrationDefinition id body) =
      cmd .defCal :: (calHeader F id ++ body.flatMap (calItemToks F)) := by
  dsimp only [toks]
  simp [calHeader, calBodyToks_eq]

theorem mcalBody_eq (F : NumFmt) (b : Instruction) (bs : List Instruction) :
    .newLine :: mcalBodyToks F (b :: bs) = (b :: bs).flatMap (calItemToks F) := by
  induction bs generalizing b with
  | nil => simp [mcalBodyToks, calItemToks]
  | cons c cs ih =>
    have := ih c
    simp only [mcalBodyToks, List.flatMap_cons, calItemToks, List.cons_append] at this ⊢
    rw [this]

theorem circuitBody_eq (F : NumFmt) (b : Instruction) (bs : List Instruction) :
    .newLine :: circuitBodyToks F (b :: bs) = (b :: bs).flatMap (calItemToks F) ++ [.newLine] := by
  induction bs generalizing b with
  | nil => simp [circuitBodyToks, calItemToks]
  | cons c cs ih =>
    have := ih c
    simp only [circuitBodyToks, List.flatMap_cons, calItemToks, List.cons_append, List.append_assoc] at this ⊢
    rw [this]

def measureTargetToks : Option String → List Token
  | some t => [identTok t]
  | none => []

def mcalHeader (id : MeasureCalibrationIdentifier) : List Token :=
  cmd .measure :: (measureNameToks id.name ++ qubitToks id.qubit ++ (measureTargetToks id.target ++ [.colon]))

def circuitHeader (name : String) (ps qvs : List String) : List Token :=
  identTok name :: (varParamsToks ps ++ (qvs.map nameTok ++ [.colon]))

theorem lineToks_measureCal (F : NumFmt) (id : MeasureCalibrationIdentifier) (body : List Instruction)
    (hne : body ≠ []) :
    lineToks F (.measureCalibrationDefinition id body) =
      cmd .defCal :: (mcalHeader id ++ body.flatMap (calItemToks F)) := by
  obtain ⟨b, bs, rfl⟩ := List.exists_cons_of_ne_nil hne
  have e : toks F (.measureCalibrationDefinition id (b :: bs)) =
      (cmd .defCal :: (mcalHeader id ++ (b :: bs).flatMap (calItemToks F))) ++ [.newLine] := by
    rw [← mcalBody_eq]
    dsimp only [toks]
    cases ht : id.target <;> simp [mcalHeader, measureTargetToks, ht]
  unfold lineToks
  rw [e, stripNL_snoc]

theorem lineToks_circuit (F : NumFmt) (name : String) (ps qvs : List String) (body : List Instruction)
    (hne : body ≠ []) :
    lineToks F (.circuitDefinition name ps qvs body) =
      cmd .defCircuit :: (circuitHeader name ps qvs ++ body.flatMap (calItemToks F)) := by
  obtain ⟨b, bs, rfl⟩ := List.exists_cons_of_ne_nil hne
  have e : toks F (.circuitDefinition name ps qvs (b :: bs)) =
      (cmd .defCircuit :: (circuitHeader name ps qvs ++ (b :: bs).flatMap (calItemToks F))) ++ [.newLine] := by
    dsimp only [toks]
    simp only [circuitHeader, circuitBody_eq, List.append_assoc, List.cons_append, List.nil_append]
  unfold lineToks
  rw [e, stripNL_snoc]

def pauliLine (F : NumFmt) (t : PauliTerm) : List Token :=
  .identifier (t.arguments.map fun ga => pauliGateChar ga.1) :: .lParenthesis ::
    (printTop F t.expression ++ .rParenthesis :: (t.arguments.map fun ga => identTok ga.2))

def specLineList (F : NumFmt) : GateSpecification → List (List Token)
  | .matrix rows => rows.map fun row => sepBy [.comma] (row.map (printTop F))
  | .permutation p => [sepBy [.comma] (p.map fun n => [Token.integer n])]
  | .pauliSum s => s.terms.map (pauliLine F)
  | .sequence s => s.gates.map (gateToks F)

def specLines (F : NumFmt) (spec : GateSpecification) : List Token :=
  (specLineList F spec).flatMap fun l => [Token.newLine] ++ (.indentation :: l)

theorem specToks_eq (F : NumFmt) (spec : GateSpecification) :
    specToks F spec = (specLineList F spec).flatMap fun l => .indentation :: (l ++ [.newLine]) := by
  cases spec with
  | matrix rows => simp [specToks, specLineList, List.flatMap_map]
  | permutation p => simp [specToks, specLineList]
  | pauliSum s =>
    simp only [specToks, specLineList, List.flatMap_map]
    rfl
  | sequence s => simp [specToks, specLineList, List.flatMap_map]

theorem specLineList_ne (F : NumFmt) (spec : GateSpecification) (h : specOk spec = true) :
    specLineList F spec ≠ [] := by
  cases spec <;> simp_all [specLineList, specOk]

def gateDefHeader (g : GateDefinition) : List Token :=
  cmd .defGate :: identTok g.name :: (varParamsToks g.parameters ++
    ((specQubitParams g.specification).map identTok ++ [.as, gateTypeTok g.specification, .colon]))

theorem lineToks_gateDefinition_of_ne (F : NumFmt) (g : GateDefinition)
    (hne : specLineList F g.specification ≠ []) :
    lineToks F (.gateDefinition g) = gateDefHeader g ++ specLines F g.specification := by
  have e : toks F (.gateDefinition g) = (gateDefHeader g ++ specLines F g.specification) ++ [.newLine] := by
    cases hl : specLineList F g.specification with
    | nil => exact absurd hl hne
    | cons x xs =>
      have := lines_eq (fun l : List Token => l) x xs
      dsimp only [toks] at this ⊢
      simp only [gateDefToks, gateDefHeader, specLines, specToks_eq, hl, List.append_assoc, List.cons_append,
        List.nil_append] at this ⊢
      rw [this]
  unfold lineToks
  rw [e, stripNL_snoc]

theorem lineToks_gateDefinition (F : NumFmt) (g : GateDefinition) (h : specOk g.specification = true) :
    lineToks F (.gateDefinition g) = gateDefHeader g ++ specLines F g.specification :=
  lineToks_gateDefinition_of_ne F g (specLineList_ne F g.specification h)

theorem lineToks_gateDefinition_head (F : NumFmt) (g : GateDefinition) (hp : specOk g.specification = true) :
    ∃ t r, lineToks F (.gateDefinition g) = t :: r ∧ startTok t = true :=
  lineToks_head F _

def SortedKV (l : List KV) : Prop := l.Pairwise (fun a b => a.1 < b.1)

theorem mem_insertKV {x a : KV} {l : List KV} : a ∈ insertKV x l ↔ a = x ∨ a ∈ l := by
  induction l with
  | nil => simp [insertKV]
  | cons y ys ih =>
    simp only [insertKV]
    split
    · simp
    · simp only [List.mem_cons, ih, or_left_comm]

theorem mem_sortKV {a : KV} {l : List KV} : a ∈ sortKV l ↔ a ∈ l := by
  induction l with
  | nil => simp [sortKV]
  | cons x xs ih => simp [sortKV, mem_insertKV, ih]

theorem insertKV_sorted {x : KV} {l : List KV} (hs : SortedKV l) (hx : ∀ a ∈ l, a.1 ≠ x.1) :
    SortedKV (insertKV x l) := by
  induction l with
  | nil => simp [insertKV, SortedKV]
  | cons y ys ih =>
    have ⟨hy, hys⟩ := List.pairwise_cons.mp hs
    simp only [insertKV]
    split
    · next hlt =>
      refine List.pairwise_cons.mpr ⟨fun a ha => ?_, hs⟩
      rcases List.mem_cons.mp ha with rfl | ha
      · exact hlt
      · exact String.lt_trans hlt (hy a ha)
    · next hnlt =>
      -- the keys differ, so `¬ x < y` gives `y < x`
      have hyx : y.1 < x.1 := Decidable.byContradiction fun h => hx y (by simp) (String.le_antisymm hnlt h)
      refine List.pairwise_cons.mpr ⟨fun a ha => ?_, ih hys fun a ha => hx a (by simp [ha])⟩
      rcases mem_insertKV.mp ha with rfl | ha
      · exact hyx
      · exact hy a ha

theorem sortKV_sorted (l : List KV) (hd : (l.map (·.1)).Nodup) : SortedKV (sortKV l) := by
  induction l with
  | nil => simp [sortKV, SortedKV]
  | cons x xs ih =>
    simp only [List.map_cons, List.nodup_cons] at hd
    simp only [sortKV]
    apply insertKV_sorted (ih hd.2)
    intro a ha hax
    exact hd.1 (by rw [← hax]; exact List.mem_map_of_mem (mem_sortKV.mp ha))

theorem sortKV_of_sorted (l : List KV) (hs : SortedKV l) : sortKV l = l := by
  induction l with
  | nil => rfl
  | cons x xs ih =>
    have hs' := List.pairwise_cons.mp hs
    simp only [sortKV, ih hs'.2]
    cases xs with
    | nil => rfl
    | cons y ys => simp [insertKV, hs'.1 y (by simp)]

theorem sortKV_idem (l : List KV) (hd : (l.map (·.1)).Nodup) : sortKV (sortKV l) = sortKV l :=
  sortKV_of_sorted _ (sortKV_sorted l hd)

theorem sorted_nodup (l : List KV) (hs : SortedKV l) : (l.map (·.1)).Nodup := by
  refine List.pairwise_map.mpr (List.Pairwise.imp (fun {a b} h e => ?_) hs)
  exact String.lt_irrefl b.1 (e ▸ h)

theorem insertKV_map (f : PExpr → PExpr) (x : KV) (l : List KV) :
    insertKV (x.1, f x.2) (l.map fun kv => (kv.1, f kv.2)) = (insertKV x l).map fun kv => (kv.1, f kv.2) := by
  induction l with
  | nil => rfl
  | cons y ys ih =>
    simp only [List.map_cons, insertKV]
    split <;> simp [ih]

theorem sortKV_map (f : PExpr → PExpr) (l : List KV) :
    sortKV (l.map fun kv => (kv.1, f kv.2)) = (sortKV l).map fun kv => (kv.1, f kv.2) := by
  induction l with
  | nil => rfl
  | cons x xs ih => simp only [List.map_cons, sortKV, ih, insertKV_map]

def attrNumTok (F : NumFmt) : AttributeValue → Bool
  | .string _ => true
  | .expression e => numTokOk F e

theorem attrNumTok_of_numTokInstr (F : NumFmt) (f : FrameDefinition)
    (hn : numTokInstr F (.frameDefinition f) = true) : ∀ kv ∈ f.attributes, attrNumTok F kv.2 = true := by
  intro kv hkv
  have := List.all_eq_true.mp hn kv hkv
  generalize kv.2 = v at this ⊢
  cases v <;> exact this

theorem nameTok_ne_bang_lParen_newLine (s : String) :
    nameTok s ≠ .bang ∧ nameTok s ≠ .lParenthesis ∧ nameTok s ≠ .newLine := by
  simp only [nameTok, keywordOrIdentifier]
  split
  · rename_i k _; cases k <;> simp [KeywordToken.toToken]
  · split
    · simp
    · split
      · simp
      · split <;> simp

end QV.C02
