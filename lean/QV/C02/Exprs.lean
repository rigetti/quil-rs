import QV.C02.Spec
import QV.Shared.ExprRoundTrip
/-!
Expressions.  A parser-produced expression (`parsedExpr`) has the shape `norm` leaves alone (`parserShaped`) and finite
literals, so C03's token-level round trip (`QV.ExprRoundTrip.parseExpression_printTop`), which reads any finite-literal
expression back as its normal form, reads it back EXACTLY.  Also: the first token of a printed number / expression
(`numOrMinus`, `exprStart`), which is never a string token (`printTop_notString`).
-/
namespace QV.C02
open QV QV.Tok QV.Ast QV.Parse QV.Print QV.ExprPrint QV.ExprRoundTrip

theorem finiteNonneg_lt {b : Nat} (h : finiteNonneg b = true) : b < 0x7FF0000000000000 := by
  have : b < infBits := by simpa [finiteNonneg] using h
  simpa [infBits] using this

theorem plain_of_finiteNonneg {b : Nat} (h : finiteNonneg b = true) : plainBits b = true :=
  (plainBits_iff b).mpr (.inl (finiteNonneg_lt h))

theorem shaped_of_parsedExpr (e : PExpr) (h : parsedExpr e = true) :
    parserShaped e = true ∧ finiteLits e = true := by
  unfold finiteLits
  induction e with
  | call f e ih => exact ih h
  | bin l o r ihl ihr =>
    have h := Bool.and_eq_true_iff.mp h
    exact ⟨Bool.and_eq_true_iff.mpr ⟨(ihl h.1).1, (ihr h.2).1⟩, Bool.and_eq_true_iff.mpr ⟨(ihl h.1).2, (ihr h.2).2⟩⟩
  | number z =>
    obtain ⟨re, im⟩ := z
    have lt : ∀ {b}, finiteNonneg b = true → b < two63 ∧ plainBits b = true := fun hb =>
      ⟨by have := finiteNonneg_lt hb; simp only [two63]; omega, plain_of_finiteNonneg hb⟩
    simp only [parsedExpr, parsedLit, Bool.or_eq_true, Bool.and_eq_true, beq_iff_eq] at h
    rcases h with ⟨rfl, hf⟩ | ⟨rfl, hf⟩
    · exact ⟨by simp [parserShaped, (lt hf).1], by simp [allLits, (lt hf).2, plain_zero]⟩
    · exact ⟨by simp [parserShaped, (lt hf).1], by simp [allLits, (lt hf).2, plain_zero]⟩
  | pre o e ih =>
    cases o with
    | plus => cases h
    | minus => exact ih h
  | _ => exact ⟨rfl, rfl⟩

theorem norm_parsedExpr (e : PExpr) (h : parsedExpr e = true) : norm e = e :=
  norm_eq_self e (shaped_of_parsedExpr e h).1

theorem map_norm_parsed (ps : List PExpr) (h : ps.all parsedExpr = true) : ps.map norm = ps :=
  (List.map_congr_left fun e he => norm_parsedExpr e (List.all_eq_true.mp h e he)).trans (List.map_id _)

theorem finiteLits_parsedExpr (e : PExpr) (h : parsedExpr e = true) : finiteLits e = true :=
  (shaped_of_parsedExpr e h).2

theorem all_finiteLits_parsed {ps : List PExpr} (h : ps.all parsedExpr = true) : ps.all finiteLits = true :=
  List.all_eq_true.mpr fun e he => finiteLits_parsedExpr e (List.all_eq_true.mp h e he)

def numOrMinus : Token → Bool
  | .integer _ | .float _ | .operator .minus => true
  | _ => false

def exprStart : Token → Bool
  | .identifier _ | .variable _ | .lParenthesis => true
  | t => numOrMinus t

theorem numOrMinus_of_tokBits {t : Token} {m : Nat} (h : tokBits t = some m) : numOrMinus t = true := by
  obtain ⟨n, rfl⟩ | ⟨b, rfl⟩ := tokBits_not_num h <;> rfl

theorem exprStart_of_numOrMinus {t : Token} (h : numOrMinus t = true) : exprStart t = true := by
  unfold exprStart
  split <;> first | rfl | exact h

theorem signedToks_head (f : Nat → Token) (b : Nat) (h : tokBits (f (fAbs b)) = some (fAbs b)) (r : List Token) :
    ∃ t r', signedToks f b ++ r = t :: r' ∧ numOrMinus t = true := by
  rw [signedToks_eq]
  cases fSign b
  · exact ⟨_, _, rfl, numOrMinus_of_tokBits h⟩
  · exact ⟨_, _, rfl, rfl⟩

theorem complexToks_head (F : NumFmt) (z : CBits) (h : numTokOkAt F z = true) (r : List Token) :
    ∃ t r', complexToks F z ++ r = t :: r' ∧ numOrMinus t = true := by
  simp only [numTokOkAt, Bool.and_eq_true, beq_iff_eq] at h
  unfold complexToks
  split
  · exact ⟨_, _, rfl, rfl⟩
  · split
    · exact signedToks_head _ _ h.1 r
    · split
      · rw [List.append_assoc]; exact signedToks_head _ _ h.2 _
      · simp only [List.append_assoc]; exact signedToks_head _ _ h.1 _

theorem printTop_head (F : NumFmt) (e : PExpr) (hn : numTokOk F e = true) (r : List Token) :
    ∃ t r', printTop F e ++ r = t :: r' ∧ exprStart t = true := by
  unfold numTokOk at hn
  induction e generalizing r with
  | address m => exact ⟨_, _, rfl, rfl⟩
  | call f x _ => exact ⟨_, _, rfl, rfl⟩
  | bin l o x ihl _ =>
    simp only [allLits, Bool.and_eq_true] at hn
    simp only [printTop, wrapIf, List.append_assoc]
    split
    · exact ⟨_, _, rfl, rfl⟩
    · exact ihl hn.1 _
  | number z =>
    obtain ⟨t, r', e, ht⟩ := complexToks_head F z hn r
    exact ⟨t, r', e, exprStart_of_numOrMinus ht⟩
  | pi => exact ⟨_, _, rfl, rfl⟩
  | pre o x ih =>
    cases o with
    | minus => exact ⟨_, _, rfl, rfl⟩
    | plus =>
      simp only [printTop, prefixToks, List.nil_append, show (PrefixOp.plus == PrefixOp.minus) = false from rfl,
        Bool.false_and, wrapIf_false]
      unfold wrapIf
      split
      · exact ⟨_, _, rfl, rfl⟩
      · exact ih hn _
  | var x => exact ⟨_, _, rfl, rfl⟩

def notString : List Token → Bool
  | .string _ :: _ => false
  | _ => true

theorem notString_of_exprStart {t : Token} (h : exprStart t = true) (r : List Token) :
    notString (t :: r) = true := by
  cases t <;> first | rfl | cases h

theorem printTop_notString (F : NumFmt) (e : PExpr) (hn : numTokOk F e = true) (r : List Token) :
    notString (printTop F e ++ r) = true := by
  obtain ⟨t, r', e, ht⟩ := printTop_head F e hn r
  rw [e]; exact notString_of_exprStart ht r'

theorem parseExpression_newLine (r : List Token) : parseExpression (.newLine :: r) = .err := by
  simp [parseExpression, budget, parseExpressionAt, parse, parseBody, opt, parsePrefix, parseImmediateValue,
    parseOperand]

theorem parseExpression_lBracket (r : List Token) : parseExpression (.lBracket :: r) = .err := by
  simp [parseExpression, budget, parseExpressionAt, parse, parseBody, opt, parsePrefix, parseImmediateValue,
    parseOperand]

end QV.C02
