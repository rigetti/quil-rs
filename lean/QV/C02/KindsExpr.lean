import QV.C02.Reads
import QV.C02.Fields
/-!
The per-kind lemmas `reads_<kind>` for the frame instructions that end in an expression (one statement,
`reads_frameExpr`, for the five SET- / SHIFT- kinds), SWAP-PHASES and gate applications.  `reads_frameExpr` and the
`_norm` forms take any expression with finite literals and read it back as its normal form (instructions built through
the API, C04); on a parser-produced expression that is the expression itself.
-/
namespace QV.C02
open QV QV.Tok QV.Ast QV.Parse QV.Print QV.ExprPrint QV.ExprRoundTrip

theorem reads_frameExpr (F : NumFmt) (c : Command) (mk : FrameIdentifier → PExpr → Instruction)
    (f : FrameIdentifier) (e : PExpr)
    (hparse : ∀ pe pi, parseCommand pe pi c = (do let fr ← parseFrameIdentifier; let x ← pe; pure (mk fr x)))
    (ht : toks F (mk f e) = cmd c :: (frameToks f ++ printTop F e))
    (hf : frameOk f = true) (he : finiteLits e = true) (hn : numTokOk F e = true) :
    Reads anyRest (toks F (mk f e)) (mk f (norm e)) :=
  reads_of_parser _ ht rfl fun rest _ => by
    simp only [hparse, bind_eq, Parser.bind, List.append_assoc, parseFrameIdentifier_toks f hf,
      parseExpression_printTop F e he hn (.newLine :: rest) rfl, pure_eq, Parser.pure]

theorem reads_frameExpr_parsed (F : NumFmt) (c : Command) (mk : FrameIdentifier → PExpr → Instruction)
    (f : FrameIdentifier) (e : PExpr)
    (hparse : ∀ pe pi, parseCommand pe pi c = (do let fr ← parseFrameIdentifier; let x ← pe; pure (mk fr x)))
    (ht : toks F (mk f e) = cmd c :: (frameToks f ++ printTop F e))
    (hp : (frameOk f && parsedExpr e) = true) (hn : numTokOk F e = true) :
    Reads anyRest (toks F (mk f e)) (mk f e) := by
  have hp := Bool.and_eq_true_iff.mp hp
  have := reads_frameExpr F c mk f e hparse ht hp.1 (finiteLits_parsedExpr e hp.2) hn
  rwa [norm_parsedExpr e hp.2] at this

theorem reads_swapPhases (F : NumFmt) (s : SwapPhases) (hp : parsedInstr (.swapPhases s) = true) :
    Reads anyRest (toks F (.swapPhases s)) (.swapPhases s) := by
  obtain ⟨f1, f2⟩ := s
  dsimp only [parsedInstr] at hp
  simp only [Bool.and_eq_true] at hp
  refine reads_of_parser (parseCommand parseExpression parseInstruction .swapPhases)
    (payload := frameToks f1 ++ frameToks f2) rfl rfl fun rest _ => ?_
  dsimp only [parseCommand]
  simp only [parseSwapPhases, bind_eq, Parser.bind, List.append_assoc,
    parseFrameIdentifier_toks f1 hp.1, parseFrameIdentifier_toks f2 hp.2, pure_eq, Parser.pure]

theorem reads_gate_norm (F : NumFmt) (g : Gate) (hfin : g.parameters.all finiteLits = true)
    (hq : g.qubits.all noPlaceholder = true) (hn : g.parameters.all (numTokOk F) = true) :
    Reads anyRest (toks F (.gate g)) (.gate { g with parameters := g.parameters.map norm }) := by
  obtain ⟨name, ps, qs, ms⟩ := g
  refine reads_of_parseGate ms name (paramsToks F ps ++ qubitsToks qs) (by simp [toks, gateToks]) fun rest => ?_
  simp only [toks, gateToks, List.append_assoc, List.cons_append, parseGate, bind_eq, Parser.bind, many0_modifiers]
  simp only [identTok, tokIdentifier, str_toList_eq,
    parseParameters_toks F norm _ ps _ (parseExpression_all F hfin hn) (lparen_qubits qs .newLine rest (by simp)),
    many0_parseQubit qs hq _ (show notQubit (.newLine :: rest) = true from rfl), pure_eq, Parser.pure]

theorem reads_gate (F : NumFmt) (g : Gate) (hp : parsedInstr (.gate g) = true)
    (hn : numTokInstr F (.gate g) = true) : Reads anyRest (toks F (.gate g)) (.gate g) := by
  dsimp only [parsedInstr] at hp
  simp only [gateOk, Bool.and_eq_true] at hp
  dsimp only [numTokInstr] at hn
  have := reads_gate_norm F g (all_finiteLits_parsed hp.1) hp.2 hn
  rwa [map_norm_parsed _ hp.1] at this

end QV.C02
