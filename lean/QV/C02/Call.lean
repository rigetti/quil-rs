import QV.C02.Reads
import QV.C02.Fields
/-!
CALL.  `parse_call_argument` = memory reference with brackets | identifier | immediate; `parse_call_immediate` reads
`[-] value`, then LOOKS AHEAD for `(+|-) value` and merges the two when the first is real and the second purely imaginary
and non-zero.  The printer writes a complex immediate as `[-]re(+|-)im i` (merged back), and puts a `0` before a
negative imaginary immediate that follows a real one (so that it is not merged into its predecessor).
-/
namespace QV.C02
open QV QV.Tok QV.Ast QV.Parse QV.Print QV.ExprPrint QV.ExprRoundTrip

/-- the look-ahead of `parse_call_immediate` (command.rs:159), after the first value -/
def callLook (first : CBits) : Parser CBits := fun input =>
  match opt (alt (preceded (tok (.operator .plus)) parseImmediateValue)
      (pmap cNegate (preceded (tok (.operator .minus)) parseImmediateValue))) input with
  | .ok (some second) rest =>
    if Parse.fIsZero first.im && Parse.fIsZero second.re && !Parse.fIsZero second.im then
      .ok (cAddGuarded first second) rest
    else .ok first input
  | .ok none _ => .ok first input
  | .err => .err | .fail => .fail | .crash w => .crash w

theorem parseCallImmediate_eq (input : List Token) :
    parseCallImmediate input =
      match opt (tok (.operator .minus)) input with
      | .ok m r1 =>
        match parseImmediateValue r1 with
        | .ok f r2 => callLook (if m.isSome then cNegate f else f) r2
        | .err => .err | .fail => .fail | .crash w => .crash w
      | .err => .err | .fail => .fail | .crash w => .crash w := by
  unfold parseCallImmediate callLook
  cases h1 : opt (tok (.operator .minus)) input with
  | ok m r1 =>
    cases h2 : parseImmediateValue r1 <;> simp only [Bind.bind, Parser.bind, h1, h2] <;> rfl
  | err => simp [Bind.bind, Parser.bind, h1]
  | fail => simp [Bind.bind, Parser.bind, h1]
  | crash w => simp [Bind.bind, Parser.bind, h1]

theorem optParseI_ok (r : List Token) : (∃ v r', opt parseI r = .ok v r') := by
  cases r with
  | nil => exact ⟨none, [], rfl⟩
  | cons u r' =>
    cases u with
    | identifier s =>
      by_cases hs : s = ['i']
      · exact ⟨some (), r', by simp [opt, parseI, hs]⟩
      · exact ⟨none, .identifier s :: r', by simp [opt, parseI, hs]⟩
    | _ => exact ⟨none, _, rfl⟩

theorem imm_cases (r : List Token) : (∃ v r', parseImmediateValue r = .ok v r') ∨ parseImmediateValue r = .err := by
  cases r with
  | nil => exact .inr rfl
  | cons t r' =>
    cases ht : tokBits t with
    | none => exact .inr (imm_err r' ht)
    | some m =>
      obtain ⟨v, r'', hv⟩ := optParseI_ok r'
      rw [immediate_of_tokBits r' ht, hv]
      cases v <;> exact .inl ⟨_, _, rfl⟩

/-- what may follow a REAL immediate without being merged into it: not `+ …`, not `- number i` -/
def noMerge : List Token → Bool
  | .operator .plus :: _ => false
  | .operator .minus :: t :: r => !((tokBits t).isSome && !notI r)
  | _ => true

theorem fIsZero_zero : Parse.fIsZero 0 = true := by decide

theorem callLook_keep (first : CBits) (next : List Token)
    (h : Parse.fIsZero first.im = false ∨ noMerge next = true) : callLook first next = .ok first next := by
  unfold callLook
  cases next with
  | nil => simp [opt, alt, preceded, pmap, tok, Parser.bind, Outcome.map]
  | cons u r =>
    by_cases hp : u = .operator .plus
    · subst hp
      rcases h with h | h
      · rcases imm_cases r with ⟨v, r', hv⟩ | hv <;>
          simp [opt, alt, preceded, pmap, tok, Parser.bind, Outcome.map, hv, h]
      · simp [noMerge] at h
    · by_cases hm : u = .operator .minus
      · subst hm
        cases r with
        | nil => simp [opt, alt, preceded, pmap, tok, Parser.bind, Outcome.map, parseImmediateValue]
        | cons t r' =>
          cases htb : tokBits t with
          | none =>
            simp [opt, alt, preceded, pmap, tok, Parser.bind, Outcome.map, imm_err r' htb]
          | some m =>
            rcases h with h | h
            · rcases imm_cases (t :: r') with ⟨v, r'', hv⟩ | hv <;>
                simp [opt, alt, preceded, pmap, tok, Parser.bind, Outcome.map, hv, h]
            · have hni : notI r' = true := by simpa [noMerge, htb] using h
              have hv := imm_real (r := r') htb hni
              simp [opt, alt, preceded, pmap, tok, Parser.bind, Outcome.map, hv, CBits.real, zeroBits, cNegate, fZeroMinus, fIsZero_zero]
      · simp [opt, alt, preceded, pmap, tok, Parser.bind, Outcome.map, hp, hm]

/-- the value `parse_call_immediate` gives a sign and a magnitude: the minus sign is `0 - x` -/
def signedBits (s : Bool) (m : Nat) : Nat := if s then fZeroMinus m else m

/-- `0 - m` negates `m` except at `m = 0`, where it gives `+0.0`: hence `plainBits`, which excludes `-0.0` -/
theorem signedBits_fAbs (b : Nat) (h : plainBits b = true) (h0 : b ≠ 0) : signedBits (fSign b) (fAbs b) = b := by
  rw [plainBits_iff] at h
  have e : QV.DecF64.two63 = 9223372036854775808 := rfl
  have h63 : two63 = 9223372036854775808 := rfl
  by_cases hs : 9223372036854775808 ≤ b <;>
    simp only [signedBits, fSign, fAbs, fZeroMinus, Parse.fIsZero, negZeroBits, QV.DecF64.negBits, h63, e, hs,
      decide_true, decide_false, if_true, if_false, Bool.false_eq_true, beq_iff_eq, Bool.or_eq_true] <;>
    (repeat' split) <;> omega

theorem fZeroMinus_zero : fZeroMinus 0 = 0 := by decide

theorem parseCallImmediate_real (s : Bool) (P : Token) (m : Nat) (after : List Token) (hP : tokBits P = some m)
    (hni : notI after = true) :
    parseCallImmediate (minusToks s ++ P :: after) = callLook ⟨signedBits s m, 0⟩ after := by
  rw [parseCallImmediate_eq]
  cases s
  · simp only [minusToks, Bool.false_eq_true, if_false, List.nil_append, opt, tok, tokBits_ne_minus hP,
      Option.isSome_none, imm_real (r := after) hP hni, CBits.real, zeroBits, signedBits]
  · simp only [minusToks, if_true, List.singleton_append, opt, tok, Option.isSome_some, imm_real (r := after) hP hni, CBits.real, zeroBits,
      cNegate, fZeroMinus_zero, signedBits]

theorem parseCallImmediate_imag (s : Bool) (P : Token) (m : Nat) (after : List Token) (hP : tokBits P = some m) :
    parseCallImmediate (minusToks s ++ P :: tokI :: after) = callLook ⟨0, signedBits s m⟩ after := by
  rw [parseCallImmediate_eq]
  cases s
  · simp only [minusToks, Bool.false_eq_true, if_false, List.nil_append, opt, tok, tokBits_ne_minus hP,
      Option.isSome_none, imm_imag after hP, CBits.imag, zeroBits, signedBits]
  · simp only [minusToks, if_true, List.singleton_append, opt, tok, Option.isSome_some, imm_imag after hP, CBits.imag, zeroBits,
      cNegate, fZeroMinus_zero, signedBits]

theorem callLook_merge (first : CBits) (s : Bool) (Q : Token) (m : Nat) (next : List Token)
    (hq : tokBits Q = some m) (hf : Parse.fIsZero first.im = true)
    (hm : Parse.fIsZero (signedBits s m) = false) :
    callLook first (.operator (if s then .minus else .plus) :: Q :: tokI :: next) =
      .ok (cAddGuarded first ⟨0, signedBits s m⟩) next := by
  unfold callLook
  cases s <;>
    simp [opt, alt, preceded, pmap, tok, Parser.bind, Outcome.map, imm_imag next hq, CBits.imag, zeroBits, hf, fIsZero_zero,
      cNegate, fZeroMinus_zero, signedBits] at hm ⊢ <;> simp [hm]

theorem fAddZero_left (x : Nat) (h : Parse.fIsZero x = false) : fAddZero x 0 = x := by
  simp [fAddZero, h]

theorem fAddZero_right (y : Nat) (h : Parse.fIsZero y = false) : fAddZero 0 y = y := by
  simp [fAddZero, fIsZero_zero, h]

theorem fAddZero_zero : fAddZero 0 0 = 0 := by decide

theorem cAddGuarded_parts (re im : Nat) (hr : re = 0 ∨ Parse.fIsZero re = false) (hi : Parse.fIsZero im = false) :
    cAddGuarded ⟨re, 0⟩ ⟨0, im⟩ = ⟨re, im⟩ := by
  rcases hr with rfl | hr
  · simp [cAddGuarded, fAddZero_zero, fAddZero_right im hi]
  · simp [cAddGuarded, fAddZero_left re hr, fAddZero_right im hi]

/-- a negative purely imaginary immediate: the one the printer separates from a preceding real immediate by `0` -/
def negImag (z : CBits) : Bool := fZero z.re && fLtZero z.im

theorem parseCallImmediate_toks (F : NumFmt) (z : CBits) (hre : plainBits z.re = true)
    (him : plainBits z.im = true) (hn : numTokOkAt F z = true) (zp : Bool) (hzp : zp = true → negImag z = true)
    (next : List Token) (hnext : fZero z.im = true → notI next = true ∧ noMerge next = true) :
    parseCallImmediate ((if zp then [Token.integer 0] else []) ++ complexToks F z ++ next) = .ok z next := by
  simp only [numTokOkAt, Bool.and_eq_true, beq_iff_eq] at hn
  have noPrefix : ∀ {z}, (zp = true → negImag z = true) → negImag z = false → zp = false := fun h hz => by
    cases zp
    · rfl
    · rw [h rfl] at hz; cases hz
  revert hn hzp hnext
  refine plainLit_cases (fun hzp hnext _ => ?_) (fun re hre hr0 hzp hnext hn => ?_)
    (fun im him hi0 hzp _ hn => ?_) (fun re im hre hr0 him hi0 hzp _ hn => ?_) z hre him
  · obtain rfl := noPrefix hzp rfl
    exact (parseCallImmediate_real false (.integer 0) 0 next rfl (hnext rfl).1).trans
      (callLook_keep _ _ (.inr (hnext rfl).2))
  · -- real-valued: nothing to merge
    obtain rfl := noPrefix hzp (by simp [negImag, fLtZero])
    rw [if_neg Bool.false_ne_true, List.nil_append, complexToks_real F (plain_nonzero hre hr0).1,
      List.append_assoc, List.singleton_append, parseCallImmediate_real _ _ _ next hn.1 (hnext rfl).1,
      signedBits_fAbs re hre hr0]
    exact callLook_keep _ _ (.inr (hnext rfl).2)
  · -- purely imaginary: read as such, or, after the `0` prefix, merged into `0 - …i`
    obtain ⟨hzi, -, hlt⟩ := plain_nonzero him hi0
    have hvi := signedBits_fAbs im him hi0
    rw [complexToks_imag F hzi]
    cases zp with
    | false =>
      rw [if_neg Bool.false_ne_true, List.nil_append, List.append_assoc, List.cons_append, List.cons_append,
        List.nil_append, parseCallImmediate_imag _ _ _ next hn.2, hvi]
      exact callLook_keep _ _ (.inl hzi)
    | true =>
      have hs : fSign im = true := by simpa [negImag, fZero_zero, hlt] using hzp rfl
      rw [hs] at hvi ⊢
      exact (parseCallImmediate_real false (.integer 0) 0
        (.operator .minus :: F.imag (fAbs im) :: tokI :: next) rfl rfl).trans
        ((callLook_merge ⟨0, 0⟩ true _ _ next hn.2 fIsZero_zero (by rw [hvi]; exact hzi)).trans
          (by rw [hvi]; exact congrArg (Outcome.ok · next) (cAddGuarded_parts 0 im (.inl rfl) hzi)))
  · -- both parts: `re (+|-) im i`, merged by the look-ahead
    obtain ⟨hzr, -, -⟩ := plain_nonzero hre hr0
    obtain ⟨hzi, hg, -⟩ := plain_nonzero him hi0
    have hvi := signedBits_fAbs im him hi0
    obtain rfl := noPrefix hzp (by simp [negImag, hzr])
    rw [if_neg Bool.false_ne_true, List.nil_append, complexToks_sum F hzr hzi hg, complexToks_real F hzr,
      List.append_assoc, List.append_assoc, List.singleton_append,
      parseCallImmediate_real _ _ _ _ hn.1 rfl, signedBits_fAbs re hre hr0, List.cons_append, List.cons_append,
      List.cons_append, List.nil_append,
      callLook_merge ⟨re, 0⟩ _ _ _ next hn.2 fIsZero_zero (by rw [hvi]; exact hzi), hvi,
      cAddGuarded_parts re im (.inr hzr) hzi]

/-- an immediate the round trip can handle: finite components, never `-0.0`, printed as number tokens -/
def immOk (F : NumFmt) (z : CBits) : Bool := plainBits z.re && plainBits z.im && numTokOkAt F z

/-- the third component is what `noMerge` asks of a printed immediate that begins with a minus sign
(`complexToks_follow`) -/
theorem complexToks_view (F : NumFmt) (z : CBits) (h : immOk F z = true) :
    ∃ (neg : Bool) (P : Token) (m : Nat) (r : List Token),
      complexToks F z = minusToks neg ++ P :: r ∧ tokBits P = some m ∧
      (neg = true → negImag z = true ∨ (fZero z.im = true ∧ r = []) ∨ ∃ o r', r = .operator o :: r') := by
  simp only [immOk, numTokOkAt, Bool.and_eq_true, beq_iff_eq] at h
  obtain ⟨⟨hre, him⟩, hn⟩ := h
  revert hn
  refine plainLit_cases (fun _ => ?_) (fun re hre hr0 hn => ?_) (fun im him hi0 hn => ?_)
    (fun re im hre hr0 him hi0 hn => ?_) z hre him
  · exact ⟨false, .integer 0, _, [], rfl, rfl, nofun⟩
  · exact ⟨fSign re, _, _, [], complexToks_real F (plain_nonzero hre hr0).1, hn.1, fun _ => .inr (.inl ⟨rfl, rfl⟩)⟩
  · obtain ⟨hzi, -, hlt⟩ := plain_nonzero him hi0
    exact ⟨fSign im, _, _, [tokI], complexToks_imag F hzi, hn.2, fun hs => .inl (by simp [negImag, fZero_zero, hlt, hs])⟩
  · obtain ⟨hzr, -, -⟩ := plain_nonzero hre hr0
    obtain ⟨hzi, hg, -⟩ := plain_nonzero him hi0
    refine ⟨fSign re, _, _, [.operator (if fSign im then .minus else .plus), F.imag (fAbs im), tokI], ?_, hn.1,
      fun _ => .inr (.inr ⟨_, _, rfl⟩)⟩
    rw [complexToks_sum F hzr hzi hg, complexToks_real F hzr, List.append_assoc]
    rfl

/-- the hypothesis of the CALL lemmas: `callArgOk` (or `QV.C04.callArgOk`, for arguments built through the API) together
with the NumTok hypothesis for the argument, see `all_callArgOkP` -/
def callArgOkP (F : NumFmt) : UnresolvedCallArgument → Bool
  | .immediate z => immOk F z
  | _ => true

theorem all_callArgOkP (F : NumFmt) (ok : UnresolvedCallArgument → Bool) (args : List UnresolvedCallArgument)
    (himm : ∀ z, ok (.immediate z) = true → (plainBits z.re && plainBits z.im) = true)
    (h1 : args.all ok = true)
    (h2 : (args.all fun a => match a with | .immediate z => numTokOkAt F z | _ => true) = true) :
    args.all (callArgOkP F) = true := by
  rw [List.all_eq_true] at h1 h2 ⊢
  intro a ha
  cases a with
  | immediate z => exact Bool.and_eq_true_iff.mpr ⟨himm z (h1 _ ha), h2 _ ha⟩
  | _ => rfl

theorem complexToks_follow (F : NumFmt) (w : CBits) (h : immOk F w = true) (S : List Token)
    (hS : fZero w.im = true → notI S = true) :
    headNe .lBracket (complexToks F w ++ S) = true ∧
      (negImag w = false → notI (complexToks F w ++ S) = true ∧ noMerge (complexToks F w ++ S) = true) := by
  obtain ⟨neg, P, m, r, e, hP, hneg⟩ := complexToks_view F w h
  rw [e]
  cases neg with
  | false =>
    -- `P` is an integer or a float token: not `[`, not `i`, nothing `callLook` merges
    obtain ⟨n, rfl⟩ | ⟨b, rfl⟩ := tokBits_not_num hP <;> exact ⟨rfl, fun _ => ⟨rfl, rfl⟩⟩
  | true =>
    refine ⟨rfl, fun hni => ⟨rfl, ?_⟩⟩
    -- after `- P` the merge test looks at the token that follows `P`
    have hm : ∀ T, noMerge (.operator .minus :: P :: T) = notI T := fun T => by simp [noMerge, hP]
    rcases hneg rfl with h1 | ⟨hz, rfl⟩ | ⟨o, r', rfl⟩
    · rw [hni] at h1; cases h1
    · exact (hm _).trans (hS hz)
    · exact hm _

theorem callZeroPrefix_identifier (prev : Option UnresolvedCallArgument) (s : String) :
    callZeroPrefix prev (.identifier s) = [] := by
  cases prev with
  | none => rfl
  | some q => cases q <;> rfl

theorem callZeroPrefix_memoryReference (prev : Option UnresolvedCallArgument) (r : MemRef) :
    callZeroPrefix prev (.memoryReference r) = [] := by
  cases prev with
  | none => rfl
  | some q => cases q <;> rfl

theorem callZeroPrefix_immediate (prev : Option UnresolvedCallArgument) (w : CBits) :
    callZeroPrefix prev (.immediate w) = if isRealImm prev && negImag w then [.integer 0] else [] := by
  cases prev with
  | none => rfl
  | some q => cases q <;> simp only [callZeroPrefix, isRealImm, negImag, Bool.and_assoc, Bool.false_and] <;> rfl

/-- what the printed arguments that follow `prev` begin with: never `[` (so a preceding identifier is not read as a
memory reference), and after a real immediate neither `i` nor anything `callLook` would merge -/
theorem callArgsToks_head (F : NumFmt) (rest : List Token) :
    ∀ (args : List UnresolvedCallArgument) (prev : Option UnresolvedCallArgument),
      args.all (callArgOkP F) = true → chainOk prev args = true →
      headNe .lBracket (callArgsToks F prev args ++ .newLine :: rest) = true ∧
        (isRealImm prev = true →
          notI (callArgsToks F prev args ++ .newLine :: rest) = true ∧
          noMerge (callArgsToks F prev args ++ .newLine :: rest) = true)
  | [], _, _, _ => ⟨rfl, fun _ => ⟨rfl, rfl⟩⟩
  | a :: args, prev, hok, hch => by
    simp only [List.all_cons, Bool.and_eq_true] at hok
    simp only [chainOk, Bool.and_eq_true, Bool.not_eq_true', Bool.and_eq_false_iff] at hch
    have ih := callArgsToks_head F rest args (some a) hok.2 hch.2
    have hname : isRealImm prev = true → namedI a = false := fun hr => by
      rcases hch.1 with h | h
      · rw [hr] at h; cases h
      · exact h
    rw [callArgsToks, List.append_assoc, List.append_assoc]
    cases a with
    | identifier s =>
      rw [callZeroPrefix_identifier]
      exact ⟨rfl, fun hr => ⟨name_ne_i s (hname hr), rfl⟩⟩
    | memoryReference r =>
      rw [callZeroPrefix_memoryReference]
      exact ⟨rfl, fun hr => ⟨name_ne_i r.name (hname hr), rfl⟩⟩
    | immediate w =>
      rw [callZeroPrefix_immediate]
      have hw := complexToks_follow F w hok.1 _ (fun hz => (ih.2 hz).1)
      by_cases hzp : (isRealImm prev && negImag w) = true
      · rw [if_pos hzp]; exact ⟨rfl, fun _ => ⟨rfl, rfl⟩⟩
      · rw [if_neg hzp]
        exact ⟨hw.1, fun hr => hw.2 (by simpa [hr] using hzp)⟩

theorem parseCallArgument_of_numOrMinus {t : Token} (h : numOrMinus t = true) (r : List Token) :
    parseCallArgument (t :: r) = (parseCallImmediate (t :: r)).map .immediate := by
  have hid : tokIdentifier (t :: r) = .err := by cases t <;> first | rfl | cases h
  simp only [parseCallArgument, alt, pmap, parseMemoryReferenceWithBrackets, bind_eq, Parser.bind, hid, Outcome.map]

theorem parseCallArgument_toks (F : NumFmt) (rest : List Token) (prev : Option UnresolvedCallArgument)
    (a : UnresolvedCallArgument) (args : List UnresolvedCallArgument)
    (hok : (a :: args).all (callArgOkP F) = true) (hch : chainOk prev (a :: args) = true) :
    parseCallArgument (callArgsToks F prev (a :: args) ++ .newLine :: rest) =
      .ok a (callArgsToks F (some a) args ++ .newLine :: rest) := by
  simp only [List.all_cons, Bool.and_eq_true] at hok
  simp only [chainOk, Bool.and_eq_true] at hch
  have hS := callArgsToks_head F rest args (some a) hok.2 hch.2
  rw [callArgsToks, List.append_assoc, List.append_assoc]
  cases a with
  | identifier s =>
    rw [callZeroPrefix_identifier]
    simp only [callArgToks, identTok, List.nil_append, List.singleton_append, parseCallArgument, alt, pmap,
      parseMemoryReferenceWithBrackets, bind_eq, Parser.bind, tokIdentifier, delimited, tok_of_headNe hS.1,
      Outcome.map, str_toList_eq]
  | memoryReference r =>
    rw [callZeroPrefix_memoryReference]
    simp [callArgToks, memRefToks, identTok, parseCallArgument, alt, pmap, parseMemoryReferenceWithBrackets,
      Parser.bind, tokIdentifier, delimited, tok, tokInteger, Parser.pure, Outcome.map]
  | immediate w =>
    have hw := hok.1
    simp only [callArgOkP, immOk, Bool.and_eq_true] at hw
    rw [callZeroPrefix_immediate]
    have himm := parseCallImmediate_toks F w hw.1.1 hw.1.2 hw.2 (isRealImm prev && negImag w)
      (fun h => (Bool.and_eq_true_iff.mp h).2) _ (fun hz => hS.2 hz)
    rw [List.append_assoc] at himm
    obtain ⟨t, r, e, ht⟩ : ∃ t r, (if (isRealImm prev && negImag w) = true then [Token.integer 0] else []) ++
        (complexToks F w ++ (callArgsToks F (some (.immediate w)) args ++ .newLine :: rest)) = t :: r ∧
        numOrMinus t = true := by
      by_cases hzp : (isRealImm prev && negImag w) = true
      · exact ⟨_, _, by rw [if_pos hzp]; rfl, rfl⟩
      · rw [if_neg hzp]; exact complexToks_head F w hw.2 _
    -- `e` shows the first token, which rules out the two alternatives that begin with an identifier; folded back for `himm`
    rw [callArgToks, e, parseCallArgument_of_numOrMinus ht, ← e, himm]
    rfl

theorem callArgToks_ne_nil (F : NumFmt) (a : UnresolvedCallArgument) (h : callArgOkP F a = true) :
    callArgToks F a ≠ [] := by
  cases a with
  | identifier s => simp [callArgToks]
  | memoryReference r => simp [callArgToks, memRefToks]
  | immediate w =>
    simp only [callArgOkP, immOk, Bool.and_eq_true] at h
    obtain ⟨t, r, e, _⟩ := complexToks_head F w h.2 []
    intro hnil
    simp [callArgToks] at hnil
    simp [hnil] at e

/-- by its own induction, not by `many0Fuel_items_append`: the tokens of an argument depend on its predecessor
(`callZeroPrefix`), so the arguments are not a flat map of one encoding -/
theorem many0Fuel_callArgs (F : NumFmt) (rest : List Token) :
    ∀ (args : List UnresolvedCallArgument) (prev : Option UnresolvedCallArgument) (k : Nat),
      args.all (callArgOkP F) = true → chainOk prev args = true → args.length < k →
      many0Fuel parseCallArgument k (callArgsToks F prev args ++ .newLine :: rest) = .ok args (.newLine :: rest) := by
  intro args
  induction args with
  | nil =>
    intro prev k _ _ hk
    cases k with
    | zero => omega
    | succ k =>
      simp [many0Fuel, callArgsToks, parseCallArgument, alt, pmap, parseMemoryReferenceWithBrackets, Parser.bind,
        tokIdentifier, Outcome.map, parseCallImmediate_eq, opt, tok, parseImmediateValue]
  | cons a args ih =>
    intro prev k hok hch hk
    cases k with
    | zero => omega
    | succ k =>
      have h1 := parseCallArgument_toks F rest prev a args hok hch
      have hok' := hok
      simp only [List.all_cons, Bool.and_eq_true] at hok'
      have hch' := hch
      simp only [chainOk, Bool.and_eq_true] at hch'
      have hne := callArgToks_ne_nil F a hok'.1
      simp only [many0Fuel, h1]
      have hlen : ¬ ((callArgsToks F (some a) args ++ .newLine :: rest).length ==
          (callArgsToks F prev (a :: args) ++ .newLine :: rest).length) = true := by
        have : 0 < (callArgToks F a).length := List.length_pos_iff.mpr hne
        simp only [callArgsToks, List.length_append, List.length_cons, beq_iff_eq]
        omega
      simp only [hlen]
      rw [ih (some a) k hok'.2 hch'.2 (by simp at hk; omega)]
      rfl

theorem length_callArgsToks_ge (F : NumFmt) (args : List UnresolvedCallArgument) (prev : Option UnresolvedCallArgument)
    (hok : args.all (callArgOkP F) = true) : args.length ≤ (callArgsToks F prev args).length := by
  induction args generalizing prev with
  | nil => simp
  | cons a args ih =>
    simp only [List.all_cons, Bool.and_eq_true] at hok
    have : 0 < (callArgToks F a).length := List.length_pos_iff.mpr (callArgToks_ne_nil F a hok.1)
    have := ih (some a) hok.2
    simp only [callArgsToks, List.length_append, List.length_cons]
    omega

theorem reads_call (F : NumFmt) (c : Call) (hok : c.arguments.all (callArgOkP F) = true)
    (hch : chainOk none c.arguments = true) : Reads anyRest (toks F (.call c)) (.call c) := by
  obtain ⟨name, args⟩ := c
  refine reads_of_parser (c := .call) (payload := identTok name :: callArgsToks F none args) parseCall rfl rfl
    fun rest _ => ?_
  have hm : many0 parseCallArgument (callArgsToks F none args ++ .newLine :: rest) = .ok args (.newLine :: rest) := by
    unfold many0
    apply many0Fuel_callArgs F rest args none _ hok hch
    have := length_callArgsToks_ge F args none hok
    simp only [List.length_append, List.length_cons]; omega
  simp only [parseCall, bind_eq, Parser.bind, identTok, tokIdentifier, List.cons_append, hm,
    pure_eq, Parser.pure, str_toList_eq]

end QV.C02
