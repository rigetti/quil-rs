import QV.C02.Subsets
import QV.C02.Program
import QV.C02.Container
import QV.Shared.RenderLemmas
/-!
# C02 — parsed programs print to text that re-parses to the same program

Statement (properties.jsonl): *If a text parses as a program P, then serializing P succeeds, the output parses
to a program equal to P, and serializing that program gives byte-identical text.  This holds for every
instruction kind, including definitions, calibrations, frames, waveforms and control flow.*

Everything here is at TOKEN level (`QV.Shared.Print`: the tokens the printed text lexes to; `QV.Shared.Parse`:
the token-level parser) and holds for programs of ANY size.

## The full statement (NOT proved for all kinds; the round trip is FALSE of the code for three classes)

    theorem C02_full (is : List Instruction) (h : ∀ i ∈ is, parsedInstr i = true) (hF : NumTok hypothesis) :
      ∃ ts is', printProgramTokens F (build is).listing = .ok ts ∧ parseProgram ts = .ok is' [] ∧
        build is' ≈ build is ∧ printProgramTokens F (build is').listing = .ok ts

where `parsedInstr` ("Parsed", `QV.C02.Spec`) is the decidable predicate the parser's outputs satisfy — with one
class taken out on purpose: qubit variables named like a reserved word, which the parser does return and
`noPlaceholder` rejects — and `≈` is equality up to the order of waveform-invocation parameters (`canonInstr`).
The property is false of the current code for (see `docs/C02.md`, known findings): a RAW-CAPTURE into a region
named `i` whose printed duration ends in a number (`C02_counterexample_rawCapture`, a `Parsed` instruction;
likewise a CALL argument named `i` after a real immediate, excluded by `chainOk`), a qubit variable named like a
reserved word (`C02_counterexample_keywordQubit`: a parser output, not `Parsed`), and — for the used-qubit cache
only — a redefined calibration (`C02_counterexample_redefinedCalibration`).  (A fourth class, definitions nested
in DEFCIRCUIT bodies, is repaired in /repo since b8ed6d0: `C02_regression_nestedCircuit`.)

## What is proved

`C02_roundtrip_partial`: the statement for every program whose instructions all satisfy the decidable predicate
`provedKind` (`QV.C02.Spec`).  It covers all 40 instruction kinds; within them it leaves out

* a RAW-CAPTURE into a region named `i`, a CALL in which a real immediate is directly followed by an argument named
  `i`, and a DEFGATE AS SEQUENCE with a qubit variable named like a reserved word (the known findings above);
* in the body of a DEFCAL, DEFCAL MEASURE or DEFCIRCUIT: a definition other than DEFWAVEFORM, DEFFRAME or a DEFCAL with
  a body of one-line kinds, and a definition anywhere but in LAST position (`bodyOk1`).  The last position is the only
  one in which the parser ever returns a definition: a nested definition swallows the rest of the enclosing body.

What `provedKind` leaves out is covered by the correspondence check only (every accepted text is run through the real
pipeline AND the model, which must agree).

`≈` is stated as `build is' = mapProg canonInstr (build is)`, an equality of the
instruction containers `Prog`; the used-qubit CACHE of the real `Program` is not part of `Prog` — for a
redefined DEFCAL it differs after the round trip (`C02_counterexample_redefinedCalibration`, known finding).
DEFCAL MEASURE, DEFCIRCUIT and DEFGATE print a trailing newline which the lexer merges with the program
writer's own newline (`collapseNL`); the proof goes through `lineToks` (`QV.C02.PrintView`, `QV.C02.Newlines`).
-/
namespace QV.C02
open QV QV.Tok QV.Ast QV.Parse QV.Print QV.ExprPrint

/-- **C02, proved part.**  For every list of `Parsed` instructions of the proved kinds — of any length, in any
order, with redefinitions — the program `P = build is` serializes without error to tokens that parse back to
a list `is'` such that `build is'` is `P` with every instruction in canonical form (`canonInstr`: the parameters of
a waveform invocation sorted by key — an `IndexMap`, which `Program ==` compares as a map, so this is the
reparsed program being EQUAL to `P`; for programs without CAPTURE / PULSE it is `P` itself,
`C02_roundtrip_exact`), and serializing THAT program gives the identical token list. -/
theorem C02_roundtrip_partial (F : NumFmt) (is : List Instruction)
    (hp : ∀ i ∈ is, parsedInstr i = true) (hk : ∀ i ∈ is, provedKind i = true)
    (hn : ∀ i ∈ is, numTokInstr F i = true) :
    ∃ ts, printProgramTokens F (build is).listing = .ok ts ∧
      ∃ is', parseProgram ts = .ok is' [] ∧ build is' = mapProg canonInstr (build is) ∧
        printProgramTokens F (build is').listing = .ok ts := by
  have hL : ∀ i ∈ (build is).listing, i ∈ is := fun i hi => mem_listing_build hi
  have herr : firstErrList (build is).listing = none :=
    firstErrList_none _ (fun i hi => firstErr_none_of_parsed i (hp i (hL i hi)))
  obtain ⟨hprint, hparse⟩ := print_parse_listing F (build is).listing canonInstr herr
    (fun i hi => blockOk_lineToks F i (hp i (hL i hi)) (hk i (hL i hi)) (hn i (hL i hi)))
    (fun i hi => reads_of_provedKind F i (hp i (hL i hi)) (hk i (hL i hi)) (hn i (hL i hi)))
  have hbuild : build ((build is).listing.map canonInstr) = mapProg canonInstr (build is) := by
    rw [build_map canonInstr slotOf_canonInstr, build_listing_build]
  refine ⟨_, hprint, _, hparse, hbuild, ?_⟩
  -- the canonical forms print like the originals
  rw [hbuild, listing_mapProg, ← hprint]
  have herr' : firstErrList ((build is).listing.map canonInstr) = none :=
    firstErrList_none _ (fun j hj => by
      obtain ⟨i, hi, rfl⟩ := List.mem_map.mp hj
      rw [firstErr_canonInstr i]
      exact firstErr_none_of_parsed i (hp i (hL i hi)))
  simp [printProgramTokens, herr', herr, programRaw_map_canonInstr F _ (fun i hi => hp i (hL i hi))]

/-- when no instruction is changed by canonicalisation (in particular: no CAPTURE / PULSE with unsorted
parameters), the reparsed list builds exactly the same program -/
theorem C02_roundtrip_exact (F : NumFmt) (is : List Instruction)
    (hp : ∀ i ∈ is, parsedInstr i = true) (hk : ∀ i ∈ is, provedKind i = true)
    (hn : ∀ i ∈ is, numTokInstr F i = true) (hc : ∀ i ∈ is, canonInstr i = i) :
    ∃ ts, printProgramTokens F (build is).listing = .ok ts ∧
      ∃ is', parseProgram ts = .ok is' [] ∧ build is' = build is ∧
        printProgramTokens F (build is').listing = .ok ts := by
  obtain ⟨ts, h1, is', h2, h3, h4⟩ := C02_roundtrip_partial F is hp hk hn
  exact ⟨ts, h1, is', h2, by rw [h3, mapProg_eq_self canonInstr is hc], h4⟩

/-- **C02 at TEXT level, for the canonical layout.**  Under the hypotheses of `C02_roundtrip_partial`, if the
printed tokens are spellable (`allTokOk`: identifiers valid and not reserved, integers `< 2^64`, no comments —
decidable) and the float spelling satisfies the NumTok hypothesis `FmtOk` (the spelling of a double lexes back to
the same bits), then the TEXT `render st ts` — the printed tokens laid out with a blank exactly where two tokens
would otherwise glue (`QV.Render`; the lexer model `QV.Lex.lex` works on characters) — lexes to exactly the
printed tokens, which parse back to a list building the same program up to canonical form.  (quil-rs's own
text differs from this canonical layout by optional blanks only; that its text lexes to the same tokens is what
the correspondence observes through the real lexer on every case.) -/
theorem C02_roundtrip_text (st : QV.Render.Style) (F : NumFmt) (is : List Instruction)
    (hp : ∀ i ∈ is, parsedInstr i = true) (hk : ∀ i ∈ is, provedKind i = true)
    (hn : ∀ i ∈ is, numTokInstr F i = true) :
    ∃ ts, printProgramTokens F (build is).listing = .ok ts ∧
      (QV.Render.allTokOk ts = true → (∀ b, Token.float b ∈ ts → QV.Render.FmtOk st.fmt b) →
        QV.Lex.lex (QV.Render.render st ts) = some ts ∧
        ∃ is', parseProgram ts = .ok is' [] ∧ build is' = mapProg canonInstr (build is)) := by
  obtain ⟨ts, h1, is', h2, h3, _⟩ := C02_roundtrip_partial F is hp hk hn
  exact ⟨ts, h1, fun hall hfl => ⟨QV.Render.lex_render st ts hall hfl, is', h2, h3⟩⟩

/-- the three hypotheses of `C02_roundtrip_partial` as one Boolean check per instruction, so that a concrete
program is evaluated once -/
theorem reparses_of_checks (is : List Instruction)
    (h : ∀ i ∈ is, (parsedInstr i && provedKind i && numTokInstr stdFmt i) = true) :
    ∃ ts, printProgramTokens stdFmt (build is).listing = .ok ts ∧ ∃ is', parseProgram ts = .ok is' [] := by
  simp only [Bool.and_eq_true] at h
  obtain ⟨ts, h1, is', h2, _⟩ :=
    C02_roundtrip_partial stdFmt is (fun i hi => (h i hi).1.1) (fun i hi => (h i hi).1.2) (fun i hi => (h i hi).2)
  exact ⟨ts, h1, is', h2⟩

/-- non-vacuity: a program with a redefinition, reordering, negative and real literal operands -/
example : ∃ ts, printProgramTokens stdFmt (build
      [.move ⟨⟨"ro", 0⟩, .literalReal 0x3FF0000000000000⟩,
       .declaration ⟨"ro", ⟨.bit, 1⟩, none⟩,
       .arithmetic ⟨.add, ⟨"a", 1⟩, .literalInteger (-2)⟩,
       .declaration ⟨"ro", ⟨.real, 2⟩, some ⟨"x", [⟨1, .bit⟩]⟩⟩,
       .measurement ⟨none, .fixed 0, some ⟨"ro", 0⟩⟩]).listing = .ok ts ∧
    ∃ is', parseProgram ts = .ok is' [] :=
  reparses_of_checks _ (by decide +kernel)

/-- non-vacuity for the definition kinds: a DEFWAVEFORM with a parameter and two entries, a redefined DEFFRAME
with a string and an expression attribute -/
example : ∃ ts, printProgramTokens stdFmt (build
      [.frameDefinition ⟨⟨"xy", [.fixed 0]⟩, [("DIRECTION", .string "rx")]⟩,
       .waveformDefinition ⟨"w/a", ⟨[.var "t", .number ⟨0x3FF0000000000000, 0⟩], ["t"]⟩⟩,
       .frameDefinition ⟨⟨"xy", [.fixed 0]⟩,
         [("DIRECTION", .string "tx"), ("INITIAL-FREQUENCY", .expression (.number ⟨0x4000000000000000, 0⟩))]⟩,
       .nop]).listing = .ok ts ∧
    ∃ is', parseProgram ts = .ok is' [] :=
  reparses_of_checks _ (by decide +kernel)

/-- non-vacuity for the kinds with bodies and for DEFGATE: DEFCAL (redefined), DEFCAL MEASURE, DEFCIRCUIT, and the
four DEFGATE specifications -/
example : ∃ ts, printProgramTokens stdFmt (build
      [.calibrationDefinition ⟨[], "X", [], [.fixed 0]⟩ [.gate ⟨"Y", [], [.fixed 5], []⟩, .nop],
       .measureCalibrationDefinition ⟨some "m", .variable "q", some "dest"⟩ [.wait, .nop],
       .circuitDefinition "C" ["a"] ["q", "r"] [.gate ⟨"RX", [.var "a"], [.variable "q"], []⟩, .halt],
       .gateDefinition ⟨"M", [], .matrix [[.number ⟨0, 0⟩, .pi], [.var "t", .number ⟨0x3FF0000000000000, 0⟩]]⟩,
       .gateDefinition ⟨"E", [], .matrix [[], [.pi], []]⟩,
       .gateDefinition ⟨"P", [], .permutation [0, 1, 3, 2]⟩,
       .gateDefinition ⟨"S", ["t"], .pauliSum ⟨["p", "q"], [⟨[(.x, "p"), (.z, "q")], .var "t"⟩]⟩⟩,
       .gateDefinition ⟨"Q", [], .sequence ⟨["a", "b"], [⟨"H", [], [.variable "a"], []⟩,
          ⟨"CNOT", [], [.variable "a", .variable "b"], []⟩]⟩⟩,
       .calibrationDefinition ⟨[], "X", [], [.fixed 0]⟩ [.gate ⟨"Y", [], [.fixed 6], []⟩]]).listing = .ok ts ∧
    ∃ is', parseProgram ts = .ok is' [] :=
  reparses_of_checks _ (by decide +kernel)

/-- non-vacuity for definitions nested in bodies: the class repaired by /repo b8ed6d0 (a DEFCAL at the end of a
DEFCIRCUIT body), a DEFFRAME at the end of a DEFCAL body after one-line instructions, a DEFWAVEFORM at the end of a
DEFCAL MEASURE body -/
example : ∃ ts, printProgramTokens stdFmt (build
      [.circuitDefinition "C" [] ["q"] [.nop, .calibrationDefinition ⟨[], "X", [], [.variable "q"]⟩ [.nop, .wait]],
       .calibrationDefinition ⟨[], "Y", [], [.fixed 0]⟩
         [.gate ⟨"Z", [], [.fixed 0], []⟩, .halt, .frameDefinition ⟨⟨"xy", [.fixed 0]⟩, [("DIRECTION", .string "tx")]⟩],
       .measureCalibrationDefinition ⟨none, .fixed 1, none⟩
         [.wait, .waveformDefinition ⟨"w", ⟨[.pi, .var "t"], ["t"]⟩⟩],
       .nop]).listing = .ok ts ∧
    ∃ is', parseProgram ts = .ok is' [] :=
  reparses_of_checks _ (by decide +kernel)

/-! ## the three classes for which the round trip is false of the code (known findings)

The RAW-CAPTURE and `H %LT` witnesses are in the image of the parser (`rawCaptureWitness_parsed`, first conjunct
of `C02_counterexample_keywordQubit`: the tokens of the quoted text parse to them); the tokens of their printed
form do not parse back (`printsAndReparses = false`).  The RAW-CAPTURE witness satisfies `Parsed`; `H %LT` does
not (`parsedInstr` excludes reserved-word qubit variables).  For the redefined calibration the text round-trips
and the used-qubit cache of the reparsed program differs.  `nestedCircuitWitness` is the regression witness of
the repaired fourth class. -/

/-- `RAW-CAPTURE 0 "ro" (2) i[0]` -/
def rawCaptureWitness : Instruction :=
  .rawCapture ⟨true, ⟨"ro", [.fixed 0]⟩, .number ⟨0x4000000000000000, 0⟩, ⟨"i", 0⟩⟩

/-- `DEFCIRCUIT C q:\n    DEFCAL X q:\n    NOP\n    WAIT` -/
def nestedCircuitWitness : Instruction :=
  .circuitDefinition "C" [] ["q"] [.calibrationDefinition ⟨[], "X", [], [.variable "q"]⟩ [.nop, .wait]]

/-- `DEFCAL X 0:\n    Y 5\nDEFCAL X 0:\n    Y 6` -/
def redefinedCalibrationWitness : List Instruction :=
  [.calibrationDefinition ⟨[], "X", [], [.fixed 0]⟩ [.gate ⟨"Y", [], [.fixed 5], []⟩],
   .calibrationDefinition ⟨[], "X", [], [.fixed 0]⟩ [.gate ⟨"Y", [], [.fixed 6], []⟩]]

/-- `H %LT` -/
def keywordQubitWitness : Instruction := .gate ⟨"H", [], [.variable "LT"], []⟩

def printsAndReparses (L : List Instruction) : Bool :=
  match printProgramTokens stdFmt L with
  | .ok ts => (parseProgram ts).isOk
  | .error _ => false

theorem rawCaptureWitness_parsed :
    (match parseProgram [.command .rawCapture, .integer 0, .string "ro".toList, .lParenthesis, .integer 2,
        .rParenthesis, .identifier "i".toList, .lBracket, .integer 0, .rBracket] with
      | .ok [.rawCapture r] [] =>
        decide (r = ⟨true, ⟨"ro", [.fixed 0]⟩, .number ⟨0x4000000000000000, 0⟩, ⟨"i", 0⟩⟩)
      | _ => false) = true := by decide +kernel

/-- known finding C02/number-then-name-i: the printed `RAW-CAPTURE 0 "ro" 2 i[0]` does not parse -/
theorem C02_counterexample_rawCapture :
    parsedInstr rawCaptureWitness = true ∧ printsAndReparses [rawCaptureWitness] = false := by
  decide +kernel

/-- regression witness for /repo b8ed6d0 (before it, finding C02/nested-definition-in-defcircuit:
`CircuitDefinition::write` re-indented every line of the nested DEFCAL, which then did not parse): the nested
definition prints and re-parses -/
theorem C02_regression_nestedCircuit :
    parsedInstr nestedCircuitWitness = true ∧ printsAndReparses [nestedCircuitWitness] = true := by
  decide +kernel

/-- known finding C02/reparsed-unequal-after-redefined-calibration: the text round-trips, but qubit 5 is in
the used-qubit cache of the parsed program and not in that of the reparsed one -/
theorem C02_counterexample_redefinedCalibration :
    printsAndReparses (build redefinedCalibrationWitness).listing = true ∧
      Qubit.fixed 5 ∈ usedQubits redefinedCalibrationWitness ∧
      Qubit.fixed 5 ∉ usedQubits (build redefinedCalibrationWitness).listing := by
  decide +kernel

/-- known finding C02/qubit-variable-named-like-keyword: `H %LT` parses to the witness, whose printed form
`H LT` (`LT` lexes as a command) does not parse -/
theorem C02_counterexample_keywordQubit :
    (match parseProgram [.identifier "H".toList, .variable "LT".toList] with
      | .ok [.gate g] [] => decide (g = ⟨"H", [], [.variable "LT"], []⟩)
      | _ => false) = true ∧ printsAndReparses [keywordQubitWitness] = false := by
  decide +kernel

end QV.C02
