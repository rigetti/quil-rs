import QV.C02.PrintView
import QV.C01.LemmasParse
/-!
`parse_instruction` on a printed instruction followed by a newline: the relation `ReadsBy pi ok ts i'` ("`pi` reads the
token block `ts` back as `i'` before a newline and any continuation satisfying `ok`") and how it is obtained from the
parser that `parse_command` selects.  `Reads` is `ReadsBy parseInstruction`, through the recursion equation
`QV.C01.parseInstruction_eq` of the parser without its depth budget.
-/
namespace QV.C02
open QV QV.Tok QV.Ast QV.Parse QV.Print QV.ExprPrint

theorem skipItem_err (t : Token) (r : List Token) (h : startTok t = true) :
    alt (preceded (many0 (tok .indentation)) (pmap (fun _ => ()) tokComment))
      (alt (tok .newLine) (tok .semicolon)) (t :: r) = .err := by
  cases t <;> first | rfl | cases h

theorem skipItem_err_nil :
    alt (preceded (many0 (tok .indentation)) (pmap (fun _ => ()) tokComment))
      (alt (tok .newLine) (tok .semicolon)) [] = .err := by
  simp [alt, preceded, many0, many0Fuel, tok, pmap, tokComment, Parser.bind, Outcome.map]

theorem skipItem_newLine (r : List Token) :
    alt (preceded (many0 (tok .indentation)) (pmap (fun _ => ()) tokComment))
      (alt (tok .newLine) (tok .semicolon)) (.newLine :: r) = .ok () r := by
  simp [alt, preceded, many0, many0Fuel, tok, pmap, tokComment, Parser.bind, Outcome.map]

@[simp] theorem skip_start (t : Token) (r : List Token) (h : startTok t = true) :
    skipNewlinesAndComments (t :: r) = .ok () (t :: r) := by
  simp only [skipNewlinesAndComments, bind_eq, Parser.bind, many0, List.length_cons, many0Fuel,
    skipItem_err t r h, pure_eq, Parser.pure]

@[simp] theorem skip_nil : skipNewlinesAndComments [] = .ok () [] := by
  simp only [skipNewlinesAndComments, bind_eq, Parser.bind, many0, List.length_nil, many0Fuel,
    skipItem_err_nil, pure_eq, Parser.pure]

@[simp] theorem skip_newLine_start (t : Token) (r : List Token) (h : startTok t = true) :
    skipNewlinesAndComments (.newLine :: t :: r) = .ok () (t :: r) := by
  simp only [skipNewlinesAndComments, bind_eq, Parser.bind, many0, List.length_cons, many0Fuel,
    skipItem_newLine, skipItem_err t r h, pure_eq, Parser.pure, Outcome.map]
  simp

@[simp] theorem skip_newLine_nil : skipNewlinesAndComments [.newLine] = .ok () [] := by
  simp only [skipNewlinesAndComments, bind_eq, Parser.bind, many0, List.length_cons, List.length_nil, many0Fuel,
    skipItem_newLine, skipItem_err_nil, pure_eq, Parser.pure, Outcome.map]
  simp

theorem body_command (pe : Parser PExpr) (pi : Parser Instruction) (c : Command) (r r' : List Token)
    (v : Instruction) (h : parseCommand pe pi c r = .ok v r') :
    parseInstructionBody pe pi (.command c :: r) = .ok v r' ∧
      parseInstructionBody pe pi (.newLine :: .command c :: r) = .ok v r' := by
  have hst : startTok (.command c) = true := rfl
  exact ⟨by simp [parseInstructionBody, skip_start _ _ hst, h],
    by simp [parseInstructionBody, skip_newLine_start _ _ hst, h]⟩

theorem body_end (pe : Parser PExpr) (pi : Parser Instruction) :
    parseInstructionBody pe pi [.newLine] = .err := by
  simp [parseInstructionBody]

theorem body_nil (pe : Parser PExpr) (pi : Parser Instruction) :
    parseInstructionBody pe pi [] = .err := by
  simp [parseInstructionBody]

theorem body_nonblocking (pe : Parser PExpr) (pi : Parser Instruction) (c : Command) (r : List Token) :
    parseInstructionBody pe pi (.newLine :: .nonBlocking :: .command c :: r) =
      parseInstructionBody pe pi (.nonBlocking :: .command c :: r) := by
  simp only [parseInstructionBody, skip_start _ _ (show startTok .nonBlocking = true from rfl),
    skip_newLine_start _ _ (show startTok .nonBlocking = true from rfl)]

theorem body_gate (pe : Parser PExpr) (pi : Parser Instruction) (t : Token) (r : List Token)
    (ht : (∃ s, t = .identifier s) ∨ (∃ m, t = .modifier m)) :
    parseInstructionBody pe pi (t :: r) = parseGate pe (t :: r) ∧
      parseInstructionBody pe pi (.newLine :: t :: r) = parseGate pe (t :: r) := by
  have hst : startTok t = true := by rcases ht with ⟨s, rfl⟩ | ⟨m, rfl⟩ <;> rfl
  rcases ht with ⟨s, rfl⟩ | ⟨m, rfl⟩ <;>
    exact ⟨by simp [parseInstructionBody, skip_start _ _ hst], by simp [parseInstructionBody, skip_newLine_start _ _ hst]⟩

/-- `pi` reads the token block `ts` back as `i'` before a newline and any continuation satisfying `ok` — with or
without a newline in front: `parse_instruction` leaves the newline that ends an instruction unconsumed and the next call
skips it, so `many0` meets every instruction but the first behind a newline -/
def ReadsBy (pi : Parser Instruction) (ok : List Token → Prop) (ts : List Token) (i' : Instruction) : Prop :=
  ∀ rest, ok rest →
    pi (ts ++ .newLine :: rest) = .ok i' (.newLine :: rest) ∧
    pi (.newLine :: (ts ++ .newLine :: rest)) = .ok i' (.newLine :: rest)

abbrev Reads : (List Token → Prop) → List Token → Instruction → Prop := ReadsBy parseInstruction

abbrev anyRest : List Token → Prop := fun _ => True

/-- what follows the newline of a top-level instruction (`restOk`), and of the last instruction of a block -/
abbrev topRest : List Token → Prop := fun rest => restOk rest = true

theorem ReadsBy.top {pi : Parser Instruction} {ts : List Token} {i' : Instruction} (h : ReadsBy pi anyRest ts i') :
    ReadsBy pi topRest ts i' := fun rest _ => h rest trivial

/-- `hpi` holds of `parseInstruction` by `QV.C01.parseInstruction_eq` (`reads_of_parser`) and of
`parseInstructionAt (d + 1)` by `rfl` (`AtBudget.lean`) -/
theorem readsBy_of_parser {pe : Parser PExpr} {pi pi' : Parser Instruction}
    (hpi : ∀ ts, pi ts = parseInstructionBody pe pi' ts) {ok : List Token → Prop} {ts : List Token}
    {i' : Instruction} {c : Command} {payload : List Token} (p : Parser Instruction) (ht : ts = cmd c :: payload)
    (hc : parseCommand pe pi' c = p)
    (h : ∀ rest, ok rest → p (payload ++ .newLine :: rest) = .ok i' (.newLine :: rest)) : ReadsBy pi ok ts i' := by
  intro rest hr
  have hp := hc ▸ h rest hr
  simp only [hpi, ht, cmd, List.cons_append]
  exact body_command _ _ _ _ _ _ hp

/-- … for `parse_instruction` itself.  `c` and `payload` are read off `ht` when it is `rfl`; when `ht` needs a proof, give
`(c := …) (payload := …)` -/
theorem reads_of_parser {ok : List Token → Prop} {ts : List Token} {i' : Instruction} {c : Command}
    {payload : List Token} (p : Parser Instruction) (ht : ts = cmd c :: payload)
    (hc : parseCommand parseExpression parseInstruction c = p)
    (h : ∀ rest, ok rest → p (payload ++ .newLine :: rest) = .ok i' (.newLine :: rest)) : Reads ok ts i' :=
  readsBy_of_parser QV.C01.parseInstruction_eq p ht hc h

/-- the three kinds with a blocking flag (PULSE, CAPTURE, RAW-CAPTURE): the blocking form goes through
`parse_command`, the `NONBLOCKING` form is dispatched by `parse_instruction` itself; both run the same parser `P` with
the flag -/
theorem reads_of_blocking {ts : List Token} {i' : Instruction} (c : Command) (b : Bool) (payload : List Token)
    (P : Bool → Parser Instruction)
    (ht : ts = (if b then [cmd c] else [.nonBlocking, cmd c]) ++ payload)
    (hc : parseCommand parseExpression parseInstruction c = P true)
    (hnb : ∀ r, parseInstructionBody parseExpression parseInstruction (.nonBlocking :: .command c :: r) = P false r)
    (h : ∀ rest, P b (payload ++ .newLine :: rest) = .ok i' (.newLine :: rest)) : Reads anyRest ts i' := by
  intro rest _
  have hp := h rest
  rw [ht]
  simp only [QV.C01.parseInstruction_eq]
  cases b with
  | true =>
    rw [← hc] at hp
    exact body_command _ _ _ _ _ _ hp
  | false => exact ⟨(hnb _).trans hp, ((body_nonblocking _ _ _ _).trans (hnb _)).trans hp⟩

theorem reads_of_parseGate {ts : List Token} {i' : Instruction} (ms : List GateModifier) (name : String)
    (r : List Token) (ht : ts = ms.map modifierTok ++ identTok name :: r)
    (h : ∀ rest, parseGate parseExpression (ts ++ .newLine :: rest) = .ok i' (.newLine :: rest)) :
    Reads anyRest ts i' := by
  intro rest _
  have hg := h rest
  simp only [QV.C01.parseInstruction_eq]
  subst ht
  cases ms with
  | nil =>
    have hb := body_gate parseExpression parseInstruction (identTok name) (r ++ .newLine :: rest) (.inl ⟨_, rfl⟩)
    exact ⟨hb.1.trans hg, hb.2.trans hg⟩
  | cons m ms =>
    have hb := body_gate parseExpression parseInstruction (modifierTok m)
      (ms.map modifierTok ++ identTok name :: r ++ .newLine :: rest) (.inr (by cases m <;> exact ⟨_, rfl⟩))
    simp only [List.map_cons, List.cons_append, List.append_assoc] at hg hb ⊢
    exact ⟨hb.1.trans hg, hb.2.trans hg⟩

end QV.C02
