import QV.C02.Newlines
import QV.C02.Canon
import QV.Shared.ExprRoundTrip
/-!
The printed form of an instruction of a proved kind is a block (`blockOk`): a one-line kind prints no newline (`nl_*`,
`noNL_of_lineKind`), a definition prints as a header line and blocks after one newline each (`blockOk_header_lines`).
Printer side only: nothing here looks at the parser.  NumTok is a hypothesis all the same: the tokens of a literal are
whatever the abstract `NumFmt` writes, and only NumTok says that they are number tokens.
-/
namespace QV.C02
open QV QV.Tok QV.Ast QV.Parse QV.Print QV.ExprPrint QV.ExprRoundTrip

theorem blockKind_of_lineKind {i : Instruction} (h : lineKind i = true) : blockKind i = true := by
  simp [blockKind, h]

theorem blockKind_cases {i : Instruction} (h : blockKind i = true) : lineKind i = true ∨ defKind i = true := by
  simpa [blockKind] using h

theorem provedKind_of_lineKind {i : Instruction} (h : lineKind i = true) : provedKind i = true := by
  simp [provedKind, blockKind, h]

theorem provedKind_cases {i : Instruction} (h : provedKind i = true) : blockKind i = true ∨ nlKind i = true := by
  simpa [provedKind] using h

theorem bodyOk1_split {body : List Instruction} (h : bodyOk1 body = true) (hne : body ≠ []) :
    ∃ ls t, body = ls ++ [t] ∧ (∀ i ∈ ls, lineKind i = true) ∧ blockKind t = true := by
  cases hl : body.getLast? with
  | none => simp [List.getLast?_eq_none_iff] at hl; exact absurd hl hne
  | some t =>
    simp only [bodyOk1, hl, Bool.and_eq_true] at h
    exact ⟨body.dropLast, t, eq_dropLast_snoc body t hl, fun i hi => List.all_eq_true.mp h.1 i hi, by
      simpa [blockKind] using h.2⟩

theorem bodyOk1_of_all_lineKind {body : List Instruction} (h : body.all lineKind = true) : bodyOk1 body = true := by
  simp only [bodyOk1, Bool.and_eq_true]
  constructor
  · rw [List.all_eq_true] at h ⊢
    exact fun i hi => h i ((List.dropLast_sublist _).subset hi)
  · cases hl : body.getLast? with
    | none => rfl
    | some t =>
      have := List.all_eq_true.mp h t (List.mem_of_getLast? hl)
      simp [this]

theorem bodyOk1_mem {body : List Instruction} (h : bodyOk1 body = true) : ∀ i ∈ body, blockKind i = true := by
  intro i hi
  have hne : body ≠ [] := by intro e; subst e; simp at hi
  obtain ⟨ls, t, rfl, hls, ht⟩ := bodyOk1_split h hne
  simp only [List.mem_append, List.mem_cons, List.not_mem_nil, or_false] at hi
  rcases hi with hi | rfl
  · simp [blockKind, hls i hi]
  · exact ht

theorem nl_intToks (v : Int) : Token.newLine ∉ intToks v := by
  unfold intToks; split <;> simp

theorem nl_realLitToks (b : Nat) : Token.newLine ∉ realLitToks b := by
  unfold realLitToks; split <;> (try split) <;> (try split) <;> simp [identTok]

theorem nl_memRefToks (r : MemRef) : Token.newLine ∉ memRefToks r := by simp [memRefToks, identTok]

theorem nl_arith (o : ArithmeticOperand) : Token.newLine ∉ arithOperandToks o := by
  cases o <;> simp [arithOperandToks, nl_intToks, nl_realLitToks, nl_memRefToks]

theorem nl_comp (o : ComparisonOperand) : Token.newLine ∉ compOperandToks o := by
  cases o <;> simp [compOperandToks, nl_intToks, nl_realLitToks, nl_memRefToks]

theorem nl_bin (o : BinaryOperand) : Token.newLine ∉ binOperandToks o := by
  cases o <;> simp [binOperandToks, nl_intToks, nl_memRefToks]

theorem nl_qubit (q : Qubit) : Token.newLine ∉ qubitToks q := by
  cases q with
  | fixed n => simp [qubitToks]
  | placeholder k => simp [qubitToks]
  | «variable» s => simp [qubitToks, Ne.symm (nameTok_ne_bang_lParen_newLine s).2.2]

theorem nl_qubits (qs : List Qubit) : Token.newLine ∉ qubitsToks qs := by
  simp only [qubitsToks, List.mem_flatMap, not_exists, not_and]
  intro q _; exact nl_qubit q

theorem nl_target (t : Target) : Token.newLine ∉ targetToks t := by cases t <;> simp [targetToks]

theorem nl_scalar (t : ScalarType) : scalarTok t ≠ Token.newLine := by cases t <;> simp [scalarTok]

theorem nl_measureName (n : Option String) : Token.newLine ∉ measureNameToks n := by
  cases n <;> simp [measureNameToks, identTok]

theorem nl_pragmaArg (a : PragmaArgument) : pragmaArgTok a ≠ Token.newLine := by
  cases a <;> simp [pragmaArgTok, identTok]

theorem tokBits_ne_nl {t : Token} {m : Nat} (h : tokBits t = some m) : t ≠ .newLine := by
  intro h'; subst h'; simp [tokBits] at h

theorem nl_signedToks (f : Nat → Token) (b : Nat) (h : tokBits (f (fAbs b)) = some (fAbs b)) :
    Token.newLine ∉ signedToks f b := by
  rw [signedToks_eq]
  cases fSign b <;> simp [minusToks, Ne.symm (tokBits_ne_nl h)]

theorem nl_complexToks (F : NumFmt) (z : CBits) (h : numTokOkAt F z = true) :
    Token.newLine ∉ complexToks F z := by
  simp only [numTokOkAt, Bool.and_eq_true, beq_iff_eq] at h
  have h1 := nl_signedToks F.real z.re h.1
  have h2 := nl_signedToks F.imag z.im h.2
  unfold complexToks
  split
  · simp
  · split
    · exact h1
    · split
      · simp [h2, tokI]
      · split <;> simp [h1, h2, tokI]

theorem nl_wrapIf (b : Bool) (ts : List Token) (h : Token.newLine ∉ ts) : Token.newLine ∉ wrapIf b ts := by
  unfold wrapIf; split <;> simp [h]

theorem nl_printTop (F : NumFmt) (e : PExpr) (h : numTokOk F e = true) : Token.newLine ∉ printTop F e := by
  unfold numTokOk at h
  induction e with
  | address r => simp [printTop]
  | call f e ih =>
    simp only [allLits] at h
    simp [printTop, ih h]
  | bin l o r ihl ihr =>
    simp only [allLits, Bool.and_eq_true] at h
    simp only [printTop, List.mem_append, List.mem_cons, not_or]
    exact ⟨nl_wrapIf _ _ (ihl h.1), by simp, nl_wrapIf _ _ (ihr h.2)⟩
  | number z => simp only [allLits] at h; simp only [printTop]; exact nl_complexToks F z h
  | pi => simp [printTop, tokPi]
  | pre o e ih =>
    simp only [allLits] at h
    simp only [printTop, List.mem_append, not_or]
    refine ⟨by cases o <;> simp [prefixToks], nl_wrapIf _ _ (nl_wrapIf _ _ (ih h))⟩
  | var x => simp [printTop]

theorem nl_frame (f : FrameIdentifier) : Token.newLine ∉ frameToks f := by
  simp [frameToks, nl_qubits, strTok]

theorem nl_sepBy (xs : List (List Token)) (h : ∀ x ∈ xs, Token.newLine ∉ x) :
    Token.newLine ∉ sepBy [.comma] xs := by
  induction xs with
  | nil => simp [sepBy]
  | cons x xs ih =>
    cases xs with
    | nil => simpa [sepBy] using h x (by simp)
    | cons y ys =>
      simp only [sepBy, List.mem_append, not_or]
      exact ⟨⟨h x (by simp), by simp⟩, ih (fun z hz => h z (by simp [hz]))⟩

theorem nl_sepBy_map {α : Type} (f : α → List Token) (xs : List α) (h : ∀ x ∈ xs, Token.newLine ∉ f x) :
    Token.newLine ∉ sepBy [.comma] (xs.map f) :=
  nl_sepBy _ (List.forall_mem_map.mpr h)

/-- `(x₁, …, xₙ)` or nothing: the shape of every parameter list the printer writes -/
theorem nl_parenList {α : Type} (b : Bool) (f : α → List Token) (xs : List α)
    (h : ∀ x ∈ xs, Token.newLine ∉ f x) :
    Token.newLine ∉ (if b then [] else .lParenthesis :: (sepBy [.comma] (xs.map f) ++ [.rParenthesis])) := by
  split
  · simp
  · simpa using nl_sepBy_map f xs h

theorem nl_slashNameAux (acc cs : List Char) : Token.newLine ∉ slashNameAux acc cs := by
  induction cs generalizing acc with
  | nil => simp [slashNameAux]
  | cons c cs ih =>
    simp only [slashNameAux]
    split
    · simp [ih]
    · exact ih _

theorem nl_invocation (F : NumFmt) (w : WaveformInvocation)
    (hn : (w.parameters.all fun kv => numTokOk F kv.2) = true) : Token.newLine ∉ invocationToks F w := by
  simp only [invocationToks, slashNameToks, List.mem_append, not_or]
  refine ⟨nl_slashNameAux _ _, nl_parenList _ _ _ fun kv hkv => ?_⟩
  have := nl_printTop F kv.2 (List.all_eq_true.mp hn kv (mem_sortKV.mp hkv))
  simp [identTok, this]

theorem nl_params (F : NumFmt) (ps : List PExpr) (h : ps.all (numTokOk F) = true) :
    Token.newLine ∉ paramsToks F ps :=
  nl_parenList _ _ _ fun e he => nl_printTop F e (List.all_eq_true.mp h e he)

theorem nl_modifier (m : GateModifier) : modifierTok m ≠ Token.newLine := by cases m <;> simp [modifierTok]

theorem nl_gateToks (F : NumFmt) (g : Gate) (hn : g.parameters.all (numTokOk F) = true) :
    Token.newLine ∉ gateToks F g := by
  simp [gateToks, nl_modifier, identTok, nl_params F _ hn, nl_qubits]

theorem nl_callArgs (F : NumFmt) (args : List UnresolvedCallArgument) (prev : Option UnresolvedCallArgument)
    (h : (args.all fun a => match a with | .immediate z => numTokOkAt F z | _ => true) = true) :
    Token.newLine ∉ callArgsToks F prev args := by
  induction args generalizing prev with
  | nil => simp [callArgsToks]
  | cons a args ih =>
    simp only [List.all_cons, Bool.and_eq_true] at h
    have hz : Token.newLine ∉ callZeroPrefix prev a := by
      unfold callZeroPrefix; split <;> (try split) <;> simp
    have ha : Token.newLine ∉ callArgToks F a := by
      cases a with
      | identifier s => simp [callArgToks, identTok]
      | memoryReference r => exact nl_memRefToks r
      | immediate z => exact nl_complexToks F z h.1
    simp only [callArgsToks, List.mem_append, not_or]
    exact ⟨⟨hz, ha⟩, ih _ h.2⟩

theorem noNL_of_lineKind (F : NumFmt) (i : Instruction) (hk : lineKind i = true)
    (hn : numTokInstr F i = true) : Token.newLine ∉ toks F i := by
  cases i with
  | gate g => exact nl_gateToks F g hn
  | call c => dsimp only [toks]; simp [cmd, identTok, nl_callArgs F _ _ hn]
  | setFrequency a | setPhase a | setScale a | shiftFrequency a | shiftPhase a =>
    dsimp only [toks]; simp [cmd, nl_frame, nl_printTop F _ hn]
  | delay a =>
    have hn := (Bool.and_eq_true_iff.mp hn).1
    dsimp only [toks]
    simp [delayToks, cmd, nl_qubits, strTok, nl_wrapIf, nl_printTop F _ hn]
  | rawCapture a | capture a | pulse a =>
    dsimp only [numTokInstr] at hn
    dsimp only [toks]
    by_cases hb : a.blocking = true <;>
      simp [cmd, hb, nl_frame, nl_invocation, nl_printTop, hn, nl_memRefToks]
  | declaration a =>
    obtain ⟨name, ⟨ty, len⟩, sharing⟩ := a
    have h1 := fun ty => Ne.symm (nl_scalar ty)
    dsimp only [toks]
    cases sharing with
    | none => simp [cmd, identTok, vectorToks, h1]
    | some s => by_cases ho : s.offsets = [] <;> simp [cmd, identTok, vectorToks, h1, ho]
  -- one `match` on an optional field each
  | measurement a | pragma a | reset a =>
    dsimp only [toks]
    split <;> simp [cmd, identTok, strTok, nl_memRefToks, nl_qubit, nl_measureName, nl_pragmaArg]
  | calibrationDefinition _ _ | measureCalibrationDefinition _ _ | circuitDefinition _ _ _ _ | gateDefinition _
  | frameDefinition _ | waveformDefinition _ => cases hk
  | _ =>
    dsimp only [toks]
    simp [cmd, nl_memRefToks, nl_arith, nl_comp, nl_bin, nl_qubits, nl_frame, nl_target, identTok, strTok]

theorem blockOk_of_lineKind (F : NumFmt) (i : Instruction) (hk : lineKind i = true)
    (hn : numTokInstr F i = true) : blockOk (toks F i) = true := by
  obtain ⟨t, r, ht, _⟩ := toks_head F i
  exact blockOk_of_noNL _ (by rw [ht]; simp) (fun t ht h => noNL_of_lineKind F i hk hn (h ▸ ht))

theorem nl_varParams (ps : List String) : Token.newLine ∉ varParamsToks ps :=
  nl_parenList _ _ _ fun p _ => by simp

theorem nl_attribute (F : NumFmt) (v : AttributeValue) (h : attrNumTok F v = true) :
    Token.newLine ∉ attributeToks F v := by
  cases v with
  | string s => simp [attributeToks, strTok]
  | expression e => exact nl_printTop F e h

theorem blockOk_cal_of (F : NumFmt) (id : CalibrationIdentifier) (body : List Instruction)
    (hn : id.parameters.all (numTokOk F) = true) (hb : ∀ i ∈ body, blockOk (toks F i) = true) :
    blockOk (toks F (.calibrationDefinition id body)) = true := by
  rw [toks_calibrationDefinition, ← List.cons_append]
  exact blockOk_header_lines _ (fun i => .indentation :: toks F i) body (by simp)
    (by simp [calHeader, cmd, nl_modifier, identTok, nl_params F _ hn, nl_qubits])
    fun i hi => blockOk_cons_indent _ (hb i hi)

theorem blockOk_of_defKind (F : NumFmt) (i : Instruction) (hk : defKind i = true)
    (hn : numTokInstr F i = true) : blockOk (toks F i) = true := by
  cases i with
  | waveformDefinition w =>
    dsimp only [numTokInstr] at hn
    have e : toks F (.waveformDefinition w) =
        (cmd .defWaveform :: (slashNameToks w.name ++ varParamsToks w.definition.parameters ++ [.colon])) ++
          [w.definition.matrix].flatMap fun m => .newLine :: .indentation :: sepBy [.comma] (m.map (printTop F)) := by
      dsimp only [toks]
      simp
    rw [e]
    exact blockOk_header_indented _ _ _ (by simp) (by simp [cmd, slashNameToks, nl_slashNameAux, nl_varParams])
      fun m hm => by
        obtain rfl := List.mem_singleton.mp hm
        exact nl_sepBy_map _ _ fun e he => nl_printTop F e (List.all_eq_true.mp hn e he)
  | frameDefinition f =>
    have e : toks F (.frameDefinition f) = (cmd .defFrame :: (frameToks f.identifier ++ [.colon])) ++
        f.attributes.flatMap fun kv => .newLine :: .indentation :: (identTok kv.1 :: .colon :: attributeToks F kv.2) := by
      dsimp only [toks]
      simp
    rw [e]
    exact blockOk_header_indented _ _ _ (by simp) (by simp [cmd, nl_frame]) fun kv hkv => by
      simp [identTok, nl_attribute F kv.2 (attrNumTok_of_numTokInstr F f hn kv hkv)]
  | calibrationDefinition id body =>
    dsimp only [numTokInstr] at hn
    simp only [Bool.and_eq_true, numTokInstrs_eq_all] at hn
    dsimp only [defKind] at hk
    exact blockOk_cal_of F id body hn.1 fun i hi =>
      blockOk_of_lineKind F i (List.all_eq_true.mp hk i hi) (List.all_eq_true.mp hn.2 i hi)
  | _ => cases hk

theorem blockOk_of_blockKind (F : NumFmt) (i : Instruction) (hk : blockKind i = true)
    (hn : numTokInstr F i = true) : blockOk (toks F i) = true := by
  rcases blockKind_cases hk with h | h
  · exact blockOk_of_lineKind F i h hn
  · exact blockOk_of_defKind F i h hn

theorem nl_specLine (F : NumFmt) (spec : GateSpecification) (hn : numTokSpec F spec = true) (l : List Token)
    (hl : l ∈ specLineList F spec) : Token.newLine ∉ l := by
  cases spec with
  | matrix rows =>
    simp only [specLineList, List.mem_map] at hl
    obtain ⟨row, hrow, rfl⟩ := hl
    simp only [numTokSpec] at hn
    exact nl_sepBy_map _ _ fun e he => nl_printTop F e (List.all_eq_true.mp (List.all_eq_true.mp hn row hrow) e he)
  | permutation p =>
    simp only [specLineList, List.mem_cons, List.not_mem_nil, or_false] at hl
    subst hl
    exact nl_sepBy_map _ _ fun n _ => by simp
  | pauliSum s =>
    simp only [specLineList, List.mem_map] at hl
    obtain ⟨t, ht, rfl⟩ := hl
    simp only [numTokSpec] at hn
    have := nl_printTop F t.expression (List.all_eq_true.mp hn t ht)
    simp [pauliLine, this, identTok]
  | sequence s =>
    simp only [specLineList, List.mem_map] at hl
    obtain ⟨g, hg, rfl⟩ := hl
    simp only [numTokSpec] at hn
    exact nl_gateToks F g (List.all_eq_true.mp hn g hg)

theorem blockOk_gateDefinition_of_ne (F : NumFmt) (g : GateDefinition) (hp : specLineList F g.specification ≠ [])
    (hn : numTokSpec F g.specification = true) : blockOk (lineToks F (.gateDefinition g)) = true := by
  rw [lineToks_gateDefinition_of_ne F g hp]
  refine blockOk_header_indented (gateDefHeader g) id (specLineList F g.specification) (by simp [gateDefHeader]) ?_
    (nl_specLine F _ hn)
  simp only [gateDefHeader, List.mem_cons, List.mem_append, List.mem_map, not_or, List.not_mem_nil, or_false,
    not_exists, not_and]
  refine ⟨by simp [cmd], by simp [identTok], nl_varParams _, fun s _ => by simp [identTok], by simp, ?_, by simp⟩
  cases g.specification <;> simp [gateTypeTok]

theorem blockOk_gateDefinition (F : NumFmt) (g : GateDefinition) (hp : specOk g.specification = true)
    (hn : numTokSpec F g.specification = true) : blockOk (lineToks F (.gateDefinition g)) = true :=
  blockOk_gateDefinition_of_ne F g (specLineList_ne F _ hp) hn

theorem lineToks_of_blockKind (F : NumFmt) (i : Instruction) (hk : blockKind i = true)
    (hn : numTokInstr F i = true) : lineToks F i = toks F i :=
  stripNL_of_blockOk _ (blockOk_of_blockKind F i hk hn)

theorem blockOk_body (F : NumFmt) (body : List Instruction) (hk : bodyOk1 body = true)
    (hn : body.all (numTokInstr F) = true) : ∀ i ∈ body, blockOk (toks F i) = true :=
  fun i hi => blockOk_of_blockKind F i (bodyOk1_mem hk i hi) (List.all_eq_true.mp hn i hi)

theorem nl_names (qvs : List String) : Token.newLine ∉ qvs.map nameTok := by
  simp only [List.mem_map, not_exists, not_and]
  intro s _ h
  exact (nameTok_ne_bang_lParen_newLine s).2.2 h

/-- the lists whose emptiness would make a definition's text end right after the colon: non-empty -/
def shapeOk (F : NumFmt) : Instruction → Bool
  | .calibrationDefinition _ body => !body.isEmpty
  | .measureCalibrationDefinition _ body => !body.isEmpty
  | .circuitDefinition _ _ _ body => !body.isEmpty
  | .gateDefinition g => !(specLineList F g.specification).isEmpty
  | _ => true

theorem shapeOk_of_parsed (F : NumFmt) (i : Instruction) (hp : parsedInstr i = true) : shapeOk F i = true := by
  cases i with
  | calibrationDefinition id body =>
    dsimp only [parsedInstr] at hp; simp only [Bool.and_eq_true] at hp; exact hp.1.2
  | measureCalibrationDefinition id body =>
    dsimp only [parsedInstr] at hp; simp only [Bool.and_eq_true] at hp; exact hp.1.2
  | circuitDefinition name ps qvs body =>
    dsimp only [parsedInstr] at hp; simp only [Bool.and_eq_true] at hp; exact hp.1.2
  | gateDefinition g =>
    dsimp only [parsedInstr] at hp
    have := specLineList_ne F g.specification hp
    simpa [shapeOk] using this
  | _ => rfl

theorem blockOk_calibrationDefinition (F : NumFmt) (id : CalibrationIdentifier) (body : List Instruction)
    (hk : bodyOk1 body = true) (hn : numTokInstr F (.calibrationDefinition id body) = true) :
    blockOk (toks F (.calibrationDefinition id body)) = true := by
  dsimp only [numTokInstr] at hn
  simp only [Bool.and_eq_true, numTokInstrs_eq_all] at hn
  exact blockOk_cal_of F id body hn.1 (blockOk_body F body hk hn.2)

theorem lineToks_calibrationDefinition (F : NumFmt) (id : CalibrationIdentifier) (body : List Instruction)
    (hk : bodyOk1 body = true) (hn : numTokInstr F (.calibrationDefinition id body) = true) :
    lineToks F (.calibrationDefinition id body) = toks F (.calibrationDefinition id body) :=
  stripNL_of_blockOk _ (blockOk_calibrationDefinition F id body hk hn)

theorem blockOk_of_nlKind (F : NumFmt) (i : Instruction) (hp : shapeOk F i = true) (hk : nlKind i = true)
    (hn : numTokInstr F i = true) : blockOk (lineToks F i) = true := by
  cases i with
  | calibrationDefinition id body =>
    dsimp only [nlKind] at hk
    rw [lineToks_calibrationDefinition F id body hk hn]
    exact blockOk_calibrationDefinition F id body hk hn
  | measureCalibrationDefinition id body =>
    simp only [shapeOk, Bool.not_eq_true', List.isEmpty_eq_false_iff] at hp
    dsimp only [numTokInstr] at hn
    simp only [numTokInstrs_eq_all] at hn
    dsimp only [nlKind] at hk
    rw [lineToks_measureCal F id body hp]
    rw [← List.cons_append]
    refine blockOk_header_lines _ (fun i => .indentation :: toks F i) body (by simp) ?_
      fun i hi => blockOk_cons_indent _ (blockOk_body F _ hk hn i hi)
    simp only [mcalHeader, List.mem_cons, List.mem_append, not_or, List.not_mem_nil, or_false]
    refine ⟨by simp [cmd], by simp [cmd], ⟨nl_measureName _, nl_qubit _⟩, ?_, by simp⟩
    cases id.target <;> simp [measureTargetToks, identTok]
  | circuitDefinition name ps qvs body =>
    simp only [shapeOk, Bool.not_eq_true', List.isEmpty_eq_false_iff] at hp
    dsimp only [numTokInstr] at hn
    simp only [numTokInstrs_eq_all] at hn
    dsimp only [nlKind] at hk
    rw [lineToks_circuit F name ps qvs body hp]
    rw [← List.cons_append]
    refine blockOk_header_lines _ (fun i => .indentation :: toks F i) body (by simp) ?_
      fun i hi => blockOk_cons_indent _ (blockOk_body F _ hk hn i hi)
    simp only [circuitHeader, List.mem_cons, List.mem_append, not_or, List.not_mem_nil, or_false]
    exact ⟨by simp [cmd], by simp [identTok], nl_varParams _, nl_names _, by simp⟩
  | gateDefinition g =>
    simp only [shapeOk, Bool.not_eq_true', List.isEmpty_eq_false_iff] at hp
    dsimp only [numTokInstr] at hn
    exact blockOk_gateDefinition_of_ne F g hp hn
  | _ => cases hk

theorem blockOk_lineToks_of_shapeOk (F : NumFmt) (i : Instruction) (hp : shapeOk F i = true) (hk : provedKind i = true)
    (hn : numTokInstr F i = true) : blockOk (lineToks F i) = true := by
  rcases provedKind_cases hk with h | h
  · rw [lineToks_of_blockKind F i h hn]; exact blockOk_of_blockKind F i h hn
  · exact blockOk_of_nlKind F i hp h hn

theorem blockOk_lineToks (F : NumFmt) (i : Instruction) (hp : parsedInstr i = true) (hk : provedKind i = true)
    (hn : numTokInstr F i = true) : blockOk (lineToks F i) = true :=
  blockOk_lineToks_of_shapeOk F i (shapeOk_of_parsed F i hp) hk hn

theorem length_stripNL_le (ts : List Token) : (stripNL ts).length ≤ ts.length := by
  unfold stripNL; split <;> simp

end QV.C02
