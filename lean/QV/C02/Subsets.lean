import QV.C02.Shape
import QV.C02.KindsPlain
import QV.C02.KindsExpr
import QV.C02.Call
import QV.C02.Delay
import QV.C02.Defs
import QV.C02.Blocks
import QV.C02.Gate
/-!
The per-kind round trips put together along the subsets of `QV.C02.Spec`, in three layers and without recursion:
`lineKind`; `blockKind`, which adds the definitions whose text does not end in a newline, with bodies of one-line kinds;
`provedKind`, whose bodies hold one-line kinds and may end in a definition of `blockKind` (the line tokens come in
here).  Each layer reads its bodies with the layer before.
-/
namespace QV.C02
open QV QV.Tok QV.Ast QV.Parse QV.Print QV.ExprPrint QV.ExprRoundTrip

theorem reads_of_lineKind (F : NumFmt) (i : Instruction) (hp : parsedInstr i = true)
    (hk : lineKind i = true) (hn : numTokInstr F i = true) : Reads anyRest (toks F i) (canonInstr i) := by
  cases i with
  | capture a => exact reads_capture F a hp hn
  | call c => exact reads_call F c (all_callArgOkP F callArgOk _ (fun _ h => h) hp hn) hk
  | pulse a => exact reads_pulse F a hp hn
  | arithmetic a => exact reads_arithmetic F a hp
  | binaryLogic a => exact reads_binaryLogic F a hp
  | comparison a => exact reads_comparison F a hp
  | convert a => exact reads_convert F a
  | exchange a => exact reads_exchange F a
  | move a => exact reads_move F a hp
  | load a => exact reads_load F a
  | store a => exact reads_store F a hp
  | unaryLogic a => exact reads_unaryLogic F a
  | halt => exact reads_halt F
  | nop => exact reads_nop F
  | wait => exact reads_wait F
  | jump a => exact reads_jump F a hp
  | jumpWhen a => exact reads_jumpWhen F a hp
  | jumpUnless a => exact reads_jumpUnless F a hp
  | label a => exact reads_label F a hp
  | «include» a => exact reads_include F a
  | declaration a => exact reads_declaration F a
  | fence a => exact reads_fence F a hp
  | reset a => exact reads_reset F a hp
  | measurement a => exact reads_measurement F a hp
  | pragma a => exact reads_pragma F a
  | gate a => exact reads_gate F a hp hn
  | setFrequency a =>
    exact reads_frameExpr_parsed F .setFrequency (fun f e => .setFrequency ⟨f, e⟩) a.frame a.frequency (fun _ _ => rfl) rfl hp hn
  | setPhase a =>
    exact reads_frameExpr_parsed F .setPhase (fun f e => .setPhase ⟨f, e⟩) a.frame a.phase (fun _ _ => rfl) rfl hp hn
  | setScale a =>
    exact reads_frameExpr_parsed F .setScale (fun f e => .setScale ⟨f, e⟩) a.frame a.scale (fun _ _ => rfl) rfl hp hn
  | shiftFrequency a =>
    exact reads_frameExpr_parsed F .shiftFrequency (fun f e => .shiftFrequency ⟨f, e⟩) a.frame a.frequency (fun _ _ => rfl) rfl hp hn
  | shiftPhase a =>
    exact reads_frameExpr_parsed F .shiftPhase (fun f e => .shiftPhase ⟨f, e⟩) a.frame a.phase (fun _ _ => rfl) rfl hp hn
  | swapPhases a => exact reads_swapPhases F a hp
  | delay a => exact reads_delay F a hp hn
  | rawCapture a => exact reads_rawCapture F a hp hn (bne_iff_ne.mp hk)
  | _ => cases hk

/-- the body's read-back is a hypothesis because the lemma is used twice: with a body of one-line kinds
(`reads_of_blockKind`: the DEFCAL that may stand last in a body) and with a body that may itself end in a definition
(`reads_of_provedKind`: the DEFCAL at top level) -/
theorem reads_cal_parsed (F : NumFmt) (id : CalibrationIdentifier) (body : List Instruction)
    (hp : parsedInstr (.calibrationDefinition id body) = true)
    (hn : numTokInstr F (.calibrationDefinition id body) = true)
    (hbody : body ≠ [] → body.all parsedInstr = true → body.all (numTokInstr F) = true →
      BlockReads F parseInstruction body canonInstr) :
    Reads topRest (toks F (.calibrationDefinition id body)) (canonInstr (.calibrationDefinition id body)) := by
  dsimp only [parsedInstr] at hp
  simp only [Bool.and_eq_true, Bool.not_eq_true', List.isEmpty_eq_false_iff, parsedInstrs_eq_all] at hp
  dsimp only [numTokInstr] at hn
  simp only [Bool.and_eq_true, numTokInstrs_eq_all] at hn
  have := reads_cal F id body canonInstr (all_finiteLits_parsed hp.1.1.1) hp.1.1.2 hn.1 (hbody hp.1.2 hp.2 hn.2)
  rwa [map_norm_parsed _ hp.1.1.1, ← canonInstrs_eq_map] at this

theorem blockReads_lines (F : NumFmt) (body : List Instruction) (hne : body ≠ [])
    (hp : body.all parsedInstr = true) (hk : body.all lineKind = true) (hn : body.all (numTokInstr F) = true) :
    BlockReads F parseInstruction body canonInstr :=
  blockReads_of_items F _ body _ hne fun i hi =>
    reads_of_lineKind F i (List.all_eq_true.mp hp i hi) (List.all_eq_true.mp hk i hi) (List.all_eq_true.mp hn i hi)

theorem reads_of_blockKind (F : NumFmt) (i : Instruction) (hp : parsedInstr i = true)
    (hk : blockKind i = true) (hn : numTokInstr F i = true) : Reads topRest (toks F i) (canonInstr i) := by
  rcases blockKind_cases hk with h | h
  · exact (reads_of_lineKind F i hp h hn).top
  · cases i with
    | waveformDefinition w => exact (reads_waveformDefinition F w hp hn).top
    | frameDefinition f => exact reads_frameDefinition F f hp hn
    | calibrationDefinition id body =>
      exact reads_cal_parsed F id body hp hn fun hne hps hns => blockReads_lines F body hne hps h hns
    | _ => cases h

theorem blockReads_body (F : NumFmt) (body : List Instruction) (hne : body ≠ [])
    (hp : body.all parsedInstr = true) (hk : bodyOk1 body = true) (hn : body.all (numTokInstr F) = true) :
    BlockReads F parseInstruction body canonInstr := by
  obtain ⟨ls, t, rfl, hls, ht⟩ := bodyOk1_split hk hne
  have hm : ∀ i, i ∈ ls ∨ i = t → i ∈ ls ++ [t] := fun i hi => by simpa using hi
  exact parseBlock_items F _ ls t canonInstr
    (fun i hi => reads_of_lineKind F i (List.all_eq_true.mp hp i (hm i (.inl hi))) (hls i hi)
      (List.all_eq_true.mp hn i (hm i (.inl hi))))
    (reads_of_blockKind F t (List.all_eq_true.mp hp t (hm t (.inr rfl))) ht (List.all_eq_true.mp hn t (hm t (.inr rfl))))

theorem reads_of_provedKind (F : NumFmt) (i : Instruction) (hp : parsedInstr i = true)
    (hk : provedKind i = true) (hn : numTokInstr F i = true) :
    Reads topRest (lineToks F i) (canonInstr i) := by
  rcases provedKind_cases hk with h | h
  · rw [lineToks_of_blockKind F i h hn]
    exact reads_of_blockKind F i hp h hn
  · cases i with
    | gateDefinition g => exact reads_gateDefinition F g hp h hn
    | calibrationDefinition id body =>
      dsimp only [nlKind] at h
      rw [lineToks_calibrationDefinition F id body h hn]
      exact reads_cal_parsed F id body hp hn fun hne hps hns => blockReads_body F body hne hps h hns
    | measureCalibrationDefinition id body =>
      dsimp only [parsedInstr] at hp
      simp only [Bool.and_eq_true, Bool.not_eq_true', List.isEmpty_eq_false_iff, parsedInstrs_eq_all] at hp
      dsimp only [numTokInstr] at hn
      simp only [numTokInstrs_eq_all] at hn
      dsimp only [canonInstr]
      rw [canonInstrs_eq_map]
      exact reads_measureCal F id body canonInstr hp.1.1 hp.1.2 (blockReads_body F body hp.1.2 hp.2 h hn)
    | circuitDefinition name ps qvs body =>
      dsimp only [parsedInstr] at hp
      simp only [Bool.and_eq_true, Bool.not_eq_true', List.isEmpty_eq_false_iff, parsedInstrs_eq_all] at hp
      dsimp only [numTokInstr] at hn
      simp only [numTokInstrs_eq_all] at hn
      dsimp only [canonInstr]
      rw [canonInstrs_eq_map]
      exact reads_circuit F name ps qvs body canonInstr hp.1.1 hp.1.2 (blockReads_body F body hp.1.2 hp.2 h hn)
    | _ => cases h

end QV.C02
