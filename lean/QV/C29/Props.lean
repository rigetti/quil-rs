import QV.C29.Lemmas
/-
C29 — Gate depth equals the longest chain of qualifying gates.

"For every block of gates, measurements and classical instructions, gate depth with threshold k is
the largest number of gates acting on at least k qubits along any chain of instructions.  In such a
chain, consecutive instructions share a qubit and appear in program order with no instruction on
that qubit between them."

All theorems are for every instruction list of any length, any qubit indices, any threshold; an
instruction may list a qubit more than once (the threshold counts *listed* qubits, `gate.qubits.len()`).
-/
namespace QV.C29

/-- the graph is built exactly when every instruction is supported (no PRAGMA / JUMP / RF control) -/
theorem C29_build_iff (is : List Instr) : (build is).isSome = is.all (·.supported) := by
  rw [← buildFrom_isSome is 0 ⟨fun _ => none, []⟩]
  unfold build
  cases buildFrom 0 is ⟨fun _ => none, []⟩ <;> rfl

/-- **Edges = "next instruction on a shared qubit"**: the graph has the instructions as nodes and an
edge `a → b` exactly when `b` is the next instruction after `a` on some qubit they share -/
theorem C29_edges (is : List Instr) (g : Graph) (h : build is = some g) : Represents is g := by
  unfold build at h
  split at h
  · next st hb =>
    cases h
    have hinv := buildFrom_inv (qsAt is) is 0 _ st (fun j => by rw [Nat.zero_add]) (Inv.init _) hb
    exact ⟨rfl, fun a b => by rw [hinv.edges, Nat.zero_add, nextOn_iff]⟩
  · cases h

/-- **`path_fold` halts** on every graph that represents a block (so on every built graph, `C29_edges`) once the
fuel reaches `fuelBound g` -/
theorem C29_pathFold_terminates {T : Type} (is : List Instr) (g : Graph) (h : Represents is g)
    (f : T → Nat → T) (init : T) (fuel : Nat) (hfuel : fuelBound g ≤ fuel) :
    ∃ out, pathFold g f init fuel = some out :=
  pathFold_terminates g h.forward f init fuel hfuel

/-- **`path_fold` enumerates exactly the source-to-sink paths**: a value is in the result iff it is
the fold of `f` along a path that starts at a node without predecessors, follows edges, and ends at
a node without successors (for any `f`, any initial value) -/
theorem C29_pathFold_paths {T : Type} (g : Graph) (f : T → Nat → T) (init : T) (fuel : Nat)
    (out : List T) (h : pathFold g f init fuel = some out) (x : T) :
    x ∈ out ↔ ∃ p, PathFrom g (sources g) p ∧ x = p.foldl f init := by
  rw [run_mem g f fuel _ _ _ h x]
  simp only [List.not_mem_nil, false_or, List.mem_singleton, exists_eq_left, Emits]

/-- the source-to-sink paths are chains in the sense of the statement -/
theorem C29_path_is_chain (is : List Instr) (g : Graph) (h : Represents is g) (p : List Nat)
    (hp : PathFrom g (sources g) p) (hne : p ≠ []) : IsChain is p := by
  cases p with
  | nil => exact absurd rfl hne
  | cons v p => exact path_isChain h p v _ (h.instrs_eq ▸ ((mem_sources g v).1 hp.1).1) hp

/-- every chain is contained in a source-to-sink path that counts at least as many qualifying gates -/
theorem C29_chain_extends (is : List Instr) (g : Graph) (h : Represents is g) (k : Nat)
    (c : List Nat) (hc : IsChain is c) :
    ∃ p, PathFrom g (sources g) p ∧ chainCount is k c ≤ chainCount is k p := by
  cases c with
  | nil => exact hc.elim
  | cons v rest =>
    obtain ⟨post, hpost⟩ := chain_ext_fwd h rest v hc
    obtain ⟨pre, hp⟩ := src_ext g h.forward v (rest ++ post) (h.instrs_eq ▸ isChain_head_lt hc) hpost
    refine ⟨_, hp, ?_⟩
    rw [show pre ++ v :: (rest ++ post) = pre ++ ((v :: rest) ++ post) from rfl, chainCount_append,
      chainCount_append]
    omega

/-- **Gate depth = longest chain.**  For every graph that represents a block and every threshold `k`, with
sufficient fuel `gate_depth(k)` returns a number `d` such that no chain has more than `d` gates
acting on ≥ `k` qubits and some chain has exactly `d` (or the block is empty and `d = 0`). -/
theorem C29_gate_depth (is : List Instr) (g : Graph) (h : Represents is g) (k fuel : Nat)
    (hfuel : fuelBound g ≤ fuel) :
    ∃ d, gateDepth g k fuel = some d ∧ IsLongestChain is k d := by
  have hf := h.forward
  obtain ⟨out, hout⟩ := pathFold_terminates g hf (countStep g k) 0 fuel hfuel
  -- the result lists `chainCount is k p` for the source-to-sink paths `p`, and there is at least one
  have hmem : ∀ x, x ∈ out ↔ ∃ p, PathFrom g (sources g) p ∧ x = chainCount is k p := fun x => by
    simp only [C29_pathFold_paths g _ 0 fuel out hout, foldl_countStep, Nat.zero_add, h.instrs_eq]
  obtain ⟨p0, hp0⟩ := exists_path g hf
  obtain ⟨hmax, hle⟩ := maxList_spec (List.ne_nil_of_mem ((hmem _).2 ⟨p0, hp0, rfl⟩))
  refine ⟨maxList out, by simp [gateDepth, hout], fun c hc => ?_, ?_⟩
  · obtain ⟨p, hp, hcp⟩ := C29_chain_extends is g h k c hc
    exact Nat.le_trans hcp (hle _ ((hmem _).2 ⟨p, hp, rfl⟩))
  · obtain ⟨p, hp, hx⟩ := (hmem _).1 hmax
    cases p with
    | nil => exact .inr ⟨h.instrs_eq ▸ sources_nil g hf hp, hx⟩
    | cons v p' => exact .inl ⟨_, C29_path_is_chain is g h _ hp (List.cons_ne_nil _ _), hx.symm⟩

theorem IsLongestChain.le {is : List Instr} {k d d' : Nat} (h : IsLongestChain is k d)
    (h' : IsLongestChain is k d') : d ≤ d' := by
  rcases h.2 with ⟨c, hc, rfl⟩ | ⟨_, rfl⟩
  · exact h'.1 c hc
  · exact Nat.zero_le _

theorem C29_longest_unique (is : List Instr) (k d d' : Nat)
    (h : IsLongestChain is k d) (h' : IsLongestChain is k d') : d = d' :=
  Nat.le_antisymm (h.le h') (h'.le h)

/-- hence the model's output is *the* longest-chain count: the Bool check `gateDepth … == some d`
that the driver applies to the implementation's answer `d` is equivalent to the specification -/
theorem C29_checker (is : List Instr) (g : Graph) (h : Represents is g) (k fuel d : Nat)
    (hfuel : fuelBound g ≤ fuel) : gateDepth g k fuel = some d ↔ IsLongestChain is k d := by
  obtain ⟨d0, hd0, hs0⟩ := C29_gate_depth is g h k fuel hfuel
  constructor
  · intro hd; rw [hd0] at hd; cases hd; exact hs0
  · intro hs; rw [hd0, C29_longest_unique is k d0 d hs0 hs]

theorem C29_represents_dedup (is : List Instr) (g : Graph) (h : Represents is g) :
    Represents is ⟨g.instrs, g.edges.eraseDups⟩ :=
  ⟨h.instrs_eq, fun a b => by simp only [List.mem_eraseDups]; exact h.edge_iff⟩

/-- **two graphs with the same edge relation have the same gate depth**, whatever the multiplicity or
order of their edges (e.g. with or without a parallel edge per shared qubit) -/
theorem C29_depth_relation_invariant (is : List Instr) (g g' : Graph) (h : Represents is g)
    (h' : Represents is g') (k fuel fuel' : Nat) (hf : fuelBound g ≤ fuel) (hf' : fuelBound g' ≤ fuel') :
    gateDepth g k fuel = gateDepth g' k fuel' := by
  obtain ⟨d, hd, hs⟩ := C29_gate_depth is g h k fuel hf
  rw [hd, (C29_checker is g' h' k fuel' d hf').2 hs]

/-- in particular for the graph `build` produces and its de-duplicated version -/
example (is : List Instr) (g : Graph) (h : build is = some g) (k : Nat) :
    gateDepth g k (fuelBound g) =
      gateDepth ⟨g.instrs, g.edges.eraseDups⟩ k (fuelBound ⟨g.instrs, g.edges.eraseDups⟩) :=
  C29_depth_relation_invariant is g _ (C29_edges is g h) (C29_represents_dedup is g (C29_edges is g h)) k _ _
    (Nat.le_refl _) (Nat.le_refl _)

private def X (q : Nat) : Instr := ⟨true, [q], true⟩
private def CNOT (a b : Nat) : Instr := ⟨true, [a, b], true⟩
private def MEASURE (q : Nat) : Instr := ⟨false, [q], true⟩
private def NOP : Instr := ⟨false, [], true⟩

/-- the diamond of `path_fold`'s doc comment (qubit_graph.rs): CNOT 0 1; X 0; H 1; CNOT 1 0, with `X 1` for `H 1` -/
example : (build [CNOT 0 1, X 0, X 1, CNOT 1 0]).map (·.edges) = some [(0, 1), (0, 2), (2, 3), (1, 3)] := by rfl
example : (build [CNOT 0 1, X 0, X 1, CNOT 1 0]).bind (gateDepth · 1 100) = some 3 := by rfl
example : (build [CNOT 0 1, X 0, X 1, CNOT 1 0]).bind (gateDepth · 2 100) = some 2 := by rfl
/-- a repeated qubit is not a self-loop; the threshold counts listed qubits -/
example : (build [X 0, CNOT 0 0, X 0]).map (·.edges) = some [(0, 1), (1, 2)] := by rfl
example : (build [X 0, CNOT 0 0, X 0]).bind (gateDepth · 2 100) = some 1 := by rfl
/-- measurements and classical instructions are nodes that count for nothing -/
example : (build [X 0, MEASURE 0, NOP, X 0]).bind (gateDepth · 1 100) = some 2 := by rfl
example : (build ([] : List Instr)).bind (gateDepth · 1 100) = some 0 := by rfl
/-- two instructions sharing two qubits: parallel edges, the same depth -/
example : (build [CNOT 0 1, CNOT 1 0]).map (·.edges) = some [(0, 1), (0, 1)] := by rfl
example : (build [CNOT 0 1, CNOT 1 0]).bind (gateDepth · 2 100) = some 2 := by rfl
example : build [X 0, ⟨false, [], false⟩] = none := by rfl
example : IsChain [CNOT 0 1, X 0, X 1, CNOT 1 0] [0, 2, 3] := by
  refine ⟨⟨by decide, by decide, 1, by decide, by decide, ?_⟩, ⟨by decide, by decide, 1, by decide, by decide, ?_⟩, ?_⟩
  · intro c h1 h2
    have : c = 1 := by omega
    subst this; decide
  · intro c h1 h2; omega
  · show 3 < 4; decide

end QV.C29
