import QV.C29.Spec
/-
C29 helper lemmas (core Lean only): the invariant of the graph-construction loop; the path-fold stack
machine — what it has emitted when it halts, and that on the graphs `build` produces it does halt;
source-to-sink paths against the chains of the statement.
-/
namespace QV.C29

/-- `j` is the last index below `i` whose qubit list (`qs j`) contains `q` -/
def LastUse (qs : Nat → List Nat) (i q j : Nat) : Prop :=
  j < i ∧ q ∈ qs j ∧ ∀ c, j < c → c < i → q ∉ qs c

theorem lastUse_succ (qs : Nat → List Nat) (i q j : Nat) :
    LastUse qs (i + 1) q j ↔ if q ∈ qs i then j = i else LastUse qs i q j := by
  unfold LastUse
  split
  · next hq =>
    constructor
    · rintro ⟨h1, _, h3⟩
      exact Nat.le_antisymm (Nat.le_of_lt_succ h1) (Nat.le_of_not_lt fun hlt => h3 i hlt (Nat.lt_succ_self i) hq)
    · rintro rfl
      exact ⟨Nat.lt_succ_self _, hq, fun c h1 h2 => by omega⟩
  · next hq =>
    constructor
    · rintro ⟨h1, h2, h3⟩
      have : j ≠ i := fun e => hq (e ▸ h2)
      exact ⟨by omega, h2, fun c hc1 hc2 => h3 c hc1 (by omega)⟩
    · rintro ⟨h1, h2, h3⟩
      refine ⟨by omega, h2, fun c hc1 hc2 => ?_⟩
      by_cases hci : c = i
      · rw [hci]; exact hq
      · exact h3 c hc1 (by omega)

theorem nextOn_iff (is : List Instr) (a b : Nat) :
    NextOn is a b ↔ b < is.length ∧ ∃ q, q ∈ qsAt is b ∧ LastUse (qsAt is) b q a := by
  unfold NextOn LastUse
  constructor
  · rintro ⟨h1, h2, q, h3, h4, h5⟩; exact ⟨h2, q, h4, h1, h3, h5⟩
  · rintro ⟨h2, q, h4, h1, h3, h5⟩; exact ⟨h1, h2, q, h3, h4, h5⟩

/-- invariant of the construction loop after `i` instructions whose qubit lists are `qs 0 … qs (i-1)`: the
map holds the last use of every qubit, the edges are "next instruction on a shared qubit" below `i` -/
structure Inv (qs : Nat → List Nat) (i : Nat) (st : BuildState) : Prop where
  last : ∀ q j, st.last q = some j ↔ LastUse qs i q j
  edges : ∀ a b, (a, b) ∈ st.edges ↔ b < i ∧ ∃ q, q ∈ qs b ∧ LastUse qs b q a

theorem addQubits_cons (node q0 : Nat) (qs : List Nat) (st : BuildState) :
    addQubits node (q0 :: qs) st = addQubits node qs (addQubits node [q0] st) := rfl

theorem addQubits_one_last (node q0 : Nat) (st : BuildState) (q : Nat) :
    (addQubits node [q0] st).last q = if q = q0 then some node else st.last q := rfl

theorem addQubits_one_edges (node q0 : Nat) (st : BuildState) (a b : Nat) :
    (a, b) ∈ (addQubits node [q0] st).edges ↔
      (a, b) ∈ st.edges ∨ (b = node ∧ a ≠ node ∧ st.last q0 = some a) := by
  simp only [addQubits]
  cases st.last q0 with
  | none => simp
  | some p =>
    by_cases hp : p = node
    · simp only [hp, ne_eq, not_true_eq_false, ↓reduceIte, Option.some.injEq]
      exact ⟨Or.inl, fun h => h.elim id fun ⟨_, h1, h2⟩ => absurd h2.symm h1⟩
    · simp only [ne_eq, hp, not_false_eq_true, ↓reduceIte, List.mem_append, List.mem_singleton, Prod.mk.injEq,
        Option.some.injEq]
      constructor
      · rintro (h | ⟨rfl, rfl⟩)
        · exact .inl h
        · exact .inr ⟨rfl, hp, rfl⟩
      · rintro (h | ⟨rfl, _, rfl⟩)
        · exact .inl h
        · exact .inr ⟨rfl, rfl⟩

theorem addQubits_last (node : Nat) (qs : List Nat) (st : BuildState) (q : Nat) :
    (addQubits node qs st).last q = if q ∈ qs then some node else st.last q := by
  induction qs generalizing st with
  | nil => simp [addQubits]
  | cons q0 qs ih =>
    rw [addQubits_cons, ih, addQubits_one_last]
    by_cases h1 : q ∈ qs <;> by_cases h2 : q = q0 <;> simp [h1, h2]

/-- the inner loop adds an edge from the previous user `a ≠ node` of each listed qubit (a repeated qubit finds
`node` itself and adds nothing) -/
theorem addQubits_edges (node : Nat) (qs : List Nat) (st : BuildState) (a b : Nat) :
    (a, b) ∈ (addQubits node qs st).edges ↔
      (a, b) ∈ st.edges ∨ (b = node ∧ a ≠ node ∧ ∃ q, q ∈ qs ∧ st.last q = some a) := by
  induction qs generalizing st with
  | nil => simp [addQubits]
  | cons q0 qs ih =>
    rw [addQubits_cons, ih, addQubits_one_edges]
    simp only [addQubits_one_last]
    constructor
    · rintro ((h | ⟨hb, ha, hl⟩) | ⟨hb, ha, q, hq, hl⟩)
      · exact .inl h
      · exact .inr ⟨hb, ha, q0, List.mem_cons_self .., hl⟩
      · split at hl
        · cases hl; exact absurd rfl ha
        · exact .inr ⟨hb, ha, q, List.mem_cons_of_mem _ hq, hl⟩
    · rintro (h | ⟨hb, ha, q, hq, hl⟩)
      · exact .inl (.inl h)
      · by_cases hq0 : q = q0
        · exact .inl (.inr ⟨hb, ha, hq0 ▸ hl⟩)
        · exact .inr ⟨hb, ha, q, (List.mem_cons.1 hq).resolve_left hq0, by rw [if_neg hq0]; exact hl⟩

theorem Inv.init (qs : Nat → List Nat) : Inv qs 0 ⟨fun _ => none, []⟩ where
  last q j := by simp [LastUse]
  edges a b := by simp

theorem Inv.step {qs : Nat → List Nat} {i : Nat} {st : BuildState} (h : Inv qs i st) :
    Inv qs (i + 1) (addQubits i (qs i) st) where
  last q j := by
    rw [addQubits_last, lastUse_succ]
    split
    · exact ⟨fun e => (Option.some.inj e).symm, fun e => e ▸ rfl⟩
    · exact h.last q j
  edges a b := by
    rw [addQubits_edges, h.edges]
    constructor
    · rintro (⟨h1, h2⟩ | ⟨rfl, _, q, hq, hl⟩)
      · exact ⟨by omega, h2⟩
      · exact ⟨Nat.lt_succ_self _, q, hq, (h.last q a).1 hl⟩
    · rintro ⟨h1, q, hq, hl⟩
      by_cases hb : b = i
      · subst hb; exact .inr ⟨rfl, Nat.ne_of_lt hl.1, q, hq, (h.last q a).2 hl⟩
      · exact .inl ⟨by omega, q, hq, hl⟩

theorem buildFrom_inv (qs : Nat → List Nat) : ∀ (rest : List Instr) (i : Nat) (st st' : BuildState),
    (∀ j, qs (i + j) = qsAt rest j) → Inv qs i st → buildFrom i rest st = some st' →
    Inv qs (i + rest.length) st'
  | [], i, st, st', _, h, hb => by cases hb; exact h
  | ins :: rest, i, st, st', hq, h, hb => by
    simp only [buildFrom] at hb
    split at hb
    · cases hb
    · have h0 : qs i = ins.qubits := hq 0
      rw [← h0] at hb
      rw [List.length_cons, ← Nat.add_assoc, Nat.add_right_comm]
      exact buildFrom_inv qs rest (i + 1) _ st' (fun j => by rw [Nat.add_right_comm, Nat.add_assoc]; exact hq (j + 1))
        h.step hb

theorem buildFrom_isSome : ∀ (rest : List Instr) (i : Nat) (st : BuildState),
    (buildFrom i rest st).isSome = rest.all (·.supported)
  | [], _, _ => rfl
  | ins :: rest, i, st => by
    simp only [buildFrom, List.all_cons]
    cases ins.supported
    · rfl
    · simpa using buildFrom_isSome rest _ _

/-- `p` is a path that starts at one of `nodes`, moves along edges, and stops at a node without
successors (`p = []` only when there is nowhere to start) -/
def PathFrom (g : Graph) : List Nat → List Nat → Prop
  | nodes, [] => nodes = []
  | nodes, v :: p => v ∈ nodes ∧ PathFrom g (succs g v) p

section
variable {T : Type} (g : Graph) (f : T → Nat → T)

/-- what a stack entry stands for: the folds of `f` along the complete paths from its nodes -/
def Emits (e : T × List Nat) (x : T) : Prop := ∃ p, PathFrom g e.2 p ∧ x = p.foldl f e.1

theorem emits_nil (acc x : T) : Emits g f (acc, []) x ↔ x = acc := by
  constructor
  · rintro ⟨p, hp, rfl⟩
    cases p with
    | nil => rfl
    | cons v p => cases hp.1
  · rintro rfl; exact ⟨[], rfl, rfl⟩

theorem emits_cons (acc x : T) {nodes : List Nat} (hne : nodes ≠ []) :
    Emits g f (acc, nodes) x ↔ ∃ v, v ∈ nodes ∧ Emits g f (f acc v, succs g v) x := by
  constructor
  · rintro ⟨p, hp, rfl⟩
    cases p with
    | nil => exact absurd hp hne
    | cons v p => exact ⟨v, hp.1, p, hp.2, rfl⟩
  · rintro ⟨v, hv, p, hp, rfl⟩; exact ⟨v :: p, ⟨hv, hp⟩, rfl⟩

/-- **partial correctness of the machine**: whenever it halts, its result is the initial result plus
exactly what the stack entries stand for -/
theorem run_mem : ∀ (fuel : Nat) (stack : List (T × List Nat)) (res out : List T),
    run g f fuel stack res = some out → ∀ x, x ∈ out ↔ (x ∈ res ∨ ∃ e, e ∈ stack ∧ Emits g f e x) := by
  intro fuel
  induction fuel with
  | zero => intro stack res out h; cases h
  | succ fuel ih =>
    intro stack res out h x
    match stack with
    | [] =>
      simp only [run, Option.some.injEq] at h
      simp [← h]
    | (acc, nodes) :: rest =>
      simp only [run] at h
      split at h
      · next hemp =>
        obtain rfl : nodes = [] := by simpa using hemp
        simp only [ih _ _ _ h x, List.mem_append, List.mem_cons, List.not_mem_nil, false_or, exists_eq_or_imp,
          emits_nil, or_assoc]
      · next hemp =>
        have hn : nodes ≠ [] := by simpa using hemp
        rw [ih _ _ _ h x]
        simp only [List.mem_append, List.mem_reverse, List.mem_map, List.mem_cons, or_and_right, exists_or,
          exists_eq_left, emits_cons g f acc x hn]
        exact or_congr_right <| or_congr_left
          ⟨fun ⟨_, ⟨v, hv, e⟩, he⟩ => ⟨v, hv, e ▸ he⟩, fun ⟨v, hv, he⟩ => ⟨_, ⟨v, hv, rfl⟩, he⟩⟩

/-- entries that are each worked off in a known number of iterations are worked off one after the other -/
theorem run_entries (c : T × List Nat → Nat) : ∀ (es : List (T × List Nat)),
    (∀ e, e ∈ es → ∀ rest res, ∃ res', ∀ fuel, run g f (c e + fuel) (e :: rest) res = run g f fuel rest res') →
    ∀ rest res, ∃ res', ∀ fuel, run g f ((es.map c).sum + fuel) (es ++ rest) res = run g f fuel rest res'
  | [], _, rest, res => ⟨res, fun fuel => by simp⟩
  | e :: es, h, rest, res => by
    obtain ⟨res1, h1⟩ := h e (List.mem_cons_self ..) (es ++ rest) res
    obtain ⟨res2, h2⟩ := run_entries c es (fun e he => h e (List.mem_cons_of_mem _ he)) rest res1
    exact ⟨res2, fun fuel => by rw [List.map_cons, List.sum_cons, Nat.add_assoc, List.cons_append, h1, h2]⟩

end

/-- every edge goes from a node to a later node of the graph (what `Represents` gives; it bounds the height of a
node by its distance from the end) -/
def Forward (g : Graph) : Prop := ∀ a b, (a, b) ∈ g.edges → a < b ∧ b < g.instrs.length

theorem mem_succs (g : Graph) (v u : Nat) : u ∈ succs g v ↔ (v, u) ∈ g.edges := by
  unfold succs
  simp only [List.mem_reverse, List.mem_map, List.mem_filter, beq_iff_eq]
  constructor
  · rintro ⟨⟨a, b⟩, ⟨he, rfl⟩, rfl⟩; exact he
  · intro h; exact ⟨(v, u), ⟨h, rfl⟩, rfl⟩

theorem mem_sources (g : Graph) (v : Nat) :
    v ∈ sources g ↔ v < g.instrs.length ∧ ∀ a, (a, v) ∉ g.edges := by
  unfold sources
  simp only [List.mem_filter, List.mem_range, Bool.not_eq_true', List.any_eq_false, beq_iff_eq]
  exact ⟨fun ⟨h1, h2⟩ => ⟨h1, fun a ha => h2 (a, v) ha rfl⟩,
    fun ⟨h1, h2⟩ => ⟨h1, fun (a, b) he hev => h2 a (hev ▸ he)⟩⟩

theorem Forward.of_mem_succs {g : Graph} (hf : Forward g) {v u : Nat} (hu : u ∈ succs g v) :
    v < u ∧ u < g.instrs.length :=
  hf v u ((mem_succs g v u).1 hu)

theorem NextOn.lt {is : List Instr} {a b : Nat} (h : NextOn is a b) : a < b := h.1

theorem NextOn.lt_length {is : List Instr} {a b : Nat} (h : NextOn is a b) : b < is.length := h.2.1

section
variable {is : List Instr} {g : Graph} (h : Represents is g)
include h

theorem Represents.instrs_eq : g.instrs = is := h.1

theorem Represents.edge_iff {a b : Nat} : (a, b) ∈ g.edges ↔ NextOn is a b := h.2 a b

theorem Represents.forward : Forward g := fun _ _ hab =>
  have hn := h.edge_iff.1 hab
  ⟨hn.lt, h.instrs_eq ▸ hn.lt_length⟩

end

/-- on a forward graph the machine works off a stack entry whose nodes have height at most `d` in exactly
`cost g d nodes` iterations, whatever lies below it -/
theorem run_entry {T : Type} (g : Graph) (f : T → Nat → T) (hf : Forward g) :
    ∀ (d : Nat) (e : T × List Nat), (∀ v, v ∈ e.2 → v < g.instrs.length ∧ g.instrs.length ≤ v + d) →
    ∀ rest res, ∃ res', ∀ fuel, run g f (cost g d e.2 + fuel) (e :: rest) res = run g f fuel rest res'
  | d, (acc, []), _, rest, res => ⟨res ++ [acc], fun fuel => by cases d <;> simp [cost, run, Nat.add_comm 1]⟩
  | 0, (_, v :: _), hv, _, _ => by have := hv v (List.mem_cons_self ..); omega
  | d + 1, (acc, v0 :: vs), hv, rest, res => by
    -- one iteration replaces the entry by its children, pushed in reverse; each child is worked off in its own cost
    -- (`run_entries`), and reversing a list does not change the sum
    obtain ⟨res', h⟩ := run_entries g f (fun e => cost g d e.2)
      ((v0 :: vs).map fun v => (f acc v, succs g v)).reverse
      (fun e he => by
        obtain ⟨v, hvn, rfl⟩ := List.mem_map.1 (List.mem_reverse.1 he)
        exact run_entry g f hf d _ fun u hu => by
          have := hf.of_mem_succs hu; have := hv v hvn; omega)
      rest res
    rw [List.map_reverse, List.sum_reverse, List.map_map] at h
    exact ⟨res', fun fuel => by rw [← h]; simp [cost, run, Nat.add_comm 1, Nat.add_assoc, Function.comp_def]⟩

theorem pathFold_terminates {T : Type} (g : Graph) (hf : Forward g) (f : T → Nat → T) (init : T)
    (fuel : Nat) (h : fuelBound g ≤ fuel) : ∃ out, pathFold g f init fuel = some out := by
  obtain ⟨k, rfl⟩ := Nat.exists_eq_add_of_le h
  obtain ⟨out, hout⟩ := run_entry g f hf g.instrs.length (init, sources g)
    (fun v hv => ⟨((mem_sources g v).1 hv).1, Nat.le_add_left ..⟩) [] []
  exact ⟨out, by rw [pathFold, fuelBound, Nat.add_assoc, Nat.add_comm 1 k, hout, run]⟩

theorem sink_ext (g : Graph) (hf : Forward g) : ∀ (d v : Nat), g.instrs.length ≤ v + d →
    ∃ p, PathFrom g (succs g v) p := by
  intro d
  induction d with
  | zero =>
    intro v hv
    exact ⟨[], List.eq_nil_iff_forall_not_mem.2 fun u hu => by have := hf.of_mem_succs hu; omega⟩
  | succ d ih =>
    intro v hv
    cases hs : succs g v with
    | nil => exact ⟨[], rfl⟩
    | cons u us =>
      have hu : u ∈ succs g v := hs ▸ List.mem_cons_self ..
      have := hf.of_mem_succs hu
      obtain ⟨p, hp⟩ := ih u (by omega)
      exact ⟨u :: p, hs ▸ hu, hp⟩

theorem src_ext (g : Graph) (hf : Forward g) (v : Nat) : ∀ (q : List Nat), v < g.instrs.length →
    PathFrom g (succs g v) q → ∃ pre, PathFrom g (sources g) (pre ++ v :: q) := by
  induction v using Nat.strongRecOn with
  | ind v ih =>
    intro q hv hq
    by_cases hs : v ∈ sources g
    · exact ⟨[], hs, hq⟩
    · obtain ⟨a, ha⟩ : ∃ a, (a, v) ∈ g.edges := Classical.byContradiction fun hne =>
        hs ((mem_sources g v).2 ⟨hv, fun a ha => hne ⟨a, ha⟩⟩)
      have hav := hf a v ha
      obtain ⟨pre, hp⟩ := ih a hav.1 (v :: q) (by omega) ⟨(mem_succs g a v).2 ha, hq⟩
      exact ⟨pre ++ [a], by simpa using hp⟩

theorem exists_path (g : Graph) (hf : Forward g) : ∃ p, PathFrom g (sources g) p := by
  cases hs : sources g with
  | nil => exact ⟨[], rfl⟩
  | cons s ss =>
    obtain ⟨p, hp⟩ := sink_ext g hf g.instrs.length s (Nat.le_add_left ..)
    exact ⟨s :: p, List.mem_cons_self .., hp⟩

/-- a forward graph without sources has no node at all: node `0` would be one -/
theorem sources_nil (g : Graph) (hf : Forward g) (h : sources g = []) : g.instrs = [] :=
  List.eq_nil_of_length_eq_zero <| Nat.eq_zero_of_not_pos fun hpos =>
    List.not_mem_nil (h ▸ (mem_sources g 0).2 ⟨hpos, fun a ha => Nat.not_lt_zero a (hf a 0 ha).1⟩)

section
variable {is : List Instr} {g : Graph} (h : Represents is g)
include h

theorem mem_succs_iff_nextOn (v u : Nat) : u ∈ succs g v ↔ NextOn is v u := by
  rw [mem_succs, h.edge_iff]

theorem path_isChain : ∀ (p : List Nat) (v : Nat) (nodes : List Nat), v < is.length →
    PathFrom g nodes (v :: p) → IsChain is (v :: p)
  | [], _, _, hv, _ => hv
  | u :: p, v, _, _, ⟨_, hu, hp⟩ =>
    have hn := (mem_succs_iff_nextOn h v u).1 hu
    ⟨hn, path_isChain p u (succs g v) hn.lt_length ⟨hu, hp⟩⟩

theorem chain_ext_fwd : ∀ (rest : List Nat) (v : Nat), IsChain is (v :: rest) →
    ∃ post, PathFrom g (succs g v) (rest ++ post)
  | [], v, _ => sink_ext g h.forward g.instrs.length v (Nat.le_add_left ..)
  | u :: r, v, ⟨hn, hc⟩ =>
    let ⟨post, hp⟩ := chain_ext_fwd r u hc
    ⟨post, (mem_succs_iff_nextOn h v u).2 hn, hp⟩

end

theorem isChain_head_lt {is : List Instr} : ∀ {v : Nat} {rest : List Nat}, IsChain is (v :: rest) → v < is.length
  | _, [], hv => hv
  | _, _ :: _, ⟨hn, _⟩ => Nat.lt_trans hn.lt hn.lt_length

theorem countStep_eq (g : Graph) (k d v : Nat) :
    countStep g k d v = d + if qualifies g.instrs k v then 1 else 0 := by
  unfold countStep qualifies
  cases g.instrs[v]? with
  | none => rfl
  | some ins => dsimp only; split <;> rfl

theorem foldl_countStep (g : Graph) (k : Nat) (p : List Nat) (a : Nat) :
    p.foldl (countStep g k) a = a + chainCount g.instrs k p := by
  induction p generalizing a with
  | nil => rfl
  | cons v p ih =>
    rw [List.foldl_cons, ih, countStep_eq, chainCount, chainCount, List.filter_cons]
    split <;> simp <;> omega

theorem chainCount_append (is : List Instr) (k : Nat) (a b : List Nat) :
    chainCount is k (a ++ b) = chainCount is k a + chainCount is k b := by
  simp [chainCount, List.filter_append]

/-- `maxList` of a non-empty list is its greatest element: on `b :: l` it is core's `List.max?`, which is by
definition `some (l.foldl max b)` -/
theorem maxList_spec {l : List Nat} (h : l ≠ []) : maxList l ∈ l ∧ ∀ b, b ∈ l → b ≤ maxList l :=
  List.max?_eq_some_iff.1 (by
    cases l with
    | nil => exact absurd rfl h
    | cons b l => show _ = some (List.foldl max (max 0 b) l); rw [Nat.zero_max]; rfl)

end QV.C29
