import QV.C28.Model
/-!
Helper lemmas for C28: the CFG builder in closed form.  The loop appends finished blocks at the end of a list, while
every clause of the specification (`flattenAll`, `offsetsOk`, `continueOk`, …) recurses from the front.  `blocksFrom`
produces the same blocks front to back by recursion on the body (`finish_foldl`), and `Good.of_thenFrom` is the one rule
for putting a block in front of a list that satisfies the clauses.
-/
namespace QV.C28
variable {X L C : Type}

def labelIns (o : Option L) : List (Ins X L C) :=
  match o with | some l => [Ins.label l] | none => []

theorem Block.flatten_eq (b : Block X L C) :
    b.flatten = labelIns b.label ++ b.instrs.map Ins.other ++ b.term.toIns := rfl

theorem labelIns_length (o : Option L) :
    (labelIns o : List (Ins X L C)).length = if o.isSome then 1 else 0 := by
  cases o <;> rfl

/-- the instructions the builder does not ignore (the filter of `C28_partition`) -/
abbrev keep (i : Ins X L C) : Bool := !i.isSkip

def Block.thenFrom (b : Block X L C) (rest : Nat → List (Block X L C)) : List (Block X L C) :=
  b :: rest (b.offset + b.flatten.length)

/-- a block is pending: an instruction or a label has been seen since the last terminator -/
def pending (lab : Option L) (cur : List X) : Bool := !cur.isEmpty || lab.isSome

/-- the pending block, if there is one, closed as a fall-through block (what a LABEL does before it is remembered,
and what the code after the loop does), then `rest` -/
def pendingThen (lab : Option L) (cur : List X) (off : Nat) (rest : Nat → List (Block X L C)) :
    List (Block X L C) :=
  if pending lab cur then Block.thenFrom ⟨lab, cur, off, .continue⟩ rest else rest off

/-- the blocks produced from a pending block at offset `off` and the rest of the body -/
def blocksFrom (lab : Option L) (cur : List X) (off : Nat) : List (Ins X L C) → List (Block X L C)
  | [] => pendingThen lab cur off fun _ => []
  | .other x :: r => blocksFrom lab (cur ++ [x]) off r
  | .skip _ :: r => blocksFrom lab cur off r
  | .label l :: r => pendingThen lab cur off (blocksFrom (some l) [] · r)
  | .jump l :: r => Block.thenFrom ⟨lab, cur, off, .jump l⟩ (blocksFrom none [] · r)
  | .jumpWhen l c :: r => Block.thenFrom ⟨lab, cur, off, .cond l c false⟩ (blocksFrom none [] · r)
  | .jumpUnless l c :: r => Block.thenFrom ⟨lab, cur, off, .cond l c true⟩ (blocksFrom none [] · r)
  | .halt :: r => Block.thenFrom ⟨lab, cur, off, .halt⟩ (blocksFrom none [] · r)

theorem not_pending {lab : Option L} {cur : List X} (h : ¬ pending lab cur = true) : lab = none ∧ cur = [] := by
  cases lab <;> cases cur <;> simp_all [pending]

theorem pendingThen_of_pending {lab : Option L} {cur : List X} (h : pending lab cur = true) (off : Nat)
    (rest : Nat → List (Block X L C)) :
    pendingThen lab cur off rest = Block.thenFrom ⟨lab, cur, off, .continue⟩ rest := if_pos h

theorem pendingThen_of_not_pending {lab : Option L} {cur : List X} (h : ¬ pending lab cur = true) (off : Nat)
    (rest : Nat → List (Block X L C)) : pendingThen lab cur off rest = rest off := if_neg h

theorem close_eq (s : St X L C) (t : Term L C) :
    s.close t (t.toIns (X := X)).length =
      ⟨s.blocks ++ [⟨s.curLabel, s.cur, s.offset, t⟩], none, [],
        s.offset + (Block.flatten (⟨s.curLabel, s.cur, s.offset, t⟩ : Block X L C)).length⟩ := by
  simp only [St.close, Block.flatten_eq, List.length_append, List.length_map, labelIns_length]
  congr 1; omega

def St.out (s : St X L C) (body : List (Ins X L C)) : List (Block X L C) :=
  s.blocks ++ blocksFrom s.curLabel s.cur s.offset body

theorem out_close (s : St X L C) (t : Term L C) (r : List (Ins X L C)) :
    (s.close t (t.toIns (X := X)).length).out r =
      s.blocks ++ Block.thenFrom ⟨s.curLabel, s.cur, s.offset, t⟩ (blocksFrom none [] · r) := by
  rw [close_eq]; exact List.append_assoc ..

theorem finish_foldl (body : List (Ins X L C)) (s : St X L C) : finish (body.foldl step s) = s.out body := by
  induction body generalizing s with
  | nil =>
    show (if pending s.curLabel s.cur = true then _ else _) = s.blocks ++ pendingThen _ _ _ _
    by_cases h : pending s.curLabel s.cur = true
    · rw [if_pos h, pendingThen_of_pending h]; rfl
    · rw [if_neg h, pendingThen_of_not_pending h]; exact (List.append_nil _).symm
  | cons i r ih =>
    rw [List.foldl_cons, ih]
    cases i with
    | other x => rfl
    | skip x => rfl
    | label l =>
      show St.out (if pending s.curLabel s.cur = true then _ else _) r = s.blocks ++ pendingThen _ _ _ _
      by_cases h : pending s.curLabel s.cur = true
      · rw [if_pos h, pendingThen_of_pending h]
        exact (congrArg (fun s' : St X L C => s'.blocks ++ blocksFrom (some l) [] s'.offset r)
          (close_eq s .continue)).trans (List.append_assoc ..)
      · rw [if_neg h, pendingThen_of_not_pending h]
        exact congrArg (fun c => s.blocks ++ blocksFrom (some l) c s.offset r) (not_pending h).2
    | jump l => exact out_close s (.jump l) r
    | jumpWhen l c => exact out_close s (.cond l c false) r
    | jumpUnless l c => exact out_close s (.cond l c true) r
    | halt => exact out_close s .halt r

def headLabelled : List (Block X L C) → Bool
  | [] => true
  | b :: _ => b.label.isSome

/-- The clauses of the specification for a block list `bs` that starts at offset `off`, writes out to `flat` and
has the dynamic flag `dyn`. -/
structure Good (off : Nat) (bs : List (Block X L C)) (flat : List (Ins X L C)) (dyn : Bool) : Prop where
  flat : flattenAll bs = flat
  offs : offsetsOk off bs = true
  nonEmpty : bs.all Block.nonEmpty = true
  cont : continueOk bs = true
  dyn : hasDynamic bs = dyn

/-- the one rule: a non-empty block in front, which if it falls through meets a label -/
theorem Good.of_thenFrom {b : Block X L C} {rest : Nat → List (Block X L C)} {flat : List (Ins X L C)} {dyn : Bool}
    (h : ∀ n, Good n (rest n) flat dyn) (hne : b.nonEmpty = true)
    (hc : (b.term.toIns (X := X)) = [] → ∀ n, headLabelled (rest n) = true) :
    Good b.offset (b.thenFrom rest) (b.flatten ++ flat) (b.term.isDynamic || dyn) where
  flat := congrArg (b.flatten ++ ·) (h _).flat
  offs := by simp [Block.thenFrom, offsetsOk, (h _).offs]
  nonEmpty := by simp [Block.thenFrom, hne, (h _).nonEmpty]
  cont := by
    unfold Block.thenFrom
    have := fun e => hc e (b.offset + b.flatten.length)
    cases hr : rest (b.offset + b.flatten.length) with
    | nil => rfl
    | cons b' bs =>
      rw [hr] at this
      simp only [continueOk, Bool.and_eq_true, decide_eq_true_eq, List.isEmpty_iff]
      exact ⟨this, hr ▸ (h _).cont⟩
  dyn := congrArg (b.term.isDynamic || ·) (h _).dyn

theorem Good.of_pendingThen (lab : Option L) (cur : List X) (off : Nat) {rest : Nat → List (Block X L C)}
    {flat : List (Ins X L C)} {dyn : Bool} (h : ∀ n, Good n (rest n) flat dyn)
    (hc : ∀ n, headLabelled (rest n) = true) :
    Good off (pendingThen lab cur off rest) (labelIns lab ++ cur.map Ins.other ++ flat) dyn := by
  by_cases hp : pending lab cur = true
  · rw [pendingThen_of_pending hp]
    have := Good.of_thenFrom (b := ⟨lab, cur, off, .continue⟩) h
      (by simp only [Block.nonEmpty, Bool.or_comm lab.isSome, show (!cur.isEmpty || lab.isSome) = true from hp,
        Bool.true_or]) fun _ => hc
    simpa [Block.flatten_eq, Term.toIns, Term.isDynamic] using this
  · rw [pendingThen_of_not_pending hp, (not_pending hp).1, (not_pending hp).2]; exact h off

/-- the pending block carries its label into the first block that is produced -/
theorem headLabelled_blocksFrom (l : L) (cur : List X) (off : Nat) (body : List (Ins X L C)) :
    headLabelled (blocksFrom (some l) cur off body) = true := by
  have hp : ∀ (cur : List X) rest, headLabelled (pendingThen (C := C) (some l) cur off rest) = true := fun cur rest => by
    rw [pendingThen_of_pending (by simp [pending])]; rfl
  induction body generalizing cur with
  | nil => exact hp ..
  | cons i r ih =>
    cases i with
    | other | skip => exact ih _
    | label => exact hp ..
    | _ => rfl

/-- **The builder's output satisfies every clause**, from any pending block. -/
theorem good_blocksFrom (lab : Option L) (cur : List X) (off : Nat) (body : List (Ins X L C)) :
    Good off (blocksFrom lab cur off body) (labelIns lab ++ cur.map Ins.other ++ body.filter keep)
      (body.any Ins.isConditional) := by
  induction body generalizing lab cur off with
  | nil => exact Good.of_pendingThen lab cur off (fun n => ⟨rfl, rfl, rfl, rfl, rfl⟩) fun _ => rfl
  | cons i r ih =>
    -- after a terminator `t` written back as `i`
    have term : ∀ t : Term L C, t.toIns = [i] → i.isSkip = false →
        Good off (Block.thenFrom ⟨lab, cur, off, t⟩ (blocksFrom none [] · r))
          (labelIns lab ++ cur.map Ins.other ++ (i :: r).filter keep) (t.isDynamic || r.any Ins.isConditional) :=
      fun t ht hs => by
        have := Good.of_thenFrom (b := ⟨lab, cur, off, t⟩) (fun n => ih none [] n) (by simp [Block.nonEmpty, ht])
          (by simp [ht])
        simpa [Block.flatten_eq, ht, labelIns, keep, hs] using this
    cases i with
    | other x =>
      have := ih lab (cur ++ [x]) off
      rw [List.map_append, List.append_assoc, List.append_assoc] at this
      exact List.append_assoc .. ▸ this
    | skip x => exact ih lab cur off
    | label l => exact Good.of_pendingThen lab cur off (fun n => ih (some l) [] n) fun n => headLabelled_blocksFrom ..
    | jump l => exact term (.jump l) rfl rfl
    | jumpWhen l c => exact term (.cond l c false) rfl rfl
    | jumpUnless l c => exact term (.cond l c true) rfl rfl
    | halt => exact term .halt rfl rfl

/-- What the finished result says about a state of the loop after the body prefix `p`: however the body goes on, the
blocks that come out satisfy the clauses for the whole body.  It follows from `good_blocksFrom` (`inv_body`); no proof
goes through it. -/
def Inv (s : St X L C) (p : List (Ins X L C)) : Prop :=
  ∀ rest, Good 0 (s.out rest) ((p ++ rest).filter keep) ((p ++ rest).any Ins.isConditional)

end QV.C28
