import QV.C28.Props
/-
C28, completeness of the specification: the clauses of `specCheck` determine the block list
uniquely. Any block list that (1) writes out to the body, (2) has no empty block, (3) is maximal
(fall-through only into a labelled block) and (4) has prefix-sum offsets IS the builder's output.
So "the spec holds of the implementation's output" already implies "implementation = model".
A deterministic reader (`readBlock`) recovers the blocks one by one from the written form, so two such lists with the
same written form have the same shapes (`shapes_unique`); the offsets are then the same prefix sums.
-/
namespace QV.C28
variable {X L C : Type}

/-- What the written-out form determines of a block: everything but the offset. -/
abbrev Shape (X L C : Type) := Option L × List X × Term L C

def Block.shape (b : Block X L C) : Shape X L C := (b.label, b.instrs, b.term)

theorem Block.eq_of_shape {b b' : Block X L C} (hs : b.shape = b'.shape) (ho : b.offset = b'.offset) :
    b = b' := by
  obtain ⟨l, i, o, t⟩ := b
  obtain ⟨l', i', o', t'⟩ := b'
  cases hs
  cases ho
  rfl

def Ins.asTerm : Ins X L C → Option (Term L C)
  | .jump a => some (.jump a)
  | .jumpWhen a c => some (.cond a c false)
  | .jumpUnless a c => some (.cond a c true)
  | .halt => some .halt
  | _ => none

theorem Term.toIns_cases (t : Term L C) :
    (t = .continue ∧ (t.toIns : List (Ins X L C)) = []) ∨
      ∃ i : Ins X L C, t.toIns = [i] ∧ i.asTerm = some t := by
  cases t with
  | «continue» => exact .inl ⟨rfl, rfl⟩
  | jump l => exact .inr ⟨_, rfl, rfl⟩
  | cond l c z => cases z <;> exact .inr ⟨_, rfl, rfl⟩
  | halt => exact .inr ⟨_, rfl, rfl⟩

def readLabel : List (Ins X L C) → Option L × List (Ins X L C)
  | .label a :: r => (some a, r)
  | l => (none, l)

def takeOthers : List (Ins X L C) → List X × List (Ins X L C)
  | .other x :: rest => ((takeOthers rest).1 |> (x :: ·), (takeOthers rest).2)
  | l => ([], l)

def readTerm : List (Ins X L C) → Term L C × List (Ins X L C)
  | [] => (.continue, [])
  | i :: r => match i.asTerm with
    | some t => (t, r)
    | none => (.continue, i :: r)

/-- A deterministic reader of ONE block from the written form (independent of the builder). -/
def readBlock (l : List (Ins X L C)) : Shape X L C × List (Ins X L C) :=
  let p1 := readLabel l
  let p2 := takeOthers p1.2
  let p3 := readTerm p2.2
  ((p1.1, p2.1, p3.1), p3.2)

def labelHeadOrNil : List (Ins X L C) → Prop
  | [] => True
  | .label _ :: _ => True
  | _ => False

theorem readLabel_labelIns (o : Option L) (tl : List (Ins X L C))
    (h : o = none → ∀ a r, tl ≠ .label a :: r) : readLabel (labelIns o ++ tl) = (o, tl) := by
  cases o with
  | some a => rfl
  | none =>
    show readLabel tl = (none, tl)
    unfold readLabel
    split
    · exact absurd rfl (h rfl _ _)
    · rfl

theorem takeOthers_append (xs : List X) (rest : List (Ins X L C)) (h : ∀ x r, rest ≠ .other x :: r) :
    takeOthers (xs.map Ins.other ++ rest) = (xs, rest) := by
  induction xs with
  | nil =>
    show takeOthers rest = ([], rest)
    unfold takeOthers
    split
    · exact absurd rfl (h _ _)
    · rfl
  | cons x xs ih => simp only [List.map_cons, List.cons_append, takeOthers, ih]

theorem readTerm_toIns (t : Term L C) (rest : List (Ins X L C))
    (h : (t.toIns (X := X)) = [] → labelHeadOrNil rest) : readTerm (t.toIns ++ rest) = (t, rest) := by
  rcases t.toIns_cases (X := X) with ⟨rfl, ht⟩ | ⟨i, ht, hi⟩
  · have := h ht
    rw [ht]
    match rest, this with
    | [], _ => rfl
    | .label _ :: _, _ => rfl
  · rw [ht]
    simp only [List.cons_append, List.nil_append, readTerm, hi]

/-- `hrest` is maximality: a fall-through block is followed by nothing or by a label.  Otherwise the reader would run
on into `rest`. -/
theorem readBlock_flatten (b : Block X L C) (rest : List (Ins X L C)) (hne : b.nonEmpty = true)
    (hrest : (b.term.toIns (X := X)) = [] → labelHeadOrNil rest) :
    readBlock (b.flatten ++ rest) = (b.shape, rest) := by
  -- after the instructions comes the terminator or, for a fall-through block, `rest`: no ordinary instruction
  have hoth : ∀ x r, b.term.toIns ++ rest ≠ .other x :: r := by
    intro x r e
    rcases b.term.toIns_cases (X := X) with ⟨_, ht⟩ | ⟨i, ht, hi⟩
    · have := hrest ht
      rw [ht, List.nil_append] at e
      rw [e] at this
      exact this
    · rw [ht] at e
      cases e
      cases hi
  -- an unlabelled block starts with an instruction or its terminator, being non-empty: no label
  have hlab : b.label = none → ∀ a r, b.instrs.map Ins.other ++ (b.term.toIns ++ rest) ≠ .label a :: r := by
    intro hl a r e
    cases hi : b.instrs with
    | cons x xs => rw [hi] at e; cases e
    | nil =>
      rw [hi] at e
      rcases b.term.toIns_cases (X := X) with ⟨_, ht⟩ | ⟨i, ht, hti⟩
      · simp [Block.nonEmpty, hl, hi, ht] at hne
      · rw [ht] at e
        cases e
        cases hti
  rw [Block.flatten_eq, List.append_assoc, List.append_assoc]
  simp only [readBlock, readLabel_labelIns _ _ hlab, takeOthers_append _ _ hoth,
    readTerm_toIns _ _ hrest, Block.shape]

theorem flatten_ne_nil (b : Block X L C) (hne : b.nonEmpty = true) : (b.flatten : List (Ins X L C)) ≠ [] := by
  intro h
  rw [Block.flatten_eq, List.append_eq_nil_iff, List.append_eq_nil_iff, List.map_eq_nil_iff] at h
  obtain ⟨⟨hl, hi⟩, ht⟩ := h
  cases hb : b.label with
  | some a => rw [hb] at hl; cases hl
  | none => simp [Block.nonEmpty, hb, hi, ht] at hne

theorem continueOk_tail {b : Block X L C} {bs : List (Block X L C)} (h : continueOk (b :: bs) = true) :
    continueOk bs = true := by
  cases bs with
  | nil => rfl
  | cons c cs => simp only [continueOk, Bool.and_eq_true] at h; exact h.2

theorem flattenAll_labelHead (bs : List (Block X L C))
    (h : ∀ b ∈ bs.head?, b.label.isSome = true) : labelHeadOrNil (flattenAll bs) := by
  cases bs with
  | nil => trivial
  | cons b bs =>
    cases hl : b.label with
    | none => exact absurd (h b rfl) (by simp [hl])
    | some a => simp [flattenAll, Block.flatten, hl, labelHeadOrNil]

theorem continueOk_head {b : Block X L C} {bs : List (Block X L C)} (h : continueOk (b :: bs) = true)
    (ht : (b.term.toIns (X := X)) = []) : labelHeadOrNil (flattenAll bs) :=
  flattenAll_labelHead bs fun c hc => by
    cases bs with
    | nil => cases hc
    | cons c' cs =>
      cases hc
      simp only [continueOk, Bool.and_eq_true, decide_eq_true_eq] at h
      exact h.1 (by simp [ht])

theorem readBlock_flattenAll (b : Block X L C) (bs : List (Block X L C)) (hne : b.nonEmpty = true)
    (hc : continueOk (b :: bs) = true) : readBlock (flattenAll (b :: bs)) = (b.shape, flattenAll bs) :=
  readBlock_flatten b (flattenAll bs) hne (continueOk_head hc)

theorem shapes_unique (bs bs' : List (Block X L C))
    (hne : bs.all Block.nonEmpty = true) (hne' : bs'.all Block.nonEmpty = true)
    (hc : continueOk bs = true) (hc' : continueOk bs' = true)
    (hf : flattenAll bs = flattenAll bs') :
    bs.map Block.shape = bs'.map Block.shape := by
  induction bs generalizing bs' with
  | nil =>
    cases bs' with
    | nil => rfl
    | cons b' bs' =>
      rw [List.all_cons, Bool.and_eq_true] at hne'
      exact absurd (List.append_eq_nil_iff.1 hf.symm).1 (flatten_ne_nil b' hne'.1)
  | cons b bs ih =>
    rw [List.all_cons, Bool.and_eq_true] at hne
    cases bs' with
    | nil => exact absurd (List.append_eq_nil_iff.1 hf).1 (flatten_ne_nil b hne.1)
    | cons b' bs' =>
      rw [List.all_cons, Bool.and_eq_true] at hne'
      -- both heads are what the reader returns on the common written form
      have e := readBlock_flattenAll b bs hne.1 hc
      rw [hf, readBlock_flattenAll b' bs' hne'.1 hc'] at e
      obtain ⟨hshape, hrest⟩ := Prod.mk.inj e
      rw [List.map_cons, List.map_cons, ← hshape,
        ih bs' hne.2 hne'.2 (continueOk_tail hc) (continueOk_tail hc') hrest.symm]

theorem eq_of_shapes_offsets (n : Nat) (bs bs' : List (Block X L C))
    (hs : bs.map Block.shape = bs'.map Block.shape)
    (ho : offsetsOk n bs = true) (ho' : offsetsOk n bs' = true) : bs = bs' := by
  induction bs generalizing n bs' with
  | nil => cases bs' <;> simp_all
  | cons b bs ih =>
    cases bs' with
    | nil => simp at hs
    | cons b' bs' =>
      simp only [List.map_cons, List.cons.injEq] at hs
      simp only [offsetsOk, Bool.and_eq_true, beq_iff_eq] at ho ho'
      cases Block.eq_of_shape hs.1 (ho.1.trans ho'.1.symm)
      rw [ih (n + b.flatten.length) bs' hs.2 ho.2 ho'.2]

/-- **C28 (the specification is complete)**: any block list satisfying the specification's
clauses for `body` is exactly the builder's output, and the reported flag is the builder's. -/
theorem C28_spec_unique [DecidableEq X] [DecidableEq L] [DecidableEq C]
    (body : List (Ins X L C)) (bs : List (Block X L C)) (dyn : Bool)
    (h : specCheck body bs dyn = true) : bs = build body ∧ dyn = hasDynamic (build body) := by
  simp only [specCheck, Bool.and_eq_true, decide_eq_true_eq, beq_iff_eq] at h
  obtain ⟨⟨⟨⟨hflat, hoff⟩, hne⟩, hcont⟩, hdyn⟩ := h
  refine ⟨?_, ?_⟩
  · apply eq_of_shapes_offsets 0 _ _ _ hoff (C28_offsets body)
    apply shapes_unique _ _ hne (C28_nonEmpty body) hcont (C28_maximal body)
    rw [hflat, C28_partition]
  · rw [hdyn, C28_dynamic]

end QV.C28
