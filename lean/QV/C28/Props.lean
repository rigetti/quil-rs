import QV.C28.Lemmas
/-
C28 — The control-flow graph partitions the body and locates its blocks.
`good_build` holds all clauses of the specification for `build body` at once, from the closed form `build_eq`; the
clause theorems `C28_*` are its projections.  All statements quantify over every body (any length) over any payload,
label and condition types.
-/
namespace QV.C28
variable {X L C : Type}

theorem build_eq (body : List (Ins X L C)) : build body = blocksFrom none [] 0 body :=
  finish_foldl body St.init

theorem good_build (body : List (Ins X L C)) :
    Good 0 (build body) (body.filter keep) (body.any Ins.isConditional) :=
  build_eq body ▸ good_blocksFrom none [] 0 body

/-- the state after the whole loop, seen from the finished result: a consequence of `good_build`, not a step towards it -/
theorem inv_body (body : List (Ins X L C)) : Inv (body.foldl step St.init) body := fun rest => by
  rw [← finish_foldl, ← List.foldl_append]
  exact good_build (body ++ rest)

/-- **C28 (partition)**: writing the blocks in order — label, instructions, terminator —
reproduces the body exactly, minus the instructions the builder ignores (INCLUDE, DECLARE, definitions). -/
theorem C28_partition (body : List (Ins X L C)) :
    flattenAll (build body) = body.filter (fun i => !i.isSkip) :=
  (good_build body).flat

/-- **C28 (offsets)**: each block's offset is the number of elements written by the blocks before
it, i.e. the position of its first element (its label if it has one) in the (filtered) body. -/
theorem C28_offsets (body : List (Ins X L C)) : offsetsOk 0 (build body) = true :=
  (good_build body).offs

theorem offsetsOk_spec (n : Nat) (bs : List (Block X L C)) (h : offsetsOk n bs = true)
    (k : Nat) (hk : k < bs.length) : bs[k].offset = n + (flattenAll (bs.take k)).length := by
  induction bs generalizing n k with
  | nil => simp at hk
  | cons b bs ih =>
    simp only [offsetsOk, Bool.and_eq_true, beq_iff_eq] at h
    cases k with
    | zero => simp [h.1, flattenAll]
    | succ k =>
      have := ih (n + b.flatten.length) h.2 k (by simpa using hk)
      simp only [List.getElem_cons_succ, List.take_succ_cons, flattenAll, List.flatMap_cons,
        List.length_append] at this ⊢
      omega

theorem flattenAll_drop_take (bs : List (Block X L C)) (k : Nat) (hk : k < bs.length) :
    ((flattenAll bs).drop (flattenAll (bs.take k)).length).take bs[k].flatten.length = bs[k].flatten := by
  induction bs generalizing k with
  | nil => simp at hk
  | cons b bs ih =>
    cases k with
    | zero => simp [flattenAll]
    | succ k =>
      have := ih k (by simpa using hk)
      simp only [flattenAll, List.take_succ_cons, List.flatMap_cons, List.length_append,
        List.getElem_cons_succ] at this ⊢
      rw [List.drop_append]
      simpa [List.drop_eq_nil_of_le] using this

/-- **C28 (offset-based indexing)**: dropping `offset` elements of the body lands exactly on the
block's own elements: offset-based indices find the block's instructions in the program. -/
theorem C28_offset_finds (body : List (Ins X L C)) (k : Nat) (hk : k < (build body).length) :
    ((body.filter (fun i => !i.isSkip)).drop ((build body)[k].offset)).take ((build body)[k].flatten.length)
      = (build body)[k].flatten := by
  have hoff := offsetsOk_spec 0 (build body) (C28_offsets body) k hk
  rw [← C28_partition body, hoff, Nat.zero_add]
  exact flattenAll_drop_take (build body) k hk

/-- **C28 (dynamic control flow)**: reported iff the body has a conditional jump. -/
theorem C28_dynamic (body : List (Ins X L C)) :
    hasDynamic (build body) = body.any Ins.isConditional :=
  (good_build body).dyn

theorem C28_nonEmpty (body : List (Ins X L C)) : (build body).all Block.nonEmpty = true :=
  (good_build body).nonEmpty

/-- **C28 (blocks are maximal)**: a fall-through block is followed only by a labelled block. -/
theorem C28_maximal (body : List (Ins X L C)) : continueOk (build body) = true :=
  (good_build body).cont

/-- All clauses together, in the Bool form the driver evaluates on the implementation's output. -/
theorem C28_spec [DecidableEq X] [DecidableEq L] [DecidableEq C] (body : List (Ins X L C)) :
    specCheck body (build body) (hasDynamic (build body)) = true := by
  simp [specCheck, C28_partition, C28_offsets, C28_nonEmpty, C28_maximal, C28_dynamic]

/-- `X 0; LABEL @a; Y 0`: the block closed by the label has no label of its own, so the second block is at
offset 1 -/
example : (build [Ins.other 0, Ins.label "a", Ins.other 1] : List (Block Nat String String))
    = [⟨none, [0], 0, .continue⟩, ⟨some "a", [1], 1, .continue⟩] := by decide

example : (build [Ins.label "a", Ins.other 0, Ins.jumpWhen "a" "r", Ins.skip 9, Ins.halt, Ins.label "b"]
      : List (Block Nat String String))
    = [⟨some "a", [0], 0, .cond "a" "r" false⟩, ⟨none, [], 3, .halt⟩, ⟨some "b", [], 4, .continue⟩] := by
  decide

end QV.C28
