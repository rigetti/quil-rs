import QV.C16.Lemmas
/-! C16 — calibration lookup follows the documented precedence rules. -/
namespace QV.C16

/-- **C16 (match)**: `CalibrationIdentifier::matches` decides exactly the declarative matching relation:
same name, same modifiers, same parameter and qubit counts, every fixed calibration qubit equal to the
gate's (a variable one accepts any gate qubit but a placeholder, a placeholder none), every non-variable
calibration parameter equal (after simplification) to the gate's. -/
theorem matchesB_iff (c : Cal) (g : Gate) : matchesB c g = true ↔ GateMatches c g := by
  unfold matchesB GateMatches
  split
  · -- a header field differs
    rename_i h
    simp only [Bool.or_eq_true, bne_iff_ne, ne_eq] at h
    refine ⟨nofun, fun ⟨h1, h2, h3, h4, _⟩ => ?_⟩
    rcases h with ((h | h) | h) | h <;> contradiction
  · rename_i h
    simp only [Bool.or_eq_true, bne_iff_ne, ne_eq, not_or, Decidable.not_not] at h
    obtain ⟨⟨⟨h1, h2⟩, h3⟩, h4⟩ := h
    have hq := allZip_iff qubitMatch _ _ h4
    have hp := allZip_iff paramMatch _ _ h3
    simp only [qubitMatch_iff] at hq
    simp only [paramMatch_iff] at hp
    rw [← hq, ← hp]
    cases allZip qubitMatch c.qubits g.qubits <;> simp [h1, h2, h3, h4]

theorem gateMatchesB_iff (c : Cal) (g : Gate) : gateMatchesB c g = true ↔ GateMatches c g := by
  unfold gateMatchesB GateMatches
  simp only [Bool.and_eq_true, beq_iff_eq, and_assoc]
  rw [range_all_getElem? c.qubits _ (fun i cq => ∀ gq, g.qubits[i]? = some gq → QubitOk cq gq) fun i cq hc => by
      simp only [hc]; cases g.qubits[i]? <;> simp [qubitOkB_iff],
    range_all_getElem? c.params _ (fun i cp => ∀ gp, g.params[i]? = some gp → ParamOk cp gp) fun i cp hc => by
      simp only [hc]; cases g.params[i]? <;> simp [paramOkB_iff]]
  -- only the order of the binders differs
  exact ⟨fun ⟨h1, h2, h3, h4, hq, hp⟩ =>
      ⟨h1, h2, h3, h4, fun i cq gq hc => hq i cq hc gq, fun i cp gp hc => hp i cp hc gp⟩,
    fun ⟨h1, h2, h3, h4, hq, hp⟩ =>
      ⟨h1, h2, h3, h4, fun i cq hc gq => hq i cq gq hc, fun i cp hc gp => hp i cp gp hc⟩⟩

example : GateMatches ⟨"RX", [.dagger], [⟨0, .variable⟩], [.fixed 0, .variable "q"], 7⟩
    ⟨"RX", [.dagger], [⟨3, .other 1⟩], [.fixed 0, .fixed 5]⟩ := by
  rw [← matchesB_iff]; decide

/-- loop invariant of `get_match_for_gate`: the accumulator is the answer for the calibrations seen so far, together
with the winner's number of fixed qubits -/
private theorem gateLoop_inv (g : Gate) (rest pre : List Cal) (acc : Option (Nat × Nat))
    (h : LookupSpec (GateMatches · g) nFixed pre (acc.map (·.1)))
    (hk : ∀ i k, acc = some (i, k) → ∃ c, pre[i]? = some c ∧ k = nFixed c) :
    LookupSpec (GateMatches · g) nFixed (pre ++ rest) ((gateLoop g rest pre.length acc).map (·.1)) := by
  induction rest generalizing pre acc with
  | nil => simpa [gateLoop] using h
  | cons c cs ih =>
    have e : pre ++ c :: cs = (pre ++ [c]) ++ cs := by simp
    have l : pre.length + 1 = (pre ++ [c]).length := by simp
    have last : (pre ++ [c])[pre.length]? = some c := by simp
    rw [gateLoop, e, l]
    by_cases hm : matchesB c g = true
    · have hc := (matchesB_iff c g).mp hm
      rw [if_pos hm]
      match acc, h, hk with
      | none, h, _ =>
        exact ih _ _ (h.snoc_new hc nofun) fun i k hik => by cases hik; exact ⟨c, last, fixedCount_eq_nFixed c⟩
      | some (j, k), h, hk =>
        obtain ⟨w, hw, rfl⟩ := hk j k rfl
        simp only [gateStep, fixedCount_eq_nFixed]
        split
        · -- at least as many fixed qubits as the best so far: it wins, being later
          rename_i hge
          refine ih _ _ (h.snoc_new hc fun i w' hi hw' => ?_) fun i k hik => by cases hik; exact ⟨c, last, rfl⟩
          cases hi; cases hw.symm.trans hw'; exact hge
        · rename_i hlt
          exact ih _ _ (h.snoc_keep c fun _ => ⟨j, w, rfl, hw, by omega⟩) fun i k hik => by
            cases hik; exact ⟨w, getElem?_snoc_of_some hw c, rfl⟩
    · rw [if_neg hm]
      exact ih _ _ (h.snoc_keep c fun hc => absurd ((matchesB_iff c g).mpr hc) hm) fun i k hik => by
        obtain ⟨w, hw, hk'⟩ := hk i k hik
        exact ⟨w, getElem?_snoc_of_some hw c, hk'⟩

theorem gateLookupSpec_eq (cs : List Cal) (g : Gate) (o : Option Nat) :
    GateLookupSpec cs g o ↔ LookupSpec (GateMatches · g) nFixed cs o := by cases o <;> exact Iff.rfl

/-- **C16 (gate lookup)**: for every calibration list and every gate, `get_match_for_gate` returns the
position singled out by the declarative rule — a matching definition such that every other matching
definition has strictly fewer fixed qubits, or equally many and an earlier-or-equal position — and
returns nothing exactly when no definition matches. -/
theorem getMatchForGate_spec (cs : List Cal) (g : Gate) :
    GateLookupSpec cs g (getMatchForGate cs g) :=
  (gateLookupSpec_eq cs g _).mpr
    (by simpa [getMatchForGate] using gateLoop_inv g cs [] none .nil nofun)

theorem gateWinner_unique (cs : List Cal) (g : Gate) (i j : Nat)
    (hi : IsGateWinner cs g i) (hj : IsGateWinner cs g j) : i = j :=
  IsWinner.unique (M := (GateMatches · g)) (r := nFixed) hi hj

/-- **C16 (gate lookup, as an equivalence)**: an answer satisfies the specification iff it is the one
`get_match_for_gate` returns. -/
theorem getMatchForGate_iff (cs : List Cal) (g : Gate) (o : Option Nat) :
    GateLookupSpec cs g o ↔ getMatchForGate cs g = o :=
  (gateLookupSpec_eq cs g o).trans (((gateLookupSpec_eq cs g _).mp (getMatchForGate_spec cs g)).iff_eq o)

theorem getMatchForGate_none_iff (cs : List Cal) (g : Gate) :
    getMatchForGate cs g = none ↔ ∀ c ∈ cs, ¬ GateMatches c g :=
  (getMatchForGate_iff cs g none).symm.trans ((gateLookupSpec_eq cs g none).trans lookupSpec_none_iff)

/-- the Bool checker evaluated by the driver on the implementation's answer is the specification -/
theorem gateLookupSpecB_iff (cs : List Cal) (g : Gate) (o : Option Nat) :
    gateLookupSpecB cs g o = true ↔ GateLookupSpec cs g o := by
  cases o with
  | none =>
    exact range_all_getElem? cs _ (fun _ d => ¬ GateMatches d g) fun j d hj => by
      simp only [hj, Bool.not_eq_true', ← Bool.not_eq_true, gateMatchesB_iff]
  | some i =>
    simp only [gateLookupSpecB, GateLookupSpec, IsGateWinner]
    cases hc : cs[i]? with
    | none => simp
    | some c =>
      rw [Bool.and_eq_true, gateMatchesB_iff, range_all_getElem? cs _
        (fun j d => GateMatches d g → nFixed d < nFixed c ∨ (nFixed d = nFixed c ∧ j ≤ i)) fun j d hj => by
          simp only [hj]; rw [← gateMatchesB_iff]; cases gateMatchesB d g <;> simp]
      exact ⟨fun ⟨hm, h⟩ => ⟨c, rfl, hm, h⟩, fun ⟨c', hc', hm, h⟩ => by cases hc'; exact ⟨hm, h⟩⟩

/-- non-vacuity: three matching definitions `RX(%t) q`, `RX(%t) 0`, `RX(pi/2) 0` and a non-matching one;
the later of the two definitions with one fixed qubit wins -/
example : getMatchForGate
    [⟨"RX", [], [⟨0, .variable⟩], [.variable "q"], 0⟩,
     ⟨"RX", [], [⟨0, .variable⟩], [.fixed 0], 1⟩,
     ⟨"RX", [], [⟨1, .other 0⟩], [.fixed 0], 2⟩,
     ⟨"RX", [], [⟨2, .other 1⟩], [.fixed 0], 3⟩]
    ⟨"RX", [], [⟨3, .other 0⟩], [.fixed 0]⟩ = some 2 := by decide

theorem measMatchesB_iff (c : MCal) (m : Meas) : measMatchesB c m = true ↔ MeasMatches c m := by
  unfold measMatchesB MeasMatches
  cases hq : c.qubit <;> simp [and_assoc]

theorem measLookupSpec_eq (cs : List MCal) (m : Meas) (o : Option Nat) :
    MeasLookupSpec cs m o ↔ LookupSpec (MeasMatches · m) exactRank cs o := by cases o <;> exact Iff.rfl

/-- **C16 (measurement lookup)**: for every list of measurement calibrations and every measurement,
`get_match_for_measurement` returns the position singled out by the rule "name and record/effect kind
agree; an exact fixed-qubit definition beats a variable one; among equals the later wins", and nothing
exactly when no definition matches. -/
theorem getMatchForMeasurement_spec (cs : List MCal) (m : Meas) :
    MeasLookupSpec cs m (getMatchForMeasurement cs m) := by
  have closed : getMatchForMeasurement cs m = (scanFirst m true cs.zipIdx.reverse).or (scanFirst m false cs.zipIdx.reverse) := by
    unfold getMatchForMeasurement
    simp only [measScan_eq, Option.none_or]
    cases scanFirst m true cs.zipIdx.reverse <;> rfl
  rw [measLookupSpec_eq, closed]
  -- definition by definition, in the order of the list: the scan's answer for `pre ++ [c]` from that for `pre`
  have byDefinition : ∀ r : List MCal, LookupSpec (MeasMatches · m) exactRank r.reverse
      ((scanFirst m true r.reverse.zipIdx.reverse).or (scanFirst m false r.reverse.zipIdx.reverse)) := by
    intro r
    induction r with
    | nil => exact .nil
    | cons c r ih =>
      rw [List.reverse_cons, scanFirst_snoc, scanFirst_snoc]
      generalize r.reverse = pre at ih ⊢
      rcases hcl : measClass m c with _ | _ | _
      · -- filtered out: it does not match
        simp only [reduceCtorEq, if_false]
        exact ih.snoc_keep c fun hc => by
          rcases Nat.le_one_iff_eq_zero_or_eq_one.mp (exactRank_le_one c) with h0 | h1
          · have := (measClass_iff m c false).mpr ⟨hc, by simpa using h0⟩; rw [hcl] at this; cases this
          · have := (measClass_iff m c true).mpr ⟨hc, by simpa using h1⟩; rw [hcl] at this; cases this
      · -- a variable qubit: it wins unless a fixed-qubit definition was seen
        obtain ⟨hc, hr⟩ := (measClass_iff m c false).mp hcl
        simp only [Option.some.injEq, Bool.false_eq_true, if_false, if_true]
        cases he : scanFirst m true pre.zipIdx.reverse with
        | some i =>
          rw [he, Option.some_or] at ih
          rw [Option.some_or]
          obtain ⟨w, hw, hwc⟩ := scanFirst_some he
          exact ih.snoc_keep c fun _ => ⟨i, w, rfl, hw, by rw [hr, ((measClass_iff m w true).mp hwc).2]; simp⟩
        | none =>
          rw [he, Option.none_or] at ih
          rw [Option.none_or]
          refine ih.snoc_new hc fun i w hi hw => ?_
          obtain ⟨w', hw', hwc⟩ := scanFirst_some hi
          cases hw.symm.trans hw'
          rw [hr, ((measClass_iff m w false).mp hwc).2]; simp
      · -- the measured fixed qubit: it wins, being later
        obtain ⟨hc, hr⟩ := (measClass_iff m c true).mp hcl
        simp only [if_true, Option.some_or]
        exact ih.snoc_new hc fun i w _ _ => by rw [hr]; exact exactRank_le_one w
  simpa using byDefinition cs.reverse

theorem measWinner_unique (cs : List MCal) (m : Meas) (i j : Nat)
    (hi : IsMeasWinner cs m i) (hj : IsMeasWinner cs m j) : i = j :=
  IsWinner.unique (M := (MeasMatches · m)) (r := exactRank) hi hj

/-- **C16 (measurement lookup, as an equivalence)** -/
theorem getMatchForMeasurement_iff (cs : List MCal) (m : Meas) (o : Option Nat) :
    MeasLookupSpec cs m o ↔ getMatchForMeasurement cs m = o :=
  (measLookupSpec_eq cs m o).trans
    (((measLookupSpec_eq cs m _).mp (getMatchForMeasurement_spec cs m)).iff_eq o)

theorem getMatchForMeasurement_none_iff (cs : List MCal) (m : Meas) :
    getMatchForMeasurement cs m = none ↔ ∀ c ∈ cs, ¬ MeasMatches c m :=
  (getMatchForMeasurement_iff cs m none).symm.trans ((measLookupSpec_eq cs m none).trans lookupSpec_none_iff)

theorem measLookupSpecB_iff (cs : List MCal) (m : Meas) (o : Option Nat) :
    measLookupSpecB cs m o = true ↔ MeasLookupSpec cs m o := by
  cases o with
  | none =>
    exact range_all_getElem? cs _ (fun _ d => ¬ MeasMatches d m) fun j d hj => by
      simp only [hj, Bool.not_eq_true', ← Bool.not_eq_true, measMatchesB_iff]
  | some i =>
    simp only [measLookupSpecB, MeasLookupSpec, IsMeasWinner]
    cases hc : cs[i]? with
    | none => simp
    | some c =>
      rw [Bool.and_eq_true, measMatchesB_iff, range_all_getElem? cs _
        (fun j d => MeasMatches d m → exactRank d < exactRank c ∨ (exactRank d = exactRank c ∧ j ≤ i))
        fun j d hj => by
          simp only [hj]; rw [← measMatchesB_iff]; cases measMatchesB d m <;> simp]
      exact ⟨fun ⟨hm, h⟩ => ⟨c, rfl, hm, h⟩, fun ⟨c', hc', hm, h⟩ => by cases hc'; exact ⟨hm, h⟩⟩

/-- non-vacuity (after the "Precedence-Fixed-Match" snapshot of the test-suite; the second `DEFCAL MEASURE 0` has its
target named `other`, so that it does not have the first one's signature): the later `DEFCAL MEASURE 0 …` wins over the
earlier one, over the variable-qubit definition that follows it, over the wrong-qubit one and over the
measure-for-effect one -/
example : getMatchForMeasurement
    [⟨none, .variable "q", none, 0⟩, ⟨none, .variable "b", some "addr", 1⟩,
     ⟨none, .fixed 0, some "addr", 2⟩, ⟨none, .fixed 0, some "other", 3⟩,
     ⟨none, .variable "q", some "addr", 4⟩, ⟨none, .fixed 1, some "addr", 5⟩]
    ⟨none, .fixed 0, some ("ro", 0)⟩ = some 3 := by decide

/-! Insertion into a `CalibrationSet`. `sig` is the signature function (`Cal.sig` / `MCal.sig`); the theorems
hold for any. -/

section Set
variable {α σ : Type} [DecidableEq σ] (sig : α → σ)

/-- **C16 (redefinition)**: when the set already holds a definition with `v`'s signature, `replace` stores
`v` at the position of the first such definition, returns the old one and changes nothing else (`List.set`). -/
theorem replace_in_place (cs : List α) (v : α) (h : ∃ c ∈ cs, sig c = sig v) :
    ∃ i old, cs[i]? = some old ∧ sig old = sig v ∧
      (∀ (j : Nat) d, j < i → cs[j]? = some d → sig d ≠ sig v) ∧
      replace sig cs v = (cs.set i v, some old) := by
  obtain ⟨i, hp⟩ := sigPos_of_mem sig h
  obtain ⟨old, ho, hs, hf⟩ := sigPos_some sig _ cs i hp
  exact ⟨i, old, ho, hs, hf, by simp [replace, hp, ho]⟩

theorem replace_append (cs : List α) (v : α) (h : ∀ c ∈ cs, sig c ≠ sig v) :
    replace sig cs v = (cs ++ [v], none) := by
  simp [replace, (sigPos_none_iff sig _ cs).mpr h]

theorem replace_eq_map (cs : List α) (v : α) (hnd : NoDupSig sig cs) (h : ∃ c ∈ cs, sig c = sig v) :
    (replace sig cs v).1 = cs.map (upd sig v) := by
  obtain ⟨i, hp⟩ := sigPos_of_mem sig h
  simp [replace, hp, set_eq_map_upd sig v cs i hnd hp]

/-- **C16 (redefinition, declaratively)**: on a duplicate-free set, `replace` satisfies the pointwise
insertion specification -/
theorem replace_insertSpec (cs : List α) (v : α) (hnd : NoDupSig sig cs) :
    InsertSpec sig cs v (replace sig cs v).1 := by
  constructor
  · intro h
    rw [replace_eq_map sig cs v hnd h]
    refine ⟨by simp, ?_⟩
    intro j c hj
    simp [hj, upd]
  · intro h; rw [replace_append sig cs v h]

theorem replace_noDupSig (cs : List α) (v : α) (hnd : NoDupSig sig cs) :
    NoDupSig sig (replace sig cs v).1 := by
  rw [noDupSig_iff] at hnd ⊢
  exact replace_eq_upsertBy sig cs v ▸ nodup_upsertBy sig v hnd

theorem remove_noDupSig (cs : List α) (s : σ) (hnd : NoDupSig sig cs) :
    NoDupSig sig (remove sig cs s).1 := by
  unfold remove
  cases sigPos sig s cs with
  | none => exact hnd
  | some i => exact List.Pairwise.sublist (List.eraseIdx_sublist cs i) hnd

theorem extend_noDupSig (cs vs : List α) (hnd : NoDupSig sig cs) :
    NoDupSig sig (extend sig cs vs) := by
  induction vs generalizing cs with
  | nil => exact hnd
  | cons v vs ih => exact ih _ (replace_noDupSig sig cs v hnd)

theorem run_noDupSig (cs : List α) (ops : List (Op α σ)) (hnd : NoDupSig sig cs) :
    NoDupSig sig (run sig cs ops) := by
  induction ops generalizing cs with
  | nil => exact hnd
  | cons o os ih =>
    apply ih
    cases o with
    | insert v => exact replace_noDupSig sig cs v hnd
    | remove s => exact remove_noDupSig sig cs s hnd
    | extend vs => exact extend_noDupSig sig cs vs hnd

/-- **C16 (invariant)**: whatever sequence of `insert` / `remove` / `extend` built a set from the empty set,
no two of its elements have the same signature -/
theorem history_noDupSig (ops : List (Op α σ)) : NoDupSig sig (run sig [] ops) :=
  run_noDupSig sig [] ops List.Pairwise.nil

theorem noDupSigB_iff (cs : List α) : noDupSigB sig cs = true ↔ NoDupSig sig cs := by
  simp [noDupSigB, NoDupSig]

theorem insertSpecB_iff [DecidableEq α] (cs : List α) (v : α) (res : List α) :
    insertSpecB sig cs v res = true ↔ InsertSpec sig cs v res := by
  unfold insertSpecB InsertSpec
  by_cases h : ∃ c ∈ cs, sig c = sig v
  · have hany : cs.any (fun c => decide (sig c = sig v)) = true := by simpa using h
    have hno : ¬ ∀ c ∈ cs, sig c ≠ sig v := fun q => h.elim fun c ⟨hc, hs⟩ => q c hc hs
    rw [if_pos hany, Bool.and_eq_true, beq_iff_eq, range_all_getElem? cs _
      (fun j c => res[j]? = some (if sig c = sig v then v else c)) fun j c hj => by
        simp only [hj]; cases res[j]? <;> simp]
    exact ⟨fun hh => ⟨fun _ => hh, fun q => absurd q hno⟩, fun hh => hh.1 h⟩
  · have h' : ∀ c ∈ cs, sig c ≠ sig v := fun c hc hs => h ⟨c, hc, hs⟩
    have hany : cs.any (fun c => decide (sig c = sig v)) = false := by
      simpa using h'
    simp [hany, h]
    exact Or.inl h'

end Set

private theorem allZip_paramMatch_congr (ps qs : List Param) (gs : List Param)
    (h : ps.map (·.simp) = qs.map (·.simp)) : allZip paramMatch ps gs = allZip paramMatch qs gs := by
  induction ps generalizing qs gs with
  | nil => cases qs with
    | nil => rfl
    | cons q qs => simp at h
  | cons p ps ih =>
    cases qs with
    | nil => simp at h
    | cons q qs =>
      simp only [List.map_cons, List.cons.injEq] at h
      cases gs with
      | nil => simp [allZip]
      | cons g gs =>
        simp only [allZip, ih qs gs h.2]
        congr 1
        simp [paramMatch, h.1]

private theorem gateLoop_map (g : Gate) (u : Cal → Cal) (cs : List Cal) (i : Nat) (acc : Option (Nat × Nat))
    (h : ∀ c ∈ cs, matchesB (u c) g = matchesB c g ∧ fixedCount (u c) = fixedCount c) :
    gateLoop g (cs.map u) i acc = gateLoop g cs i acc := by
  induction cs generalizing i acc with
  | nil => rfl
  | cons c cs ih =>
    have hc := h c (by simp)
    simp only [List.map_cons, gateLoop, hc.1]
    have e : gateStep acc i (u c) = gateStep acc i c := by
      cases acc with
      | none => simp [gateStep, hc.2]
      | some a => obtain ⟨j, k⟩ := a; simp [gateStep, hc.2]
    rw [e, ih _ _ (fun d hd => h d (by simp [hd])), ih _ _ (fun d hd => h d (by simp [hd]))]

/-- **C16 (redefinition does not disturb precedence)**: redefining a calibration whose signature is already
in the set leaves every gate lookup at the same position.  `hf`: the simplified class of a parameter is a
function of its raw class (simplification is deterministic). -/
theorem lookup_stable_under_redefinition (cs : List Cal) (v : Cal) (g : Gate)
    (hnd : NoDupSig Cal.sig cs) (hex : ∃ c ∈ cs, Cal.sig c = Cal.sig v)
    (f : Nat → SimpClass) (hf : ∀ c ∈ v :: cs, ∀ p ∈ c.params, p.simp = f p.raw) :
    getMatchForGate (replace Cal.sig cs v).1 g = getMatchForGate cs g := by
  rw [replace_eq_map Cal.sig cs v hnd hex]
  unfold getMatchForGate
  rw [gateLoop_map]
  intro c hc
  unfold upd
  by_cases hs : Cal.sig c = Cal.sig v
  · simp only [hs, if_true]
    simp only [Cal.sig, Prod.mk.injEq] at hs
    obtain ⟨hm, hn, hp, hq⟩ := hs
    have hsimp : ∀ d ∈ v :: cs, d.params.map (·.simp) = (d.params.map (·.raw)).map f := by
      intro d hd
      rw [List.map_map]
      apply List.map_congr_left
      intro p hp; exact hf d hd p hp
    have hps : v.params.map (·.simp) = c.params.map (·.simp) := by
      rw [hsimp v (by simp), hsimp c (by simp [hc]), hp]
    have hlen : v.params.length = c.params.length := by
      have := congrArg List.length hp; simpa using this.symm
    refine ⟨?_, by simp [fixedCount, hq]⟩
    unfold matchesB
    rw [hm, hn, hq, hlen, allZip_paramMatch_congr _ _ _ hps]
  · simp [hs]

/-- **C16 (redefinition does not disturb precedence)** for measurement calibrations; no assumption is needed: the
lookup reads only fields of the signature -/
theorem meas_lookup_stable_under_redefinition (cs : List MCal) (v : MCal) (m : Meas)
    (hnd : NoDupSig MCal.sig cs) (hex : ∃ c ∈ cs, MCal.sig c = MCal.sig v) :
    getMatchForMeasurement (replace MCal.sig cs v).1 m = getMatchForMeasurement cs m := by
  rw [replace_eq_map MCal.sig cs v hnd hex]
  have hcl : ∀ c, measClass m (upd MCal.sig v c) = measClass m c := by
    intro c
    unfold upd
    by_cases hs : MCal.sig c = MCal.sig v
    · simp only [hs, if_true]
      simp only [MCal.sig, Prod.mk.injEq] at hs
      obtain ⟨hn, hq, ht⟩ := hs
      simp [measClass, hn, hq, ht]
    · simp [hs]
  have hfi : ∀ b, scanFirst m b (cs.map (upd MCal.sig v)).zipIdx.reverse = scanFirst m b cs.zipIdx.reverse := by
    intro b
    unfold scanFirst
    rw [List.zipIdx_map, ← List.map_reverse, List.find?_map]
    simp only [Option.map_map]
    have : ((fun p : MCal × Nat => measClass m p.1 == some b) ∘ Prod.map (upd MCal.sig v) id)
        = (fun p : MCal × Nat => measClass m p.1 == some b) := by
      funext p; simp [hcl]
    rw [this]
    cases List.find? (fun p : MCal × Nat => measClass m p.1 == some b) cs.zipIdx.reverse <;> simp
  unfold getMatchForMeasurement
  simp only [measScan_eq, Option.none_or, hfi]

/-- the invariant for the two concrete sets of `Calibrations` (gate and measurement calibrations) -/
theorem calibrations_history (ops : List (Op Cal _)) (mops : List (Op MCal _)) :
    NoDupSig Cal.sig (run Cal.sig [] ops) ∧ NoDupSig MCal.sig (run MCal.sig [] mops) :=
  ⟨history_noDupSig _ ops, history_noDupSig _ mops⟩

theorem calibrations_insert (ops : List (Op Cal _)) (v : Cal) :
    InsertSpec Cal.sig (run Cal.sig [] ops) v (replace Cal.sig (run Cal.sig [] ops) v).1 :=
  replace_insertSpec _ _ v (history_noDupSig _ ops)

/-- non-vacuity: redefining `RX(%t) 0` (body 1 → body 9) keeps position 1 of 3 -/
example : (replace Cal.sig
    [⟨"RX", [], [⟨0, .variable⟩], [.variable "q"], 0⟩, ⟨"RX", [], [⟨0, .variable⟩], [.fixed 0], 1⟩,
     ⟨"RX", [], [⟨1, .other 0⟩], [.fixed 0], 2⟩]
    ⟨"RX", [], [⟨0, .variable⟩], [.fixed 0], 9⟩).1 =
    [⟨"RX", [], [⟨0, .variable⟩], [.variable "q"], 0⟩, ⟨"RX", [], [⟨0, .variable⟩], [.fixed 0], 9⟩,
     ⟨"RX", [], [⟨1, .other 0⟩], [.fixed 0], 2⟩] := by decide

end QV.C16
