import QV.C16.Spec
import QV.Shared.Upsert
/-!
Lemmas for C16.  The lookup rule is treated once, for a variable matching relation `M` and rank `r` (`IsWinner`,
`LookupSpec`; `IsGateWinner`/`GateLookupSpec` and `IsMeasWinner`/`MeasLookupSpec` of `Spec.lean` are the two instances), as
what appending one definition does to the answer; the reverse scan of `get_match_for_measurement` is put in closed form
(`scanFirst`); `CalibrationSet::replace` is `upsertBy` of `Shared/Upsert.lean` keyed by the signature.
-/
namespace QV.C16

theorem qubitMatch_iff (cq gq : Qubit) : qubitMatch cq gq = true ↔ QubitOk cq gq := by
  cases cq <;> cases gq <;> simp [qubitMatch, QubitOk] <;> exact eq_comm

theorem qubitOkB_iff (cq gq : Qubit) : qubitOkB cq gq = true ↔ QubitOk cq gq := by
  cases cq <;> cases gq <;> simp [qubitOkB, QubitOk]

theorem paramMatch_iff (cp gp : Param) : paramMatch cp gp = true ↔ ParamOk cp gp := by
  unfold paramMatch ParamOk
  cases h : cp.simp <;> simp

theorem paramOkB_iff (cp gp : Param) : paramOkB cp gp = true ↔ ParamOk cp gp := by
  simp [paramOkB, ParamOk]

theorem allZip_iff {α β : Type} (f : α → β → Bool) (xs : List α) (ys : List β)
    (h : xs.length = ys.length) :
    allZip f xs ys = true ↔ ∀ (i : Nat) a b, xs[i]? = some a → ys[i]? = some b → f a b = true := by
  induction xs generalizing ys with
  | nil => cases ys <;> simp [allZip]
  | cons x xs ih =>
    cases ys with
    | nil => simp at h
    | cons y ys =>
      simp only [List.length_cons, Nat.add_right_cancel_iff] at h
      simp only [allZip, Bool.and_eq_true, ih ys h]
      constructor
      · rintro ⟨h0, hr⟩ i a b ha hb
        cases i with
        | zero => simp at ha hb; subst ha hb; exact h0
        | succ i => simp at ha hb; exact hr i a b ha hb
      · intro hall
        refine ⟨hall 0 x y (by simp) (by simp), fun i a b ha hb => hall (i+1) a b (by simpa using ha) (by simpa using hb)⟩

theorem range_all_getElem? {α : Type} (cs : List α) (q : Nat → Bool) (P : Nat → α → Prop)
    (h : ∀ (j : Nat) d, cs[j]? = some d → (q j = true ↔ P j d)) :
    (List.range cs.length).all q = true ↔ ∀ (j : Nat) d, cs[j]? = some d → P j d := by
  simp only [List.all_eq_true, List.mem_range]
  exact ⟨fun hq j d hj => (h j d hj).mp (hq j (List.getElem?_eq_some_iff.mp hj).1),
    fun hp j hj => (h j _ (List.getElem?_eq_getElem hj)).mpr (hp j _ (List.getElem?_eq_getElem hj))⟩

theorem getElem?_snoc_cases {α : Type} {pre : List α} {c d : α} {j : Nat} (h : (pre ++ [c])[j]? = some d) :
    pre[j]? = some d ∨ (j = pre.length ∧ d = c) := by
  rcases Nat.lt_trichotomy j pre.length with hlt | rfl | hgt
  · exact .inl (by rwa [List.getElem?_append_left hlt] at h)
  · exact .inr ⟨rfl, by simpa using h.symm⟩
  · rw [List.getElem?_eq_none (by simp; omega)] at h; cases h

theorem getElem?_snoc_of_some {α : Type} {pre : List α} {w : α} {i : Nat} (h : pre[i]? = some w) (c : α) :
    (pre ++ [c])[i]? = some w := by
  rw [List.getElem?_append_left (List.getElem?_eq_some_iff.mp h).1]; exact h

theorem fixedCount_eq_nFixed (c : Cal) : fixedCount c = nFixed c := by
  unfold fixedCount nFixed
  rw [List.countP_eq_length_filter]
  congr 1

/-! The lookup rule, once for gates and for measurements:
`M c` = "`c` matches the query", `r c` = its rank (number of fixed qubits / exactness). -/
section Winner
variable {α : Type} (M : α → Prop) (r : α → Nat)

def IsWinner (cs : List α) (i : Nat) : Prop :=
  ∃ c, cs[i]? = some c ∧ M c ∧ ∀ (j : Nat) d, cs[j]? = some d → M d → r d < r c ∨ (r d = r c ∧ j ≤ i)

def LookupSpec (cs : List α) : Option Nat → Prop
  | some i => IsWinner M r cs i
  | none => ∀ (j : Nat) d, cs[j]? = some d → ¬ M d

variable {M r} {cs : List α}

theorem IsWinner.unique {i j : Nat} (hi : IsWinner M r cs i) (hj : IsWinner M r cs j) : i = j := by
  obtain ⟨c, hc, hmc, hbc⟩ := hi
  obtain ⟨d, hd, hmd, hbd⟩ := hj
  have h1 := hbc j d hd hmd
  have h2 := hbd i c hc hmc
  omega

theorem LookupSpec.nil : LookupSpec M r ([] : List α) none := fun j d hj => by simp at hj

/-- the rule has at most one answer -/
theorem LookupSpec.iff_eq {f : Option Nat} (hs : LookupSpec M r cs f) (o : Option Nat) :
    LookupSpec M r cs o ↔ f = o := by
  refine ⟨fun ho => ?_, fun h => h ▸ hs⟩
  match o, f, ho, hs with
  | some i, some j, ho, hs => rw [hs.unique ho]
  | none, none, _, _ => rfl
  | some i, none, ⟨c, hc, hmc, _⟩, hs => exact absurd hmc (hs i c hc)
  | none, some j, ho, ⟨c, hc, hmc, _⟩ => exact absurd hmc (ho j c hc)

theorem lookupSpec_none_iff : LookupSpec M r cs none ↔ ∀ c ∈ cs, ¬ M c :=
  ⟨fun h c hc => by obtain ⟨j, hj, rfl⟩ := List.getElem_of_mem hc; exact h j _ (List.getElem?_eq_getElem hj),
   fun h j d hj => h d (List.mem_of_getElem? hj)⟩

theorem LookupSpec.snoc_keep {pre : List α} {o : Option Nat} (h : LookupSpec M r pre o) (c : α)
    (hc : M c → ∃ i w, o = some i ∧ pre[i]? = some w ∧ r c < r w) : LookupSpec M r (pre ++ [c]) o := by
  match o, h with
  | none, h =>
    intro j d hj hd
    rcases getElem?_snoc_cases hj with hp | ⟨_, rfl⟩
    · exact h j d hp hd
    · obtain ⟨_, _, h0, _⟩ := hc hd; cases h0
  | some i, ⟨w, hw, hm, hbest⟩ =>
    refine ⟨w, getElem?_snoc_of_some hw c, hm, fun j d hj hd => ?_⟩
    rcases getElem?_snoc_cases hj with hp | ⟨_, rfl⟩
    · exact hbest j d hp hd
    · obtain ⟨_, w', h0, hw', hlt⟩ := hc hd
      cases h0
      cases hw.symm.trans hw'
      exact .inl hlt

theorem LookupSpec.snoc_new {pre : List α} {o : Option Nat} (h : LookupSpec M r pre o) {c : α} (hm : M c)
    (hr : ∀ i w, o = some i → pre[i]? = some w → r w ≤ r c) : LookupSpec M r (pre ++ [c]) (some pre.length) := by
  refine ⟨c, by simp, hm, fun j d hj hd => ?_⟩
  rcases getElem?_snoc_cases hj with hp | ⟨rfl, rfl⟩
  · have hj' := (List.getElem?_eq_some_iff.mp hp).1
    match o, h with
    | none, h => exact absurd hd (h j d hp)
    | some i, ⟨w, hw, _, hbest⟩ =>
      have := hbest j d hp hd
      have := hr i w rfl hw
      omega
  · exact .inr ⟨rfl, Nat.le_refl _⟩

end Winner

theorem measClass_iff (m : Meas) (c : MCal) (b : Bool) :
    measClass m c = some b ↔ MeasMatches c m ∧ exactRank c = (if b then 1 else 0) := by
  unfold measClass MeasMatches exactRank
  by_cases hh : c.name = m.name ∧ c.target.isSome = m.target.isSome
  · simp only [hh.1, hh.2, beq_self_eq_true, Bool.and_self, Bool.not_true, Bool.false_eq_true, if_false, true_and]
    cases c.qubit <;> cases b <;> simp
  · have hc : ¬ ((m.name == c.name && m.target.isSome == c.target.isSome) = true) := fun hc => by
      simp only [Bool.and_eq_true, beq_iff_eq] at hc
      exact hh ⟨hc.1.symm, hc.2.symm⟩
    rw [if_pos (by rw [Bool.eq_false_iff.mpr hc]; rfl)]
    exact ⟨nofun, fun ⟨⟨h1, h2, _⟩, _⟩ => (hh ⟨h1, h2⟩).elim⟩

/-- the index carried by the first pair of the scan whose definition is of class `b` for `m` (`true`: the measured
fixed qubit, `false`: a variable qubit): what `measScan` leaves in the corresponding accumulator (`measScan_eq`) -/
def scanFirst (m : Meas) (b : Bool) (l : List (MCal × Nat)) : Option Nat :=
  (l.find? (fun p => measClass m p.1 == some b)).map (·.2)

theorem measScan_eq (m : Meas) (l : List (MCal × Nat)) (ex wc : Option Nat) :
    measScan m l (ex, wc) = (ex.or (scanFirst m true l), wc.or (scanFirst m false l)) := by
  induction l generalizing ex wc with
  | nil => simp [measScan, scanFirst]
  | cons p l ih =>
    obtain ⟨c, i⟩ := p
    unfold measScan
    cases hc : measClass m c with
    | none => simp [ih, scanFirst, hc]
    | some b =>
      cases b <;> cases ex <;> cases wc <;> simp [ih, scanFirst, hc, firstExtend]

/-- the scan looks at the last definition first -/
theorem scanFirst_snoc (m : Meas) (b : Bool) (cs : List MCal) (c : MCal) :
    scanFirst m b (cs ++ [c]).zipIdx.reverse = if measClass m c = some b then some cs.length else scanFirst m b cs.zipIdx.reverse := by
  have e : (cs ++ [c]).zipIdx.reverse = (c, cs.length) :: cs.zipIdx.reverse := by simp [List.zipIdx_append]
  rw [e]
  by_cases hb : measClass m c = some b <;> simp [scanFirst, hb]

theorem scanFirst_some {m : Meas} {b : Bool} {cs : List MCal} {i : Nat} (h : scanFirst m b cs.zipIdx.reverse = some i) :
    ∃ w, cs[i]? = some w ∧ measClass m w = some b := by
  obtain ⟨⟨w, i'⟩, hf, rfl⟩ := Option.map_eq_some_iff.mp h
  exact ⟨w, List.mem_zipIdx_iff_getElem?.mp (List.mem_reverse.mp (List.mem_of_find?_eq_some hf)),
    by simpa using List.find?_some hf⟩

theorem exactRank_le_one (c : MCal) : exactRank c ≤ 1 := by unfold exactRank; split <;> omega

section Set
variable {α σ : Type} [DecidableEq σ] (sig : α → σ)

theorem sigPos_none_iff (s : σ) (cs : List α) : sigPos sig s cs = none ↔ ∀ c ∈ cs, sig c ≠ s := by
  induction cs with
  | nil => simp [sigPos]
  | cons c cs ih =>
    unfold sigPos
    by_cases h : sig c = s <;> simp [h, ih]

theorem sigPos_some (s : σ) (cs : List α) (i : Nat) (h : sigPos sig s cs = some i) :
    ∃ c, cs[i]? = some c ∧ sig c = s ∧ ∀ (j : Nat) d, j < i → cs[j]? = some d → sig d ≠ s := by
  induction cs generalizing i with
  | nil => simp [sigPos] at h
  | cons c cs ih =>
    unfold sigPos at h
    by_cases hc : sig c = s
    · simp [hc] at h; subst h
      exact ⟨c, by simp, hc, by intro j d hj; omega⟩
    · simp only [hc, if_false, Option.map_eq_some_iff] at h
      obtain ⟨k, hk, rfl⟩ := h
      obtain ⟨w, hw, hs, hfirst⟩ := ih k hk
      refine ⟨w, by simpa using hw, hs, ?_⟩
      intro j d hj hd
      cases j with
      | zero => simp at hd; subst hd; exact hc
      | succ j => exact hfirst j d (by omega) (by simpa using hd)

theorem sigPos_of_mem {s : σ} {cs : List α} (h : ∃ c ∈ cs, sig c = s) : ∃ i, sigPos sig s cs = some i := by
  cases hp : sigPos sig s cs with
  | some i => exact ⟨i, rfl⟩
  | none =>
    obtain ⟨c, hc, hs⟩ := h
    exact absurd hs ((sigPos_none_iff sig _ cs).mp hp c hc)

/-- `CalibrationSet::replace` is `IndexMap::insert` keyed by the signature -/
theorem replace_eq_upsertBy (cs : List α) (v : α) : (replace sig cs v).1 = upsertBy sig cs v := by
  induction cs with
  | nil => rfl
  | cons c cs ih =>
    unfold replace at ih ⊢
    by_cases h : sig c = sig v
    · simp [sigPos, upsertBy, h]
    · cases hp : sigPos sig (sig v) cs <;> simp [sigPos, upsertBy, h, hp] at ih ⊢ <;> exact ih

/-! `replace_mem` and `replace_sigs` are what C17's containers (`C17/Container.lean`) need of `replace`; `f` is the
constructor that wraps a container's signature into the program-wide key. -/

theorem replace_mem (cs : List α) (v : α) : v ∈ (replace sig cs v).1 :=
  replace_eq_upsertBy sig cs v ▸ mem_upsertBy_self sig cs v

theorem replace_sigs {β : Type} (f : σ → β) (cs : List α) (v : α) (x : β) :
    x ∈ (replace sig cs v).1.map (fun c => f (sig c)) ↔ f (sig v) = x ∨ x ∈ cs.map (fun c => f (sig c)) := by
  rw [replace_eq_upsertBy]; exact mem_map_keys_upsertBy sig f cs v x

/-- the pointwise update that an in-place replacement amounts to when no two signatures are equal (`set_eq_map_upd`) -/
def upd (v : α) (c : α) : α := if sig c = sig v then v else c

theorem set_eq_map_upd (v : α) (cs : List α) (i : Nat) (hnd : NoDupSig sig cs)
    (h : sigPos sig (sig v) cs = some i) : cs.set i v = cs.map (upd sig v) := by
  induction cs generalizing i with
  | nil => simp [sigPos] at h
  | cons c cs ih =>
    unfold NoDupSig at hnd
    rw [List.pairwise_cons] at hnd
    unfold sigPos at h
    by_cases hc : sig c = sig v
    · simp [hc] at h; subst h
      -- no other element has `v`'s signature, so `upd` leaves the tail alone
      have : cs.map (upd sig v) = cs := (List.map_congr_left fun d hd =>
        if_neg fun e => hnd.1 d hd (hc.trans e.symm)).trans (List.map_id cs)
      simp [upd, hc, this]
    · simp only [hc, if_false, Option.map_eq_some_iff] at h
      obtain ⟨k, hk, rfl⟩ := h
      simp [upd, hc, ih k hnd.2 hk]

theorem noDupSig_iff (cs : List α) : NoDupSig sig cs ↔ (cs.map sig).Nodup :=
  List.pairwise_map.symm

end Set
end QV.C16
