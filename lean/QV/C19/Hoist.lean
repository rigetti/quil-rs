import QV.C19.Expand
/-
Hoisting: `remove_target_index` (`retain`) against "the surviving leaf of rank `t` stops surviving" (`killAt`,
`retain_exact_at`), and from it the loop of `append_calibration_expansion_output_inner` for every calibration body
(`appendLoop_exact` on forests with survival flags, `appendOK_general`).
-/
namespace QV.C19
variable {L C : Type}

section Kill
variable {L' : Type}

def mapN (f : L → L') : List (Node L C) → List (Node L' C)
  | [] => []
  | .leaf l :: rest => .leaf (f l) :: mapN f rest
  | .exp l c body :: rest => .exp (f l) c (mapN f body) :: mapN f rest

/-- Make the surviving leaf of rank `t` (0-based, in order) not survive, by relabelling it with `kill`; used with
`hk : ∀ l, alive (kill l) = false`.  This is what hoisting does to a forest: when `add_instruction` keeps an
instruction out of the body after `t` instructions of the expansion have been pushed, that instruction is the surviving
leaf of rank `t` (the ones not yet reached count as surviving), and `remove_target_index(t)` (`retain t`) adjusts the
map.  Survival is a property of the label (`alive`), but which leaf is hoisted is a matter of position, so the loop is
followed on forests whose labels carry a survival flag (`L × Bool`, `alive = Prod.snd`, `kill` clears the flag): see
`appendLoop_exact`. -/
def killAt (alive : L → Bool) (kill : L → L) : List (Node L C) → Nat → List (Node L C)
  | [], _ => []
  | .leaf l :: rest, t =>
    if alive l then
      if t = 0 then .leaf (kill l) :: rest else .leaf l :: killAt alive kill rest (t - 1)
    else .leaf l :: killAt alive kill rest t
  | .exp l c body :: rest, t =>
    if t < (flat alive body).length then .exp l c (killAt alive kill body t) :: rest
    else .exp l c body :: killAt alive kill rest (t - (flat alive body).length)

/-- the same on a plain list of instructions: what `killAt` does to the `leaves` (`leaves_killAt`) -/
def killL (alive : L → Bool) (kill : L → L) : List L → Nat → List L
  | [], _ => []
  | l :: r, t =>
    if alive l then (if t = 0 then kill l :: r else l :: killL alive kill r (t - 1))
    else l :: killL alive kill r t

theorem flat_killAt (alive : L → Bool) (kill : L → L) (hk : ∀ l, alive (kill l) = false)
    (ns : List (Node L C)) (t : Nat) :
    flat alive (killAt alive kill ns t) = (flat alive ns).eraseIdx t := by
  fun_induction killAt alive kill ns t with
  | case1 => simp
  | case2 l rest ha => simp [flat_cons_leaf, ha, hk]
  | case3 l rest t ha ht ih =>
    obtain ⟨t', rfl⟩ : ∃ t', t = t' + 1 := ⟨t - 1, by omega⟩
    simp only [Nat.add_sub_cancel] at ih
    simp [flat_cons_leaf, ha, ih]
  | case4 l rest t ha ih => simp [flat_cons_leaf, ha, ih]
  | case5 l c body rest t ht ih =>
    rw [flat_cons_exp, flat_cons_exp, ih, List.eraseIdx_append_of_lt_length ht]
  | case6 l c body rest t ht ih =>
    rw [flat_cons_exp, flat_cons_exp, ih, List.eraseIdx_append_of_length_le (by omega)]

theorem killAt_ge (alive : L → Bool) (kill : L → L) (ns : List (Node L C)) (t : Nat)
    (h : (flat alive ns).length ≤ t) : killAt alive kill ns t = ns := by
  fun_induction killAt alive kill ns t with
  | case1 => rfl
  | case2 l rest ha => simp [flat_cons_leaf, ha] at h
  | case3 l rest t ha ht ih =>
    simp only [flat_cons_leaf, ha, if_true, List.singleton_append, List.length_cons] at h
    rw [ih (by omega)]
  | case4 l rest t ha ih =>
    simp only [flat_cons_leaf, ha, Bool.false_eq_true, if_false, List.nil_append] at h
    rw [ih h]
  | case5 l c body rest t ht ih =>
    simp only [flat_cons_exp, List.length_append] at h; omega
  | case6 l c body rest t ht ih =>
    simp only [flat_cons_exp, List.length_append] at h
    rw [ih (by omega)]

theorem killAt_cons_dead (alive : L → Bool) (kill : L → L) (n : Node L C) (rest : List (Node L C)) (t : Nat)
    (hn : flat alive [n] = []) : killAt alive kill (n :: rest) t = n :: killAt alive kill rest t := by
  cases n with
  | leaf l =>
    have ha : alive l = false := by
      cases h : alive l with
      | false => rfl
      | true => simp [flat_cons_leaf, h] at hn
    simp [killAt, ha]
  | exp l c body =>
    have hb : flat alive body = [] := by simpa using hn
    simp [killAt, hb]

theorem retain_unmod (t s u : Nat) (rest : List (Entry C)) :
    retain t (.unmod s u :: rest) = .unmod s u :: retain t rest := by simp [retain]

theorem retain_rew_before (t s : Nat) (c : C) (a b : Nat) (ns rest : List (Entry C)) (h : t < a) (hab : a ≤ b) :
    retain t (.rew s c a b ns :: rest) =
      if a < b then .rew s c (a - 1) (b - 1) ns :: retain t rest else retain t rest := by
  have n1 : ¬ a ≤ t := by omega
  have h3 : t < b := by omega
  by_cases hlt : a < b
  · have : a - 1 < b - 1 := by omega
    simp [retain, n1, h, h3, hlt, this]
  · have : ¬ a - 1 < b - 1 := by omega
    simp [retain, n1, h, h3, hlt, this]

theorem retain_rew_within (t s : Nat) (c : C) (a b : Nat) (ns rest : List (Entry C)) (h1 : a ≤ t) (h2 : t < b) :
    retain t (.rew s c a b ns :: rest) =
      if a < b - 1 then .rew s c a (b - 1) (retain (t - a) ns) :: retain t rest else retain t rest := by
  have h3 : ¬ t < a := by omega
  simp [retain, h1, h2, h3]

theorem retain_rew_after (t s : Nat) (c : C) (a b : Nat) (ns rest : List (Entry C)) (h : b ≤ t) (hab : a ≤ b) :
    retain t (.rew s c a b ns :: rest) =
      if a < b then .rew s c a b ns :: retain t rest else retain t rest := by
  have h3 : ¬ t < a := by omega
  have h4 : ¬ t < b := by omega
  simp [retain, h3, h4]

/-- **`remove_target_index` keeps every range exact** (the result is lax about `Unmodified`, which `retain` neither
drops nor shifts). The first half (`t` before the forest: everything shifts one down) is what the second needs for the
rest of a forest once the removed leaf has been found. In the second, `t` may lie behind the forest: `killAt` is then
the identity (`killAt_ge`), and `retain` still drops the entries of which nothing survives, which `Exact.skip` absorbs.
`t` and `u` are tied by an equation, not substituted: the nested call is at `t - off` with offset `0`, and `omega`
gets `t - off = 0 + u` from the equation. -/
theorem retain_exact_at (alive : L → Bool) (kill : L → L) (hk : ∀ l, alive (kill l) = false)
    {sH sN : Bool} {off k : Nat} {ns : List (Node L C)} {es : List (Entry C)}
    (h : Exact alive sH sN off k ns es) :
    (∀ t, t < off → Exact alive false false (off - 1) k ns (retain t es)) ∧
    (∀ t u, t = off + u → Exact alive false false off k (killAt alive kill ns u) (retain t es)) := by
  induction h with
  | nil => exact ⟨fun _ _ => by simpa [retain] using .nil, fun _ _ _ => by simpa [retain, killAt] using .nil⟩
  | @leaf sH sN off k l t0 rest es _ _ ih =>
    obtain ⟨ihA, ihB⟩ := ih
    have h1 := flat_leaf_length (C := C) alive l
    have h0 : (flat alive [(.leaf (kill l) : Node L C)]).length = 0 := by rw [flat_leaf_length, hk]; rfl
    simp only [retain_unmod, killAt]
    refine ⟨fun t ht => .leaf' nofun (ihA t (by omega)) (by omega), fun t u ht => ?_⟩
    cases ha : alive l <;> simp only [ha, Bool.false_eq_true, if_false, if_true] at h1 ⊢
    · exact .leaf' nofun (ihB t u (by omega)) rfl
    · split
      · exact .leaf' nofun (ihA t (by omega)) (by omega)
      · exact .leaf' nofun (ihB t (u - 1) (by omega)) rfl
  | @skip sH sN off k n rest es hn _ ih =>
    refine ⟨fun t ht => .skip hn (ih.1 t ht), fun t u ht => ?_⟩
    rw [killAt_cons_dead alive kill n rest _ hn]
    exact .skip hn (ih.2 t u ht)
  | @exp sH sN off k l c body ns0 rest es hb _ ih1 ih2 =>
    have hb := Exact.nonstrict hb
    have dead : ∀ b' : List (Node L C), (flat alive b').length = 0 →
        flat alive [(Node.exp l c b' : Node L C)] = [] := fun b' h0 => by
      simp [List.length_eq_zero_iff.mp h0]
    refine ⟨fun t ht => ?_, fun t u ht => ?_⟩
    · rw [retain_rew_before _ _ _ _ _ _ _ ht (by omega)]
      split
      · exact .exp' hb (ih2.1 t (by omega)) (by omega) (by omega)
      · exact .skip (dead _ (by omega)) ((ih2.1 t (by omega)).cast (by omega))
    · rw [killAt]
      split
      · -- the removed instruction lies within this expansion
        rename_i hw
        have hlen : (flat alive (killAt alive kill body u)).length = (flat alive body).length - 1 := by
          rw [flat_killAt alive kill hk, List.length_eraseIdx, if_pos hw]
        rw [retain_rew_within _ _ _ _ _ _ _ (by omega) (by omega)]
        split
        · exact .exp' (ih1.2 (t - off) u (by omega)) (ih2.1 t (by omega)) (by omega) (by omega)
        · exact .skip (dead _ (by omega)) ((ih2.1 t (by omega)).cast (by omega))
      · -- it lies behind this expansion
        rw [retain_rew_after _ _ _ _ _ _ _ (by omega) (by omega)]
        split
        · exact .exp hb (ih2.2 t (u - (flat alive body).length) (by omega))
        · exact .skip (dead _ (by omega)) ((ih2.2 t (u - (flat alive body).length) (by omega)).cast (by omega))

theorem retain_exact (alive : L → Bool) (kill : L → L) (hk : ∀ l, alive (kill l) = false)
    {sH sN : Bool} {k : Nat} {ns : List (Node L C)} {es : List (Entry C)}
    (h : Exact alive sH sN 0 k ns es) (t : Nat) :
    Exact alive false false 0 k (killAt alive kill ns t) (retain t es) :=
  (retain_exact_at alive kill hk h).2 t t (Nat.zero_add t).symm

theorem killL_append (alive : L → Bool) (kill : L → L) (x y : List L) (t : Nat) :
    killL alive kill (x ++ y) t =
      if t < (x.filter alive).length then killL alive kill x t ++ y
      else x ++ killL alive kill y (t - (x.filter alive).length) := by
  induction x generalizing t with
  | nil => simp
  | cons l r ih =>
    by_cases ha : alive l = true
    · by_cases h0 : t = 0
      · subst h0; simp [killL, ha]
      · obtain ⟨t', rfl⟩ : ∃ t', t = t' + 1 := ⟨t - 1, by omega⟩
        simp only [List.cons_append, killL, ha, if_true, Nat.add_eq_zero_iff, Nat.succ_ne_self, and_false,
          if_false, Nat.add_sub_cancel, List.filter_cons, List.length_cons, Nat.add_lt_add_iff_right, ih t']
        split <;> simp
    · have ha' : alive l = false := by simpa using ha
      simp only [List.cons_append, killL, ha', Bool.false_eq_true, if_false, List.filter_cons, ih t]
      split <;> simp

theorem leaves_killAt (alive : L → Bool) (kill : L → L) (ns : List (Node L C)) (t : Nat) :
    leaves (killAt alive kill ns t) = killL alive kill (leaves ns) t := by
  fun_induction killAt alive kill ns t with
  | case1 => simp [leaves, killL]
  | case2 l rest ha => simp [leaves_cons_leaf, killL, ha]
  | case3 l rest t ha ht ih => simp [leaves_cons_leaf, killL, ha, ht, ih]
  | case4 l rest t ha ih =>
    have ha' : alive l = false := by simpa using ha
    simp [leaves_cons_leaf, killL, ha', ih]
  | case5 l c body rest t ht ih =>
    rw [leaves_cons_exp, leaves_cons_exp, ih, killL_append, ← flat_eq_filter_leaves, if_pos ht]
  | case6 l c body rest t ht ih =>
    rw [leaves_cons_exp, leaves_cons_exp, ih, killL_append, ← flat_eq_filter_leaves, if_neg ht]

theorem flat_mapN (alive : L' → Bool) (f : L → L') (ns : List (Node L C)) :
    flat alive (mapN f ns) = (flat (fun l => alive (f l)) ns).map f := by
  fun_induction mapN f ns with
  | case1 => simp
  | case2 l rest ih => rw [flat_cons_leaf, flat_cons_leaf, ih]; split <;> simp
  | case3 l c body rest ih1 ih2 => rw [flat_cons_exp, flat_cons_exp, ih1, ih2, List.map_append]

theorem leaves_mapN (f : L → L') (ns : List (Node L C)) : leaves (mapN f ns) = (leaves ns).map f :=
  flat_mapN (fun _ => true) f ns

theorem mapN_inv (f : L → L') (g : L' → L) (hg : ∀ l, g (f l) = l) (ns : List (Node L C)) :
    mapN g (mapN f ns) = ns := by
  fun_induction mapN f ns with
  | case1 => simp [mapN]
  | case2 l rest ih => simp [mapN, hg, ih]
  | case3 l c body rest ih1 ih2 => simp [mapN, hg, ih1, ih2]

theorem mapN_killAt (alive : L → Bool) (kill : L → L) (g : L → L') (hg : ∀ l, g (kill l) = g l)
    (ns : List (Node L C)) (t : Nat) : mapN g (killAt alive kill ns t) = mapN g ns := by
  fun_induction killAt alive kill ns t with
  | case1 => simp [mapN]
  | case2 l rest ha => simp [mapN, hg]
  | case3 l rest t ha ht ih => simp [mapN, ih]
  | case4 l rest t ha ih => simp [mapN, ih]
  | case5 l c body rest t ht ih => simp [mapN, ih]
  | case6 l c body rest t ht ih => simp [mapN, ih]

theorem Exact.transfer (f : L → L') {alive : L → Bool} {alive' : L' → Bool} {sH sN : Bool} {off k : Nat}
    {ns : List (Node L C)} {es : List (Entry C)} (h : Exact alive sH sN off k ns es)
    (H : ∀ l ∈ leaves ns, alive' (f l) = alive l) : Exact alive' sH sN off k (mapN f ns) es := by
  have len : ∀ ns : List (Node L C), (∀ l ∈ leaves ns, alive' (f l) = alive l) →
      (flat alive' (mapN f ns)).length = (flat alive ns).length := fun ns H => by
    rw [flat_mapN, List.length_map, flat_congr _ alive ns H]
  induction h with
  | nil => simp only [mapN]; exact .nil
  | @leaf sH sN off k l t rest es hp _ ih =>
    simp only [mapN]
    have hl : alive' (f l) = alive l := H l (by simp [leaves_cons_leaf])
    exact .leaf' (fun hs => hl ▸ hp hs) (ih fun x hx => H x (by simp [leaves_cons_leaf, hx]))
      (by rw [flat_leaf_length, flat_leaf_length, hl])
  | @skip sH sN off k n rest es hn _ ih =>
    rw [leaves_cons] at H
    have h0 := len [n] fun x hx => H x (by simp [hx])
    rw [hn] at h0
    cases n <;> simp only [mapN] at h0 ⊢ <;>
      exact .skip (List.length_eq_zero_iff.mp h0) (ih fun x hx => H x (by simp [hx]))
  | @exp sH sN off k l c body ns0 rest es _ _ ih1 ih2 =>
    simp only [mapN]
    have hb : ∀ x ∈ leaves body, alive' (f x) = alive x := fun x hx => H x (by simp [leaves_cons_exp, hx])
    exact .exp' (ih1 hb) (ih2 fun x hx => H x (by simp [leaves_cons_exp, hx])) (by rw [len body hb]) rfl

/-- The loop of `append_calibration_expansion_output_inner` with hoisted instructions. The forest `M` carries a
survival flag on every leaf (`L × Bool`, alive = `Prod.snd`), so that hoisting the next instruction is `killAt`
clearing the flag of the surviving leaf of rank `n`; `mapN Prod.fst` forgets the flags. -/
theorem appendLoop_exact (h : L → Bool) (rest : List L) :
    ∀ (n : Nat) (d : Detail C) (M : List (Node (L × Bool) C)) (done : List (L × Bool)),
      leaves M = done ++ rest.map (fun l => (l, true)) →
      n = (done.filter Prod.snd).length →
      d.start = 0 → d.stop = n + rest.length →
      Exact Prod.snd false false 0 0 M d.entries →
      ∃ M' d', appendLoop h rest n d = (rest.filter (fun l => !h l), d') ∧
        Exact Prod.snd false false 0 0 M' d'.entries ∧
        leaves M' = done ++ rest.map (fun l => (l, !h l)) ∧ mapN Prod.fst M' = mapN Prod.fst M := by
  induction rest with
  | nil =>
    intro n d M done hL _ _ _ hE
    exact ⟨M, d, by simp [appendLoop], hE, by simpa using hL, rfl⟩
  | cons l r ih =>
    intro n d M done hL hn hs hstop hE
    by_cases hl : h l = true
    · -- hoisted: `remove_target_index(n)`
      let kill : L × Bool → L × Bool := fun x => (x.1, false)
      have hrem : d.remove n = { start := 0, stop := n + r.length, entries := retain n d.entries } := by
        simp [Detail.remove, hs, hstop]
      have hE1 := retain_exact Prod.snd kill (fun _ => rfl) hE n
      have hL1 : leaves (killAt Prod.snd kill M n) = (done ++ [(l, false)]) ++ r.map (fun l => (l, true)) := by
        rw [leaves_killAt, hL, killL_append, if_neg (by omega), hn]
        simp [killL, kill]
      obtain ⟨M', d', h1, h2, h3, h4⟩ := ih n (d.remove n) _ (done ++ [(l, false)]) hL1
        (by simp [List.filter_append, hn]) (by rw [hrem]) (by rw [hrem]) (by rw [hrem]; exact hE1)
      refine ⟨M', d', ?_, h2, ?_, ?_⟩
      · simp only [appendLoop, hl, if_true, List.filter_cons, Bool.not_true, Bool.false_eq_true, if_false]
        exact h1
      · rw [h3]; simp [hl]
      · rw [h4]
        exact mapN_killAt Prod.snd kill Prod.fst (fun _ => rfl) M n
    · have hl' : h l = false := by simpa using hl
      obtain ⟨M', d', h1, h2, h3, h4⟩ := ih (n + 1) d M (done ++ [(l, true)])
        (by rw [hL]; simp) (by simp [List.filter_append, hn]) hs
        (by rw [hstop]; simp only [List.length_cons]; omega) hE
      refine ⟨M', d', ?_, h2, ?_, h4⟩
      · simp only [appendLoop, hl', Bool.false_eq_true, if_false, List.filter_cons, Bool.not_false, if_true]
        rw [h1]
      · rw [h3]; simp [hl']

/-- Any body, hoisted leaves included; the price is `sN = false`: `retain` neither drops nor shifts the nested
`Unmodified` entries (the known finding). -/
theorem appendOK_general (h : L → Bool) (body : List (Node L C)) : AppendOK h false body := by
  have hE1 : Exact Prod.snd false false 0 0 (mapN (fun l => (l, true)) body) (expBody body 0 0).2 :=
    Exact.transfer _ (Exact.nonstrict (expBody_exact (fun _ => true) body 0 0 fun _ _ => rfl)) fun _ _ => rfl
  obtain ⟨M', d', h1, h2, h3, h4⟩ := appendLoop_exact h (leaves body) 0
    { start := 0, stop := (expBody body 0 0).1.length, entries := (expBody body 0 0).2 }
    (mapN (fun l => (l, true)) body) []
    (by rw [leaves_mapN]; simp) (by simp) rfl (by simp [expBody_fst]) hE1
  refine ⟨d', ?_, ?_⟩
  · rw [expBody_fst] at h1 ⊢
    rw [h1, flat_eq_filter_leaves]
  · have hm := Exact.transfer (alive' := fun l => !h l) Prod.fst h2 fun x hx => by
      rw [h3] at hx
      obtain ⟨l, _, rfl⟩ := List.mem_map.mp (by simpa using hx)
      rfl
    rwa [h4, mapN_inv (fun l : L => (l, true)) Prod.fst fun _ => rfl] at hm

end Kill

end QV.C19
