import QV.C19.Hoist
/-
C19 — The calibration source map exactly accounts for every expansion.

`WF` (`Spec.lean`) is the statement, `Exact` the positional characterisation of the ideal map. The map the code builds is
`Exact` in everything but the nested `Unmodified` entries (`C19_expand_map_exact_partial`); it is fully `Exact`, and so
`WF`, when nothing is hoisted (`C19_expand_map_wf`), and not `WF` in general (`C19_counterexample`).
-/
namespace QV.C19
variable {L C : Type}

theorem C19_wfB_iff [DecidableEq L] [DecidableEq C] (nodes : List (Node L C)) (out : List L)
    (es : List (Entry C)) : wfB nodes out es = true ↔ WF nodes out es := by
  rw [wf_iff, wfB, Bool.and_eq_true, localB_iff, entriesB_iff]

/-- **A positionally exact map is well formed** — whatever is hoisted: a map that is `Exact alive true true` for the
trees satisfies the statement w.r.t. the surviving output. -/
theorem C19_exact_wf {alive : L → Bool} {nodes : List (Node L C)} {es : List (Entry C)}
    (h : Exact alive true true 0 0 nodes es) : WF nodes (flat alive nodes) es := by
  -- level by level: a nested map is a smaller list of entries
  generalize hn : sizeOf es = n
  induction n using Nat.strongRecOn generalizing nodes es with
  | _ n ih =>
    subst hn
    obtain ⟨h1, h2, h3, h4, h6⟩ := Exact.top_level h
    refine .mk h1 h2 h3 (fun s c a b ns hm => ?_) (fun s c a b ns l body hm hnode => ?_) h6
    · obtain ⟨ha, hb, l, body, hnode, _⟩ := h4 s c a b ns hm
      exact ⟨ha, hb, l, body, hnode⟩
    · obtain ⟨_, _, l', body', hnode', hs, hE⟩ := h4 s c a b ns hm
      cases hnode.symm.trans hnode'
      rw [hs]
      refine ih _ ?_ hE rfl
      have := List.sizeOf_lt_of_mem hm
      simp only [Entry.rew.sizeOf_spec] at this
      omega

/-- **C19, full statement, for every expansion tree in which no produced instruction is hoisted**:
`expand_calibrations_with_source_map` does not crash, the expanded body is the leaves of the trees in order, and the
source map is well formed w.r.t. the source instructions and that body. -/
theorem C19_expand_map_wf (h : L → Bool) (nodes : List (Node L C))
    (H : ∀ l ∈ leaves nodes, h l = false) :
    ∃ m, expandProgram h nodes = .ok (leaves nodes) m ∧ WF nodes (leaves nodes) m := by
  obtain ⟨es, he, hE⟩ := expandFrom_exact h true nodes 0 [] []
    (fun l c b hm => appendOK_noHoist h b (fun x hx => H x (leaves_sub hm (by simp [leaves_cons_exp, hx]))))
    (fun l hm => H l (leaves_sub hm (by simp [leaves_cons_leaf])))
  have hf : flat (fun l => !h l) nodes = leaves nodes :=
    flat_all_alive _ _ (fun l hl => by simp [H l hl])
  refine ⟨es, by simpa [expandProgram, hf] using he, ?_⟩
  rw [← hf]
  exact C19_exact_wf hE

/-- **`Calibrations::expand_with_detail`** (the instruction-level entry point, before anything is hoisted):
for EVERY expansion tree the new instructions are the leaves in order, the range is `0..len`, and the
detail's entries are a well-formed map from the calibration body to them. -/
theorem C19_expand_with_detail_wf (l : L) (c : C) (body : List (Node L C)) :
    ∃ d, expandWithDetail (.exp l c body) = some (leaves body, d) ∧ d.start = 0 ∧
      d.stop = (leaves body).length ∧ WF body (leaves body) d.entries := by
  refine ⟨{ start := 0, stop := (leaves body).length, entries := (expBody body 0 0).2 },
    by simp only [expandWithDetail, expBody_fst], rfl, rfl, ?_⟩
  have h := C19_exact_wf (expBody_exact (fun _ : L => true) body 0 0 (fun _ _ => rfl))
  simpa [leaves] using h

/-- non-vacuity: a depth-3 tree without hoisting, evaluated -/
example :
    expandProgram (fun (_ : Nat) => false)
        [.leaf 7, .exp 1 10 [.leaf 2, .exp 3 11 [.exp 4 12 [.leaf 5, .leaf 6], .leaf 8], .leaf 9]]
      = .ok [7, 2, 5, 6, 8, 9]
          [.unmod 0 0, .rew 1 10 1 6 [.unmod 0 0, .rew 1 11 1 4 [.rew 0 12 0 2 [.unmod 0 0, .unmod 1 1], .unmod 1 2],
            .unmod 2 4]] := by
  simp [expandProgram, expandFrom, expBody, appendLoop]

/-- **C19, partial statement, for EVERY expansion tree** (hoisted instructions anywhere inside calibration
bodies, any depth): if the top-level unmatched instructions are not hoisted (a `Program` body never holds a
hoisted instruction), `expand_calibrations_with_source_map` does not crash, the expanded body is the
surviving leaves in order, and the map is positionally exact in everything but the nested `Unmodified`
entries: top-level `Unmodified` entries point at their instruction, every `Rewritten` range — at every
depth, after any number of `remove_target_index` calls — is exactly where the surviving output of its
instruction lies, relative to the parent range, and an instruction has no entry only if nothing of it
survives. (Excluded, and false of the code: the nested `Unmodified` entries, see `C19_counterexample`.) -/
theorem C19_expand_map_exact_partial (h : L → Bool) (nodes : List (Node L C))
    (hTop : ∀ l, Node.leaf l ∈ nodes → h l = false) :
    ∃ m, expandProgram h nodes = .ok (flat (fun l => !h l) nodes) m ∧
      Exact (fun l => !h l) true false 0 0 nodes m := by
  obtain ⟨es, he, hE⟩ := expandFrom_exact h false nodes 0 [] []
    (fun l c b _ => appendOK_general h b) hTop
  exact ⟨es, by simpa [expandProgram] using he, hE⟩

/-- What the partial statement gives in the vocabulary of the specification: every clause of `WF` at the top level,
the slice of a `Rewritten a..b` entry being exactly the surviving leaves of that calibration body. Only the recursive
clause is weakened (nested `Exact … false false` instead of nested `WF`). -/
theorem C19_partial_top_level {alive : L → Bool} {nodes : List (Node L C)} {m : List (Entry C)}
    (hE : Exact alive true false 0 0 nodes m) :
    m.Pairwise (fun x y => x.src < y.src) ∧ (∀ e ∈ m, e.src < nodes.length) ∧
    (∀ s t, Entry.unmod s t ∈ m → ∃ n, nodes[s]? = some n ∧ (flat alive nodes)[t]? = some n.root) ∧
    (∀ s c a b ns, Entry.rew s c a b ns ∈ m → a ≤ b ∧ b ≤ (flat alive nodes).length ∧
      ∃ l body, nodes[s]? = some (.exp l c body) ∧ slice (flat alive nodes) a b = flat alive body ∧
        Exact alive false false 0 0 body ns) ∧
    (∀ t, t < (flat alive nodes).length → hits m t = 1) := Exact.top_level hE

/-- **`remove_target_index` keeps every range exact** (the invariant behind the partial statement, and
the property the `fix:` commit 58e3276 established): removing surviving leaf number `t` from a forest
whose entries are range-exact leaves them range-exact for the forest without that leaf. -/
theorem C19_remove_target_index_exact (alive : L → Bool) (kill : L → L) (hk : ∀ l, alive (kill l) = false)
    {nodes : List (Node L C)} {es : List (Entry C)} (h : Exact alive false false 0 0 nodes es) (t : Nat) :
    Exact alive false false 0 0 (killAt alive kill nodes t) (retain t es) ∧
      flat alive (killAt alive kill nodes t) = (flat alive nodes).eraseIdx t :=
  ⟨retain_exact alive kill hk h t, flat_killAt alive kill hk nodes t⟩

/-- The driver's classifier for the known finding evaluates `exactB … true false` on the implementation's
map: it is sound for `Exact`. -/
theorem C19_exactB_sound [DecidableEq C] (alive : L → Bool) (sH sN : Bool) (nodes : List (Node L C))
    (es : List (Entry C)) (h : exactB alive sH sN 0 0 nodes es = true) : Exact alive sH sN 0 0 nodes es :=
  exactB_sound alive sH sN 0 0 nodes es h

/-- the known-finding witness: `DEFCAL X 0: DECLARE a BIT; NOP; Y 0`, `DEFCAL Y 0: DECLARE b BIT; WAIT`,
program `X 0`; instructions `≥ 100` are the hoisted ones (`DECLARE`) -/
def witness : List (Node Nat Nat) :=
  [.exp 1 10 [.leaf 100, .leaf 2, .exp 3 11 [.leaf 101, .leaf 4]]]

/-- non-vacuity of the partial statement: the known-finding witness satisfies it (all ranges exact) -/
example : Exact (fun l : Nat => !decide (100 ≤ l)) true false 0 0
    ([.exp 1 10 [.leaf 100, .leaf 2, .exp 3 11 [.leaf 101, .leaf 4]]] : List (Node Nat Nat))
    [.rew 0 10 0 2 [.unmod 0 0, .unmod 1 1, .rew 2 11 1 2 [.unmod 0 0, .unmod 1 1]]] := by
  obtain ⟨m, h1, h2⟩ := C19_expand_map_exact_partial (C := Nat) (fun l : Nat => decide (100 ≤ l)) witness
    (by simp [witness])
  simp [witness, expandProgram, expandFrom, expBody, appendLoop, Detail.remove, retain] at h1
  rw [h1.2]; exact h2

/-- For ANY map: `s` is listed as a source of target `t` iff some target location listed for `s` contains `t`. -/
theorem C19_list_inverse (m : List (Entry C)) (s t : Nat) :
    s ∈ listSources m t ↔ ∃ e ∈ listTargets m s, e.contains t = true := by
  simp only [listSources, listTargets, List.mem_map, List.mem_filter, beq_iff_eq]
  constructor
  · rintro ⟨e, ⟨he, hc⟩, rfl⟩; exact ⟨e, ⟨he, rfl⟩, hc⟩
  · rintro ⟨e, ⟨he, hs⟩, hc⟩; exact ⟨e, ⟨he, hc⟩, hs⟩

/-- From `WF`: every output position has exactly one source. -/
theorem C19_sources_unique {nodes : List (Node L C)} {out : List L} {m : List (Entry C)}
    (h : WF nodes out m) (t : Nat) (ht : t < out.length) : (listSources m t).length = 1 := by
  cases h with
  | mk _ _ _ _ _ h6 => simpa [listSources, hits] using h6 t ht

private theorem targets_unique_of_pairwise {m : List (Entry C)}
    (h1 : m.Pairwise (fun x y => x.src < y.src)) (s : Nat) : (listTargets m s).length ≤ 1 := by
  induction m with
  | nil => simp [listTargets]
  | cons e rest ih =>
    simp only [List.pairwise_cons] at h1
    have ih := ih h1.2
    simp only [listTargets, List.filter_cons] at ih ⊢
    split
    · rename_i he
      have : rest.filter (fun x => x.src == s) = [] := by
        simp only [List.filter_eq_nil_iff, beq_iff_eq]
        intro x hx hxs
        have := h1.1 x hx
        simp only [beq_iff_eq] at he
        omega
      simp [this]
    · exact ih

/-- From `WF`: a source instruction has at most one target location. -/
theorem C19_targets_unique {nodes : List (Node L C)} {out : List L} {m : List (Entry C)}
    (h : WF nodes out m) (s : Nat) : (listTargets m s).length ≤ 1 := by
  cases h with
  | mk h1 _ _ _ _ _ => exact targets_unique_of_pairwise h1 s

/-- From `WF`: nothing beyond the output is mapped. -/
theorem C19_sources_bounded {nodes : List (Node L C)} {out : List L} {m : List (Entry C)}
    (h : WF nodes out m) (t : Nat) (ht : out.length ≤ t) : listSources m t = [] := by
  cases h with
  | mk _ _ h3 h4 _ _ =>
    simp only [listSources, List.map_eq_nil_iff, List.filter_eq_nil_iff]
    intro e he hc
    cases e with
    | unmod s u =>
      obtain ⟨n, _, hn⟩ := h3 s u he
      simp only [Entry.contains, beq_iff_eq] at hc
      subst hc
      have := (List.getElem?_eq_some_iff.mp hn).1
      omega
    | rew s c a b ns =>
      obtain ⟨_, hb, _⟩ := h4 s c a b ns he
      simp only [Entry.contains, Bool.and_eq_true, decide_eq_true_eq] at hc
      omega

/-- FULL STATEMENT (false of the code): for every expansion tree whose top-level unmatched instructions
are not hoisted, `expandProgram h nodes = .ok out m` with `WF nodes out m`.
**Counterexample**: on the witness the model (= the code, see the corpus case of the harness) returns a
map that is not well formed: the nested entries are `Unmodified(0), Unmodified(1), Rewritten(1..2)` for an
output slice `[NOP, WAIT]` of length 2 — `Unmodified(0)` is the entry of the removed `DECLARE`, and
`Unmodified(1)` of `NOP` was not shifted. -/
theorem C19_counterexample :
    ∃ out m, expandProgram (fun l => decide (100 ≤ l)) witness = .ok out m ∧ ¬ WF witness out m := by
  refine ⟨[2, 4], [.rew 0 10 0 2 [.unmod 0 0, .unmod 1 1, .rew 2 11 1 2 [.unmod 0 0, .unmod 1 1]]],
    by simp [witness, expandProgram, expandFrom, expBody, appendLoop, Detail.remove, retain], fun hw => ?_⟩
  have := (C19_wfB_iff _ _ _).2 hw
  revert this
  simp [witness, wfB, entriesB, localB, hits, Entry.contains, Entry.src, slice, Node.root]

end QV.C19
