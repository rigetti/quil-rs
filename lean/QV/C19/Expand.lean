import QV.C19.Reading
/-
The run without hoisting: `expBody` produces the leaves and an exact map (`expBody_exact`), and the top-level loop
`expandFrom` is exact wherever the expansions it appends are (`AppendOK`, `expandFrom_exact`).
-/
namespace QV.C19
variable {L C : Type}

theorem expBody_fst (ns : List (Node L C)) (k off : Nat) : (expBody ns k off).1 = leaves ns := by
  fun_induction expBody ns k off with
  | case1 => simp [leaves]
  | case2 l rest k off r ih => simp [leaves_cons_leaf, r, ih]
  | case3 l c body rest k off b r ih1 ih2 =>
    rw [leaves_cons_exp]
    exact congr (congrArg _ ih1) ih2

theorem flat_all_alive (alive : L → Bool) (ns : List (Node L C)) (H : ∀ l ∈ leaves ns, alive l = true) :
    flat alive ns = leaves ns := by
  rw [flat_eq_filter_leaves]; exact List.filter_eq_self.2 H

theorem expBody_exact (alive : L → Bool) (ns : List (Node L C)) (k off : Nat)
    (H : ∀ l ∈ leaves ns, alive l = true) : Exact alive true true off k ns (expBody ns k off).2 := by
  fun_induction expBody ns k off with
  | case1 => exact .nil
  | case2 l rest k off r ih =>
    have hl : alive l = true := H l (by simp [leaves_cons_leaf])
    exact .leaf' (fun _ => ⟨hl, rfl⟩) (ih fun x hx => H x (by simp [leaves_cons_leaf, hx]))
      (by rw [flat_leaf_length, hl]; rfl)
  | case3 l c body rest k off b r ih1 ih2 =>
    have e : b.1.length = (flat alive body).length := by
      rw [flat_all_alive alive body (fun x hx => H x (by simp [leaves_cons_exp, hx]))]
      simp [b, expBody_fst]
    exact .exp' (ih1 fun x hx => H x (by simp [leaves_cons_exp, hx]))
      (ih2 fun x hx => H x (by simp [leaves_cons_exp, hx])) (by rw [e]) rfl

/-- what `append_calibration_expansion_output_inner`'s loop achieves for one calibration body: the pushed
instructions are the surviving leaves and the adjusted detail is exact (strictness `sN`) -/
def AppendOK (h : L → Bool) (sN : Bool) (body : List (Node L C)) : Prop :=
  ∃ d, appendLoop h (expBody body 0 0).1 0
      { start := 0, stop := (expBody body 0 0).1.length, entries := (expBody body 0 0).2 }
        = (flat (fun l => !h l) body, d) ∧
    Exact (fun l => !h l) sN sN 0 0 body d.entries

theorem appendLoop_noHoist (h : L → Bool) (is : List L) (n : Nat) (d : Detail C)
    (H : ∀ l ∈ is, h l = false) : appendLoop h is n d = (is, d) := by
  induction is generalizing n with
  | nil => simp [appendLoop]
  | cons l rest ih =>
    have hl := H l (by simp)
    simp [appendLoop, hl, ih (n + 1) (fun x hx => H x (by simp [hx]))]

theorem appendOK_noHoist (h : L → Bool) (body : List (Node L C)) (H : ∀ l ∈ leaves body, h l = false) :
    AppendOK h true body := by
  have H' : ∀ l ∈ leaves body, (fun l => !h l) l = true := fun l hl => by simp [H l hl]
  refine ⟨{ start := 0, stop := (expBody body 0 0).1.length, entries := (expBody body 0 0).2 }, ?_,
    expBody_exact (fun l => !h l) body 0 0 H'⟩
  rw [appendLoop_noHoist h _ _ _ (by rw [expBody_fst]; exact H), expBody_fst, flat_all_alive _ _ H']

/-- The loop of `expand_calibrations_inner` from any state. `sN` is the strictness the expansions achieve below the top
level (`AppendOK`): `true` without hoisting (`appendOK_noHoist`), `false` in general (`appendOK_general`). `hT` (no
top-level unmatched instruction is hoisted) is what rules out the `len() - 1` crash. -/
theorem expandFrom_exact (h : L → Bool) (sN : Bool) (nodes : List (Node L C)) (k : Nat) (body : List L)
    (map : List (Entry C))
    (hA : ∀ l c b, Node.exp l c b ∈ nodes → AppendOK h sN b)
    (hT : ∀ l, Node.leaf l ∈ nodes → h l = false) :
    ∃ es, expandFrom h nodes k body map = .ok (body ++ flat (fun l => !h l) nodes) (map ++ es) ∧
      Exact (fun l => !h l) true sN body.length k nodes es := by
  induction nodes generalizing k body map with
  | nil => exact ⟨[], by simp [expandFrom], .nil⟩
  | cons n rest ih =>
    have hA' : ∀ l c b, Node.exp l c b ∈ rest → AppendOK h sN b :=
      fun l c b hm => hA l c b (by simp [hm])
    have hT' : ∀ l, Node.leaf l ∈ rest → h l = false := fun l hm => hT l (by simp [hm])
    cases n with
    | leaf l =>
      have hl : h l = false := hT l (by simp)
      obtain ⟨es, he, hE⟩ := ih (k + 1) (body ++ [l]) (map ++ [.unmod k body.length]) hA' hT'
      refine ⟨.unmod k body.length :: es, ?_, ?_⟩
      · simp only [expandFrom, hl, Bool.false_eq_true, if_false, List.length_append, List.length_cons,
          List.length_nil, Nat.add_eq_zero_iff, Nat.succ_ne_self, and_false, Nat.add_sub_cancel]
        rw [he, flat_cons_leaf]
        simp [hl]
      · exact .leaf' (fun _ => ⟨by simp [hl], rfl⟩) hE (by simp [flat_leaf_length, hl])
    | exp l c b =>
      obtain ⟨d, hd, hE0⟩ := hA l c b (by simp)
      by_cases hne : (flat (fun l => !h l) b).length = 0
      · have hnil : flat (fun l => !h l) b = [] := List.length_eq_zero_iff.mp hne
        obtain ⟨es, he, hE⟩ := ih (k + 1) body map hA' hT'
        refine ⟨es, ?_, ?_⟩
        · simp only [expandFrom, hd, hnil, List.append_nil, Nat.lt_irrefl, if_false]
          rw [he]; simp [hnil]
        · exact .skip (by simp [hnil]) hE
      · obtain ⟨es, he, hE⟩ := ih (k + 1) (body ++ flat (fun l => !h l) b)
          (map ++ [.rew k c body.length (body.length + (flat (fun l => !h l) b).length) d.entries]) hA' hT'
        refine ⟨.rew k c body.length (body.length + (flat (fun l => !h l) b).length) d.entries :: es, ?_, ?_⟩
        · simp only [expandFrom, hd, List.length_append]
          rw [if_pos (by omega), he]
          simp
        · exact .exp' hE0 hE rfl List.length_append

end QV.C19
