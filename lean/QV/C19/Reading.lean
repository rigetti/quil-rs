import QV.C19.Spec
/-
Reading a source map: the Bool checker of `WF` against its clauses (`wf_iff`, `entriesB_iff`); algebra of `flat`,
`leaves`, `slice`, `hits`; what an `Exact` map says (`Exact.mem` locates an entry at its node, the readers
`Exact.src_bounds`, `Exact.pairwise`, `Exact.hits_eq`, `Exact.unmod`, `Exact.rew`, `Exact.top_level` follow; `Exact.mem` is
the only one that keeps the position of the entry's node, the others say what stands at the entry's target);
soundness of the checker `exactB`.
-/
namespace QV.C19
variable {L C : Type}

theorem localB_iff (nN nO : Nat) (es : List (Entry C)) :
    localB nN nO es = true ↔
      es.Pairwise (fun x y => x.src < y.src) ∧ (∀ e ∈ es, e.src < nN) ∧ (∀ t, t < nO → hits es t = 1) := by
  simp [localB, List.all_eq_true, and_assoc]

/-- clauses 2–4 of `WF` for one entry -/
def EntryOK (nodes : List (Node L C)) (out : List L) : Entry C → Prop
  | .unmod s t => ∃ n, nodes[s]? = some n ∧ out[t]? = some n.root
  | .rew s c a b ns =>
    a ≤ b ∧ b ≤ out.length ∧ ∃ l body, nodes[s]? = some (.exp l c body) ∧ WF body (slice out a b) ns

theorem wf_iff (nodes : List (Node L C)) (out : List L) (es : List (Entry C)) :
    WF nodes out es ↔
      (es.Pairwise (fun x y => x.src < y.src) ∧ (∀ e ∈ es, e.src < nodes.length) ∧
        (∀ t, t < out.length → hits es t = 1)) ∧ ∀ e ∈ es, EntryOK nodes out e := by
  constructor
  · rintro ⟨h1, h2, h3, h4, h5, h6⟩
    refine ⟨⟨h1, h2, h6⟩, fun e he => ?_⟩
    cases e with
    | unmod s t => exact h3 s t he
    | rew s c a b ns =>
      obtain ⟨ha, hb, l, body, hn⟩ := h4 s c a b ns he
      exact ⟨ha, hb, l, body, hn, h5 s c a b ns l body he hn⟩
  · rintro ⟨⟨h1, h2, h6⟩, h⟩
    refine .mk h1 h2 (fun s t hm => h _ hm) (fun s c a b ns hm => ?_) (fun s c a b ns l body hm hn => ?_) h6
    · obtain ⟨ha, hb, l, body, hn, _⟩ := h _ hm
      exact ⟨ha, hb, l, body, hn⟩
    · obtain ⟨_, _, l', body', hn', hw⟩ := h _ hm
      rw [hn] at hn'
      cases hn'
      exact hw

theorem entriesB_iff [DecidableEq L] [DecidableEq C] (nodes : List (Node L C)) (out : List L)
    (es : List (Entry C)) : entriesB nodes out es = true ↔ ∀ e ∈ es, EntryOK nodes out e := by
  fun_induction entriesB nodes out es with
  | case1 => simp
  | case2 nodes out s t rest ih =>
    rw [List.forall_mem_cons, ← ih, Bool.and_eq_true]
    refine and_congr ?_ Iff.rfl
    simp only [EntryOK]
    cases nodes[s]? <;> simp
  | case3 nodes out s c a b ns rest ih1 ih2 =>
    rw [List.forall_mem_cons, ← ih2, Bool.and_eq_true]
    refine and_congr ?_ Iff.rfl
    simp only [EntryOK]
    rcases hn : nodes[s]? with _ | n
    · simp
    · cases n with
      | leaf l => simp
      | exp l c' body =>
        have hw : WF body (slice out a b) ns ↔
            (localB body.length (slice out a b).length ns = true ∧
              entriesB body (slice out a b) ns = true) := by
          rw [wf_iff, localB_iff, ih1 body]
        simp only [Bool.and_eq_true, decide_eq_true_eq, Option.some.injEq, Node.exp.injEq]
        constructor
        · rintro ⟨⟨ha, hb⟩, ⟨hc, h1⟩, h2⟩
          exact ⟨ha, hb, l, body, ⟨rfl, hc, rfl⟩, hw.2 ⟨h1, h2⟩⟩
        · rintro ⟨ha, hb, l', body', ⟨rfl, rfl, rfl⟩, hwf⟩
          exact ⟨⟨ha, hb⟩, ⟨rfl, (hw.1 hwf).1⟩, (hw.1 hwf).2⟩

@[simp] theorem flat_nil (alive : L → Bool) : flat alive ([] : List (Node L C)) = [] := by simp [flat]

theorem flat_cons_leaf (alive : L → Bool) (l : L) (rest : List (Node L C)) :
    flat alive (.leaf l :: rest) = (if alive l then [l] else []) ++ flat alive rest := by
  simp only [flat]; split <;> simp

@[simp] theorem flat_cons_exp (alive : L → Bool) (l : L) (c : C) (body rest : List (Node L C)) :
    flat alive (.exp l c body :: rest) = flat alive body ++ flat alive rest := by simp [flat]

theorem flat_cons (alive : L → Bool) (n : Node L C) (rest : List (Node L C)) :
    flat alive (n :: rest) = flat alive [n] ++ flat alive rest := by
  cases n with
  | leaf l => simp [flat_cons_leaf]
  | exp l c body => simp

theorem flat_append (alive : L → Bool) (xs ys : List (Node L C)) :
    flat alive (xs ++ ys) = flat alive xs ++ flat alive ys := by
  induction xs with
  | nil => simp
  | cons n r ih => rw [List.cons_append, flat_cons, ih, flat_cons alive n r, List.append_assoc]

theorem flat_leaf_length (alive : L → Bool) (l : L) :
    (flat alive [(.leaf l : Node L C)]).length = if alive l then 1 else 0 := by
  rw [flat_cons_leaf]; split <;> simp

theorem flat_single_dead (alive : L → Bool) (l : L) (h : alive l = false) :
    flat alive [(Node.leaf l : Node L C)] = [] := by simp [flat_cons_leaf, h]

theorem slice_append_right (x ys : List L) (a b : Nat) (h : x.length ≤ a) :
    slice (x ++ ys) a b = slice ys (a - x.length) (b - x.length) := by
  unfold slice
  rw [List.drop_append, List.drop_eq_nil_of_le h, List.nil_append]
  congr 1; omega

theorem slice_append_left (x ys : List L) : slice (x ++ ys) 0 x.length = x := by
  simp [slice]

theorem hits_cons (e : Entry C) (es : List (Entry C)) (t : Nat) :
    hits (e :: es) t = (if e.contains t then 1 else 0) + hits es t := by
  simp only [hits, List.filter_cons]
  split <;> simp <;> omega

/-! `Exact`'s constructors fix the next offset and the end of a range syntactically (`off + (flat alive body).length`).
The three lemmas below take them as variables tied by an equation, so that a caller whose offset has another shape
(`body.length`, `off - 1`, …) hands the equation to `omega` instead of rewriting the goal. -/

theorem Exact.cast {alive : L → Bool} {sH sN : Bool} {off off' k : Nat} {ns : List (Node L C)} {es : List (Entry C)}
    (h : Exact alive sH sN off k ns es) (e : off = off') : Exact alive sH sN off' k ns es := e ▸ h

theorem Exact.leaf' {alive : L → Bool} {sH sN : Bool} {off off' k t : Nat} {l : L} {rest : List (Node L C)}
    {es : List (Entry C)} (hp : sH = true → alive l = true ∧ t = off)
    (hr : Exact alive sH sN off' (k + 1) rest es) (e : off' = off + (flat alive [(.leaf l : Node L C)]).length) :
    Exact alive sH sN off k (.leaf l :: rest) (.unmod k t :: es) := by
  subst e; exact .leaf hp hr

theorem Exact.exp' {alive : L → Bool} {sH sN : Bool} {off off' b k : Nat} {l : L} {c : C} {body rest : List (Node L C)}
    {ns es : List (Entry C)} (hb : Exact alive sN sN 0 0 body ns) (hr : Exact alive sH sN off' (k + 1) rest es)
    (eb : b = off + (flat alive body).length) (e : off' = b) :
    Exact alive sH sN off k (.exp l c body :: rest) (.rew k c off b ns :: es) := by
  subst e; subst eb; exact .exp hb hr

/-- the entry a node has in an exact map when its surviving output starts at `o` -/
def EntryAt (alive : L → Bool) (sH sN : Bool) (o : Nat) : Node L C → Entry C → Prop
  | .leaf l, .unmod _ t => sH = true → alive l = true ∧ t = o
  | .exp _ c body, .rew _ c' a b ns =>
    c' = c ∧ a = o ∧ b = o + (flat alive body).length ∧ Exact alive sN sN 0 0 body ns
  | _, _ => False

theorem Exact.mem {alive : L → Bool} {sH sN : Bool} {off k : Nat} {nodes : List (Node L C)}
    {es : List (Entry C)} (h : Exact alive sH sN off k nodes es) {e : Entry C} (he : e ∈ es) :
    ∃ pre n post, nodes = pre ++ n :: post ∧ e.src = k + pre.length ∧
      EntryAt alive sH sN (off + (flat alive pre).length) n e := by
  -- an entry of the rest is found one node further on, its output after this node's
  have tail : ∀ {sH sN off k} (n : Node L C) {rest : List (Node L C)},
      (∃ pre n' post, rest = pre ++ n' :: post ∧ e.src = k + 1 + pre.length ∧
        EntryAt alive sH sN (off + (flat alive [n]).length + (flat alive pre).length) n' e) →
      ∃ pre n' post, n :: rest = pre ++ n' :: post ∧ e.src = k + pre.length ∧
        EntryAt alive sH sN (off + (flat alive pre).length) n' e := by
    rintro sH sN off k n rest ⟨pre, n', post, rfl, hs, hE⟩
    refine ⟨n :: pre, n', post, rfl, by rw [hs, List.length_cons]; omega, ?_⟩
    rwa [flat_cons alive n pre, List.length_append, ← Nat.add_assoc]
  induction h with
  | nil => cases he
  | @leaf sH sN off k l t rest es hp _ ih =>
    rcases List.mem_cons.mp he with rfl | he
    · exact ⟨[], _, rest, rfl, rfl, fun hs => by simpa using hp hs⟩
    · exact tail _ (ih he)
  | @skip sH sN off k n rest es hn _ ih =>
    exact tail n (by rw [hn]; exact ih he)
  | @exp sH sN off k l c body ns rest es hb _ _ ih =>
    rcases List.mem_cons.mp he with rfl | he
    · exact ⟨[], _, rest, rfl, rfl, rfl, by simp, by simp, hb⟩
    · exact tail (.exp l c body) (by rw [flat_cons_exp, flat_nil, List.append_nil]; exact ih he)

theorem Exact.src_bounds {alive : L → Bool} {sH sN : Bool} {off k : Nat} {nodes : List (Node L C)}
    {es : List (Entry C)} (h : Exact alive sH sN off k nodes es) :
    ∀ e ∈ es, k ≤ e.src ∧ e.src < k + nodes.length := by
  intro e he
  obtain ⟨pre, n, post, rfl, hs, _⟩ := Exact.mem h he
  simp only [hs, List.length_append, List.length_cons]
  omega

theorem Exact.pairwise {alive : L → Bool} {sH sN : Bool} {off k : Nat} {nodes : List (Node L C)}
    {es : List (Entry C)} (h : Exact alive sH sN off k nodes es) :
    es.Pairwise (fun x y => x.src < y.src) := by
  induction h with
  | nil => simp
  | @leaf sH sN off k l t0 rest es _ h2 ih =>
    simp only [List.pairwise_cons]
    refine ⟨fun e he => ?_, ih⟩
    have := Exact.src_bounds h2 e he
    change k < e.src; omega
  | skip _ _ ih => exact ih
  | @exp sH sN off k l c body ns rest es _ h2 _ ih =>
    simp only [List.pairwise_cons]
    refine ⟨fun e he => ?_, ih⟩
    have := Exact.src_bounds h2 e he
    change k < e.src; omega

/-- `omega` takes an `if` as an atom; as two implications it can split on the condition -/
theorem indicator_spec (p : Prop) [Decidable p] :
    (p → (if p then 1 else 0 : Nat) = 1) ∧ (¬ p → (if p then 1 else 0 : Nat) = 0) :=
  ⟨fun h => if_pos h, fun h => if_neg h⟩

/-- The second half (no hit outside the forest's output) is what the induction needs: the head entry contributes the
indicator of its own range, which ends where the output of the rest begins, and the rest must not hit it. -/
theorem Exact.hits_eq {alive : L → Bool} {sH sN : Bool} {off k : Nat} {nodes : List (Node L C)}
    {es : List (Entry C)} (h : Exact alive sH sN off k nodes es) (hs : sH = true) (t : Nat) :
    (off ≤ t ∧ t < off + (flat alive nodes).length → hits es t = 1) ∧
    (¬ (off ≤ t ∧ t < off + (flat alive nodes).length) → hits es t = 0) := by
  induction h with
  | nil => exact ⟨fun h => by rw [flat_nil] at h; exact absurd h.2 (by simp; omega), fun _ => rfl⟩
  | @leaf sH sN off k l t0 rest es hp _ ih =>
    obtain ⟨ha, rfl⟩ := hp hs
    have h1 := flat_leaf_length (C := C) alive l
    simp only [ha, if_true] at h1
    have ih := ih hs
    have hd := indicator_spec (Entry.contains (C := C) (.unmod k t0) t = true)
    rw [hits_cons, flat_cons alive _ rest, List.length_append]
    simp only [Entry.contains, beq_iff_eq] at hd ⊢
    omega
  | @skip sH sN off k n rest es hn _ ih =>
    rw [flat_cons alive n rest, hn, List.nil_append]; exact ih hs
  | @exp sH sN off k l c body ns rest es _ _ _ ih =>
    have ih := ih hs
    have hd := indicator_spec (Entry.contains (.rew k c off (off + (flat alive body).length) ns) t = true)
    rw [hits_cons, flat_cons_exp, List.length_append]
    simp only [Entry.contains, Bool.and_eq_true, decide_eq_true_eq] at hd ⊢
    omega

theorem Exact.unmod {alive : L → Bool} {sH sN : Bool} {off k : Nat} {nodes : List (Node L C)}
    {es : List (Entry C)} (h : Exact alive sH sN off k nodes es) (hs : sH = true) {s t : Nat}
    (hm : Entry.unmod s t ∈ es) :
    k ≤ s ∧ off ≤ t ∧ ∃ l, nodes[s - k]? = some (.leaf l) ∧ (flat alive nodes)[t - off]? = some l := by
  obtain ⟨pre, n, post, rfl, rfl, h3⟩ := Exact.mem h hm
  cases n with
  | exp => exact h3.elim
  | leaf l =>
    obtain ⟨ha, rfl⟩ := h3 hs
    refine ⟨Nat.le_add_right .., Nat.le_add_right .., l, ?_, ?_⟩
    · rw [Nat.add_sub_cancel_left, List.getElem?_append_right (Nat.le_refl _), Nat.sub_self]; rfl
    · rw [Nat.add_sub_cancel_left, flat_append, flat_cons_leaf, ha, List.getElem?_append_right (Nat.le_refl _),
        Nat.sub_self]; rfl

theorem Exact.rew {alive : L → Bool} {sH sN : Bool} {off k : Nat} {nodes : List (Node L C)}
    {es : List (Entry C)} (h : Exact alive sH sN off k nodes es) {s : Nat} {c : C} {a b : Nat}
    {ns : List (Entry C)} (hm : Entry.rew s c a b ns ∈ es) :
    k ≤ s ∧ off ≤ a ∧ ∃ l body, nodes[s - k]? = some (.exp l c body) ∧ b = a + (flat alive body).length ∧
      b ≤ off + (flat alive nodes).length ∧
      slice (flat alive nodes) (a - off) (b - off) = flat alive body ∧ Exact alive sN sN 0 0 body ns := by
  obtain ⟨pre, n, post, rfl, rfl, h3⟩ := Exact.mem h hm
  cases n with
  | leaf => exact h3.elim
  | exp l c' body =>
    obtain ⟨rfl, rfl, rfl, h5⟩ := h3
    refine ⟨Nat.le_add_right .., Nat.le_add_right .., l, body, ?_, rfl, ?_, ?_, h5⟩
    · rw [Nat.add_sub_cancel_left, List.getElem?_append_right (Nat.le_refl _), Nat.sub_self]; rfl
    · rw [flat_append, flat_cons_exp, List.length_append, List.length_append]; omega
    · rw [flat_append, flat_cons_exp, Nat.add_sub_cancel_left, Nat.add_assoc, Nat.add_sub_cancel_left,
        slice_append_right _ _ _ _ (Nat.le_refl _), Nat.sub_self, Nat.add_sub_cancel_left, slice_append_left]

/-- what a map that is exact and strict at its top level says in the vocabulary of `WF`, whatever the strictness
below -/
theorem Exact.top_level {alive : L → Bool} {sN : Bool} {nodes : List (Node L C)} {m : List (Entry C)}
    (hE : Exact alive true sN 0 0 nodes m) :
    m.Pairwise (fun x y => x.src < y.src) ∧ (∀ e ∈ m, e.src < nodes.length) ∧
    (∀ s t, Entry.unmod s t ∈ m → ∃ n, nodes[s]? = some n ∧ (flat alive nodes)[t]? = some n.root) ∧
    (∀ s c a b ns, Entry.rew s c a b ns ∈ m → a ≤ b ∧ b ≤ (flat alive nodes).length ∧
      ∃ l body, nodes[s]? = some (.exp l c body) ∧ slice (flat alive nodes) a b = flat alive body ∧
        Exact alive sN sN 0 0 body ns) ∧
    (∀ t, t < (flat alive nodes).length → hits m t = 1) := by
  refine ⟨Exact.pairwise hE, fun e he => by have := Exact.src_bounds hE e he; omega, ?_, ?_, ?_⟩
  · intro s t hm
    obtain ⟨_, _, l, h3, h4⟩ := Exact.unmod hE rfl hm
    exact ⟨.leaf l, by simpa using h3, by simpa [Node.root] using h4⟩
  · intro s c a b ns hm
    obtain ⟨_, _, l, body, h3, h4, h5, h6, h7⟩ := Exact.rew hE hm
    exact ⟨by omega, by omega, l, body, by simpa using h3, by simpa using h6, h7⟩
  · exact fun t ht => (Exact.hits_eq hE rfl t).1 ⟨Nat.zero_le _, by omega⟩

theorem Exact.nonstrict {alive : L → Bool} {sH sN : Bool} {off k : Nat} {ns : List (Node L C)}
    {es : List (Entry C)} (h : Exact alive sH sN off k ns es) : Exact alive false false off k ns es := by
  induction h with
  | nil => exact .nil
  | leaf _ _ ih => exact .leaf (fun h => by cases h) ih
  | skip hn _ ih => exact .skip hn ih
  | exp _ _ ih1 ih2 => exact .exp ih1 ih2

theorem leaves_cons_leaf (l : L) (rest : List (Node L C)) : leaves (.leaf l :: rest) = l :: leaves rest := by
  simp [leaves, flat]

theorem leaves_cons_exp (l : L) (c : C) (body rest : List (Node L C)) :
    leaves (.exp l c body :: rest) = leaves body ++ leaves rest := by
  simp [leaves, flat]

@[simp] theorem leaves_nil : leaves ([] : List (Node L C)) = [] := by simp [leaves]

theorem leaves_cons (n : Node L C) (rest : List (Node L C)) : leaves (n :: rest) = leaves [n] ++ leaves rest :=
  flat_cons _ n rest

theorem leaves_sub {nodes : List (Node L C)} {n : Node L C} (hm : n ∈ nodes) {x : L}
    (hx : x ∈ leaves [n]) : x ∈ leaves nodes := by
  induction nodes with
  | nil => cases hm
  | cons n' rest ih =>
    rw [leaves_cons]
    rcases List.mem_cons.mp hm with rfl | hm
    · exact List.mem_append_left _ hx
    · exact List.mem_append_right _ (ih hm)

theorem flat_eq_filter_leaves (alive : L → Bool) (ns : List (Node L C)) :
    flat alive ns = (leaves ns).filter alive := by
  fun_induction flat alive ns with
  | case1 => simp [leaves]
  | case2 l rest ha ih => rw [leaves_cons_leaf, List.filter_cons, if_pos ha, ih]
  | case3 l rest ha ih => rw [leaves_cons_leaf, List.filter_cons, if_neg ha, ih]
  | case4 l c body rest ih1 ih2 => rw [leaves_cons_exp, List.filter_append, ih1, ih2]

theorem flat_congr (alive alive' : L → Bool) (ns : List (Node L C))
    (H : ∀ l ∈ leaves ns, alive l = alive' l) : flat alive ns = flat alive' ns := by
  rw [flat_eq_filter_leaves, flat_eq_filter_leaves]
  exact List.filter_congr H

theorem exactB_sound [DecidableEq C] (alive : L → Bool) (sH sN : Bool) (off k : Nat) (ns : List (Node L C))
    (es : List (Entry C)) (h : exactB alive sH sN off k ns es = true) : Exact alive sH sN off k ns es := by
  fun_induction exactB alive sH sN off k ns es with
  | case1 _ _ _ _ es =>
    have : es = [] := by simpa using h
    subst this; exact .nil
  | case2 sH sN off l rest s t es' ih =>
    simp only [Bool.and_eq_true, Bool.or_eq_true, Bool.not_eq_eq_eq_not, Bool.not_true, beq_iff_eq] at h
    refine .leaf (fun hs => ?_) (ih h.2)
    rcases h.1 with h1 | h1
    · rw [hs] at h1; cases h1
    · exact h1
  | case3 sH sN off k l rest s t es' hne ih =>
    simp only [Bool.and_eq_true, Bool.not_eq_eq_eq_not, Bool.not_true] at h
    exact .skip (flat_single_dead alive l h.1) (ih h.2)
  | case4 sH sN off k l rest es hne ih =>
    simp only [Bool.and_eq_true, Bool.not_eq_eq_eq_not, Bool.not_true] at h
    exact .skip (flat_single_dead alive l h.1) (ih h.2)
  | case5 sH sN off l c body rest s c' a b ns es' ih1 ih2 =>
    simp only [Bool.and_eq_true, decide_eq_true_eq, beq_iff_eq] at h
    obtain ⟨⟨⟨⟨rfl, rfl⟩, rfl⟩, h4⟩, h5⟩ := h
    exact .exp (ih1 h4) (ih2 h5)
  | case6 sH sN off k l c body rest s c' a b ns es' hne ih =>
    simp only [Bool.and_eq_true, List.isEmpty_iff] at h
    exact .skip h.1 (ih h.2)
  | case7 sH sN off k l c body rest es hne ih =>
    simp only [Bool.and_eq_true, List.isEmpty_iff] at h
    exact .skip h.1 (ih h.2)

end QV.C19
