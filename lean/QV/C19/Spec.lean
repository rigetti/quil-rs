import QV.C19.Model
/-
C19 — the property as a declarative `Prop` (`WF`) and a `Bool` checker (`wfB`), plus the positional
characterisation `Exact` (every range is exactly where the instruction's surviving output lies) used
for the partial statement about hoisted instructions.

Statement (properties.jsonl): "The source map from calibration expansion has at most one entry per
source body instruction, in source order. An unmodified entry points to an identical instruction in the
output, and rewritten ranges are contiguous, disjoint, and together with the unmodified entries cover
the output body exactly. Nested expansion records are relative to their parent range and consistent
with it, so querying sources of a target and targets of a source are inverse."

`WF nodes out es`: `nodes` are the expansion trees of the source instructions of this level (their
roots are the source instructions), `out` is the output of this level (the program body at top level,
the parent's slice below), `es` the entries.
-/
namespace QV.C19
variable {L C : Type}

/-- how many entries contain target index `t` -/
def hits (es : List (Entry C)) (t : Nat) : Nat := (es.filter (·.contains t)).length

/-- the part `[a, b)` of a list -/
def slice (out : List L) (a b : Nat) : List L := (out.drop a).take (b - a)

/-- **The specification.**
1. sources strictly increasing (so: in source order, at most one entry per source instruction), and
   they are indices of source instructions;
2. `Unmodified t`: `out[t]` exists and is identical to the source instruction;
3. `Rewritten a..b`: `a ≤ b ≤ |out|` (a contiguous part of the output), the source instruction is one that
   calibration `c` expanded;
4. nested: the nested entries are a well-formed map from the calibration body (the children of the source
   instruction) to the slice `out[a..b)`, with indices relative to `a` — recursively, so the leaves
   reconstruct exactly that slice;
5. every output position is contained in exactly one entry (ranges and unmodified targets are pairwise
   disjoint and cover `[0, |out|)`; by 2 and 3 they contain nothing else). -/
inductive WF : List (Node L C) → List L → List (Entry C) → Prop
  | mk {nodes : List (Node L C)} {out : List L} {es : List (Entry C)} :
      es.Pairwise (fun x y => x.src < y.src) →
      (∀ e ∈ es, e.src < nodes.length) →
      (∀ s t, Entry.unmod s t ∈ es → ∃ n, nodes[s]? = some n ∧ out[t]? = some n.root) →
      (∀ s c a b ns, Entry.rew s c a b ns ∈ es →
        a ≤ b ∧ b ≤ out.length ∧ ∃ l body, nodes[s]? = some (.exp l c body)) →
      (∀ s c a b ns l body, Entry.rew s c a b ns ∈ es → nodes[s]? = some (.exp l c body) →
        WF body (slice out a b) ns) →
      (∀ t, t < out.length → hits es t = 1) →
      WF nodes out es

/-! ### Bool checker -/

/-- clauses 1 and 5 -/
def localB (nNodes nOut : Nat) (es : List (Entry C)) : Bool :=
  decide (es.Pairwise (fun x y => x.src < y.src)) && es.all (fun e => e.src < nNodes) &&
    (List.range nOut).all (fun t => hits es t == 1)

/-- clauses 2, 3, 4 (4 recursively with all five clauses) -/
def entriesB [DecidableEq L] [DecidableEq C] (nodes : List (Node L C)) (out : List L) :
    List (Entry C) → Bool
  | [] => true
  | .unmod s t :: rest =>
    (match nodes[s]? with
      | some n => decide (out[t]? = some n.root)
      | none => false) && entriesB nodes out rest
  | .rew s c a b ns :: rest =>
    (decide (a ≤ b) && decide (b ≤ out.length) &&
      match nodes[s]? with
      | some (.exp _ c' body) =>
        decide (c' = c) && localB body.length (slice out a b).length ns && entriesB body (slice out a b) ns
      | _ => false) && entriesB nodes out rest

/-- **Bool checker for `WF`** (`wfB_iff` in Props). -/
def wfB [DecidableEq L] [DecidableEq C] (nodes : List (Node L C)) (out : List L) (es : List (Entry C)) : Bool :=
  localB nodes.length out.length es && entriesB nodes out es

/-! ### Positional characterisation -/

/-- The instructions an expansion tree contributes to the program body: its leaves, in order, without
those that are not `alive` (at the end of the expansion: `alive l = !hoisted l`). -/
def flat (alive : L → Bool) : List (Node L C) → List L
  | [] => []
  | .leaf l :: rest => if alive l then l :: flat alive rest else flat alive rest
  | .exp _ _ body :: rest => flat alive body ++ flat alive rest

/-- all leaves of the trees, in order (`new_instructions`) -/
def leaves (nodes : List (Node L C)) : List L := flat (fun _ => true) nodes

/-- `Exact alive sH sN off k nodes es`: `es` are entries for the source instructions `nodes` (numbered
from `k`), whose surviving output starts at `off`, such that
* an `exp` node has the entry `Rewritten off .. off + (number of its surviving leaves)`, nested entries
  exact relative to that range — or no entry, if nothing of it survives;
* a `leaf` has the entry `Unmodified t` — with `t = off` and the leaf alive if `sH` (strict at this level),
  with no condition otherwise — or no entry, if it is not alive;
`sN` is the strictness of all nested levels. `Exact alive true true` is the ideal source map. -/
inductive Exact (alive : L → Bool) : Bool → Bool → Nat → Nat → List (Node L C) → List (Entry C) → Prop
  | nil {sH sN off k} : Exact alive sH sN off k [] []
  | leaf {sH sN off k l t rest es} :
      (sH = true → alive l = true ∧ t = off) →
      Exact alive sH sN (off + (flat alive [(.leaf l : Node L C)]).length) (k + 1) rest es →
      Exact alive sH sN off k (.leaf l :: rest) (.unmod k t :: es)
  | skip {sH sN off k n rest es} :
      flat alive [n] = [] →
      Exact alive sH sN off (k + 1) rest es →
      Exact alive sH sN off k (n :: rest) es
  | exp {sH sN off k l c body ns rest es} :
      Exact alive sN sN 0 0 body ns →
      Exact alive sH sN (off + (flat alive body).length) (k + 1) rest es →
      Exact alive sH sN off k (.exp l c body :: rest) (.rew k c off (off + (flat alive body).length) ns :: es)

/-- Bool checker for `Exact` (sound: `exactB_sound` in Reading). Used by the driver to recognise the known
finding: "everything but the nested `Unmodified` entries is exact". -/
def exactB [DecidableEq C] (alive : L → Bool) : Bool → Bool → Nat → Nat → List (Node L C) → List (Entry C) → Bool
  | _, _, _, _, [], es => es.isEmpty
  | sH, sN, off, k, .leaf l :: rest, es =>
    match es with
    | .unmod s t :: es' =>
      if s = k then
        (!sH || (alive l && t == off)) &&
          exactB alive sH sN (off + (flat alive [(.leaf l : Node L C)]).length) (k + 1) rest es'
      else !alive l && exactB alive sH sN off (k + 1) rest es
    | _ => !alive l && exactB alive sH sN off (k + 1) rest es
  | sH, sN, off, k, .exp l c body :: rest, es =>
    match es with
    | .rew s c' a b ns :: es' =>
      if s = k then
        decide (c' = c) && a == off && b == off + (flat alive body).length &&
          exactB alive sN sN 0 0 body ns &&
          exactB alive sH sN (off + (flat alive body).length) (k + 1) rest es'
      else (flat alive [(.exp l c body : Node L C)]).isEmpty && exactB alive sH sN off (k + 1) rest es
    | _ => (flat alive [(.exp l c body : Node L C)]).isEmpty && exactB alive sH sN off (k + 1) rest es

/-- does some expanded calibration body contain (at any depth) a leaf that is not alive? -/
def deadInBody (alive : L → Bool) : List (Node L C) → Bool
  | [] => false
  | .leaf _ :: rest => deadInBody alive rest
  | .exp _ _ body :: rest =>
    decide ((flat alive body).length < (leaves body).length) || deadInBody alive rest

end QV.C19
