import QV.C32.Spec
import QV.Shared.Chk
/-
Core Lean only.  The sample-count layer: the model's rounding functions meet their specifications and are determined by
them (`isRoundHA_sandwich`, `isRoundHA_iff`; `IsCeil.le_iff`, `isCeil_iff`), `resolveCount` meets `CountSpec`, and the
Bool checkers are their Props.
-/
namespace QV.C32

theorem u32Max_le_usizeMax : u32Max ≤ (usizeMax : Int) := by decide

theorem mul_nat_cases (n : Int) (p : Nat) : n * p = 0 ∨ n * p ≤ -(p : Int) ∨ (p : Int) ≤ n * p := by
  have hpz : (0 : Int) ≤ (p : Int) := Int.natCast_nonneg p
  rcases Int.lt_trichotomy n 0 with h | rfl | h
  · have := Int.mul_le_mul_of_nonneg_right (show n ≤ -1 by omega) hpz
    rw [Int.neg_mul, Int.one_mul] at this; exact .inr (.inl this)
  · exact .inl (Int.zero_mul _)
  · have := Int.mul_le_mul_of_nonneg_right (show 1 ≤ n by omega) hpz
    rw [Int.one_mul] at this; exact .inr (.inr this)

/-- `IsRoundHA` as a sandwich: `m` lies in the interval of width `p` around `n·p` that is closed on the side away from
zero. -/
theorem isRoundHA_sandwich (m : Int) (p : Nat) (hp : 0 < p) (n : Int) :
    IsRoundHA m p n ↔
      (0 ≤ m → 2 * (n * p) - p ≤ 2 * m ∧ 2 * m < 2 * (n * p) + p) ∧
      (m < 0 → 2 * (n * p) - p < 2 * m ∧ 2 * m ≤ 2 * (n * p) + p) := by
  -- at a tie, `|m| < |n·p|` decides the side only because `n·p` is a multiple of `p`
  have := mul_nat_cases n p
  unfold IsRoundHA
  generalize n * (p : Int) = t at *
  omega

theorem roundHA_spec (m : Int) (p : Nat) (hp : 0 < p) : IsRoundHA m p (roundHA m p) := by
  rw [isRoundHA_sandwich m p hp]
  unfold roundHA
  have h1 := Nat.div_add_mod (2 * m.natAbs + p) (2 * p)
  have h2 := Nat.mod_lt (2 * m.natAbs + p) (show 0 < 2 * p by omega)
  generalize (2 * m.natAbs + p) / (2 * p) = q at *
  generalize (2 * m.natAbs + p) % (2 * p) = r at *
  have h3 : 2 * p * q = 2 * (q * p) := by rw [Nat.mul_comm 2 p, Nat.mul_assoc, Nat.mul_comm p, Nat.mul_assoc, Nat.mul_comm]
  have e : ((q : Int)) * (p : Int) = ((q * p : Nat) : Int) := by simp
  simp only []  -- reduces the `let` of `roundHA`
  split
  · rw [Int.neg_mul, e]; generalize q * p = t at *; omega
  · rw [e]; generalize q * p = t at *; omega

/-- two sandwiches around `n·p` and `n'·p` that both hold `m` overlap, so the two multiples are less than `p` apart -/
theorem isRoundHA_unique (m : Int) (p : Nat) (hp : 0 < p) (n n' : Int)
    (h : IsRoundHA m p n) (h' : IsRoundHA m p n') : n = n' := by
  rw [isRoundHA_sandwich m p hp] at h h'
  have := mul_nat_cases (n - n') p
  rw [Int.sub_mul] at this
  have e : n * p = n' * p := by
    generalize n * (p : Int) = t at *
    generalize n' * (p : Int) = t' at *
    omega
  exact Int.eq_of_mul_eq_mul_right (by omega) e

theorem isRoundHA_iff (m : Int) (p : Nat) (hp : 0 < p) (n : Int) : IsRoundHA m p n ↔ n = roundHA m p :=
  ⟨fun h => isRoundHA_unique m p hp _ _ h (roundHA_spec m p hp), fun h => h ▸ roundHA_spec m p hp⟩

theorem ceilDiv_spec (m : Int) (p : Nat) (hp : 0 < p) : IsCeil m p (ceilDiv m p) := by
  unfold IsCeil ceilDiv
  have hp' : (0 : Int) < (p : Int) := by omega
  have h1 := Int.emod_add_mul_ediv (-m) (p : Int)
  have h2 := Int.emod_nonneg (-m) (show (p : Int) ≠ 0 by omega)
  have h3 := Int.emod_lt_of_pos (-m) hp'
  generalize (-m) / (p : Int) = d at *
  generalize (-m) % (p : Int) = r at *
  have e1 : (-d - 1) * (p : Int) = -(d * p) - p := by
    rw [Int.sub_mul, Int.neg_mul, Int.one_mul]
  have e2 : (-d) * (p : Int) = -(d * p) := by rw [Int.neg_mul]
  rw [e1, e2]
  rw [Int.mul_comm] at h1
  generalize d * (p : Int) = t at *
  omega

theorem IsCeil.le_iff {m : Int} {p : Nat} {c : Int} (h : IsCeil m p c) (z : Int) : c ≤ z ↔ m ≤ z * p := by
  have hpz : (0 : Int) ≤ (p : Int) := Int.natCast_nonneg p
  constructor
  · intro hz
    exact Int.le_trans h.2 (Int.mul_le_mul_of_nonneg_right hz hpz)
  · intro hm
    apply Classical.byContradiction; intro hcn
    have := Int.mul_le_mul_of_nonneg_right (show z ≤ c - 1 by omega) hpz
    have := h.1
    omega

theorem isCeil_unique (m : Int) (p : Nat) (c c' : Int)
    (h : IsCeil m p c) (h' : IsCeil m p c') : c = c' :=
  Int.le_antisymm ((h.le_iff c').2 h'.2) ((h'.le_iff c).2 h.2)

theorem isCeil_iff (m : Int) (p : Nat) (hp : 0 < p) (c : Int) : IsCeil m p c ↔ c = ceilDiv m p :=
  ⟨fun h => isCeil_unique m p _ _ h (ceilDiv_spec m p hp), fun h => h ▸ ceilDiv_spec m p hp⟩

theorem den_pos (x : Dy) : 0 < x.den := Nat.pow_pos (by decide)

/-- the `let`s of `resolveCount` as hypotheses, for `resolveCount_spec` to `generalize` the product and its rounding -/
theorem resolveCount_eq (fmul : Dy → Dy → Dy) (d r : Dy) (x : Dy) (n : Int) (hx : fmul d r = x)
    (hn : roundHA x.m x.den = n) :
    resolveCount fmul d r =
      if n < 0 ∨ n ≥ u32Max then .error .outOfRange
      else if r.m < 0 then .error .misaligned
      else if (x.m - n * x.den).natAbs * 100 * r.m.natAbs ≥ x.den * r.den then .error .misaligned
      else .ok n.toNat := by
  subst hx; subst hn; rfl

theorem resolveCount_spec (fmul : Dy → Dy → Dy) (d r : Dy) :
    CountSpec (fmul d r) r (resolveCount fmul d r) := by
  have hr := roundHA_spec (fmul d r).m (fmul d r).den (den_pos _)
  rw [resolveCount_eq fmul d r (fmul d r) _ rfl rfl]
  generalize roundHA (fmul d r).m (fmul d r).den = n at *
  generalize fmul d r = x at *
  refine ⟨n, hr, ?_⟩
  by_cases h1 : n < 0 ∨ n ≥ u32Max
  · rw [if_pos h1]; simp only []; omega
  · rw [if_neg h1]
    by_cases h2 : r.m < 0
    · rw [if_pos h2]; simp only [Aligned]; omega
    · rw [if_neg h2]
      by_cases h3 : (x.m - n * x.den).natAbs * 100 * r.m.natAbs ≥ x.den * r.den
      · rw [if_pos h3]; simp only [Aligned]
        refine ⟨by omega, by omega, ?_⟩
        intro ⟨_, hlt⟩
        omega
      · rw [if_neg h3]; simp only [Aligned]
        refine ⟨by omega, by omega, by omega, ?_⟩
        omega

theorem isRoundHAB_iff (m : Int) (p : Nat) (n : Int) : isRoundHAB m p n = true ↔ IsRoundHA m p n := by
  simp only [isRoundHAB, IsRoundHA, Bool.and_eq_true, Chk.guard_iff, decide_eq_true_eq]

theorem alignedB_iff (x r : Dy) (n : Int) : alignedB x r n = true ↔ Aligned x r n := by
  unfold alignedB Aligned
  simp only [Bool.and_eq_true, decide_eq_true_eq]

theorem isCeilB_iff (m : Int) (p : Nat) (c : Int) : isCeilB m p c = true ↔ IsCeil m p c := by
  unfold isCeilB IsCeil
  simp only [Bool.and_eq_true, decide_eq_true_eq]

/-- the witness in `CountSpec` / `CountSpecLoose` is the rounding -/
theorem exists_isRoundHA_and (x : Dy) (P : Int → Prop) :
    (∃ n, IsRoundHA x.m x.den n ∧ P n) ↔ P (roundHA x.m x.den) := by
  simp only [isRoundHA_iff _ _ (den_pos x), exists_eq_left]

/-- the `ok` arm of `countSpecB` and of `countSpecLooseB` -/
theorem countOkB_iff (x r : Dy) (k : Nat) :
    (isRoundHAB x.m x.den k && decide ((k : Int) < u32Max) && alignedB x r k) = true ↔
      (k : Int) = roundHA x.m x.den ∧ roundHA x.m x.den < u32Max ∧ Aligned x r (roundHA x.m x.den) := by
  simp only [Bool.and_eq_true, decide_eq_true_eq, isRoundHAB_iff, alignedB_iff, isRoundHA_iff _ _ (den_pos x)]
  constructor
  · rintro ⟨⟨h1, h2⟩, h3⟩; exact ⟨h1, h1 ▸ h2, h1 ▸ h3⟩
  · rintro ⟨h1, h2, h3⟩; exact ⟨⟨h1, h1 ▸ h2⟩, h1 ▸ h3⟩

theorem countSpec_loose (x r : Dy) (res : Except SamplingErr Nat) (h : CountSpec x r res) :
    CountSpecLoose x r res := by
  obtain ⟨n, hn, h⟩ := h
  refine ⟨n, hn, ?_⟩
  match res with
  | .ok k => exact h
  | .error .outOfRange => exact h
  | .error .misaligned => exact h.2.2

end QV.C32
