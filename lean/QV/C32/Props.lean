import QV.C32.Sampling
import Mathlib.Analysis.SpecialFunctions.Trigonometric.Basic
/-
C32 — Built-in waveforms sample to the right length and respond linearly.

"For every built-in waveform with a duration that aligns with the sample rate, the number of IQ
samples is the rounded product of duration and sample rate.  Padded waveforms add the rounded-up
padding on each side.  Scaling multiplies every sample by the scale, a phase of p cycles multiplies
every sample by exp(2πip), and zero scale gives all-zero samples; partially known parameters give
placeholders of the same length and, once known, the same samples."

`fmul` is the product used for duration·rate and pad·rate: the theorems hold for any, in particular for `Dy.mul`
(exact) and for the f64-rounded product of the driver.  Sample values live in any scalar type satisfying `Laws`;
declared partial: IEEE rounding of the sample values (floats do not satisfy `Laws`).
-/
namespace QV.C32
open Scalar
variable {K : Type} [Scalar K]

/-- the model's rounding is round-half-away-from-zero, for every rational `m/p` -/
theorem C32_round_spec (m : Int) (p : Nat) (hp : 0 < p) : IsRoundHA m p (roundHA m p) :=
  roundHA_spec m p hp

/-- `IsRoundHA` has at most one solution, so the specification pins the count down -/
theorem C32_round_unique (m : Int) (p : Nat) (hp : 0 < p) (n n' : Int)
    (h : IsRoundHA m p n) (h' : IsRoundHA m p n') : n = n' :=
  isRoundHA_unique m p hp n n' h h'

/-- **Sample count.** `resolveCount` returns `ok k` iff `k` is the rounding of duration·rate, lies
in `[0, u32::MAX)` and the duration aligns; `outOfRange` iff the rounding is outside that range;
`misaligned` iff it is in range and `|x - round x| ≥ 1/(100·rate)`. -/
theorem C32_count (fmul : Dy → Dy → Dy) (d r : Dy) :
    CountSpec (fmul d r) r (resolveCount fmul d r) :=
  resolveCount_spec fmul d r

theorem C32_count_exact (d r : Dy) : CountSpec (d.mul r) r (resolveCount Dy.mul d r) :=
  resolveCount_spec Dy.mul d r

theorem C32_count_functional (x r : Dy) (a b : Except SamplingErr Nat)
    (ha : CountSpec x r a) (hb : CountSpec x r b) : a = b := by
  obtain ⟨n, hn, ha⟩ := ha
  obtain ⟨n', hn', hb⟩ := hb
  have := isRoundHA_unique _ _ (den_pos x) _ _ hn hn'
  subst this
  match a, b with
  | .ok k, .ok k' => simp only [] at ha hb; congr 1; omega
  | .ok k, .error .outOfRange => simp only [] at ha hb; omega
  | .ok k, .error .misaligned => simp only [] at ha hb; exact absurd ha.2.2 hb.2.2
  | .error .outOfRange, .ok k => simp only [] at ha hb; omega
  | .error .misaligned, .ok k => simp only [] at ha hb; exact absurd hb.2.2 ha.2.2
  | .error .outOfRange, .error .outOfRange => rfl
  | .error .misaligned, .error .misaligned => rfl
  | .error .outOfRange, .error .misaligned => simp only [] at ha hb; omega
  | .error .misaligned, .error .outOfRange => simp only [] at ha hb; omega

/-- on the implementation's counts the driver evaluates the loose form (`C32_count_loose_checker`), not this one -/
theorem C32_count_checker (x r : Dy) (res : Except SamplingErr Nat) :
    countSpecB x r res = true ↔ CountSpec x r res := by
  unfold countSpecB CountSpec
  rw [exists_isRoundHA_and]
  match res with
  | .ok k => exact countOkB_iff x r k
  | .error .outOfRange => simp [isRoundHAB_iff, isRoundHA_iff _ _ (den_pos x)]
  | .error .misaligned => simp [isRoundHAB_iff, isRoundHA_iff _ _ (den_pos x), ← alignedB_iff, and_assoc]

/-- `CountSpecLoose`, the form evaluated on the implementation's outputs, leaves open WHICH error is reported when
the rounded count is out of range and the duration is misaligned at once (the code tests the range first); the
model's outcome satisfies it -/
theorem C32_count_loose (fmul : Dy → Dy → Dy) (d r : Dy) :
    CountSpecLoose (fmul d r) r (resolveCount fmul d r) :=
  countSpec_loose _ _ _ (resolveCount_spec fmul d r)

theorem C32_count_loose_checker (x r : Dy) (res : Except SamplingErr Nat) :
    countSpecLooseB x r res = true ↔ CountSpecLoose x r res := by
  unfold countSpecLooseB CountSpecLoose
  rw [exists_isRoundHA_and]
  match res with
  | .ok k => exact countOkB_iff x r k
  | .error .outOfRange => simp [isRoundHAB_iff, isRoundHA_iff _ _ (den_pos x)]
  | .error .misaligned => simp [isRoundHAB_iff, isRoundHA_iff _ _ (den_pos x), ← alignedB_iff]

example : resolveCount Dy.mul ⟨88, 0⟩ ⟨1, 0⟩ = .ok 88 := by rfl
example : resolveCount Dy.mul ⟨5, 1⟩ ⟨1, 0⟩ = .error .misaligned := by rfl        -- 2.5 samples
example : resolveCount Dy.mul ⟨3082, 10⟩ ⟨1, 0⟩ = .ok 3 := by rfl               -- 3 + 10/1024 < 3.01
example : resolveCount Dy.mul ⟨3083, 10⟩ ⟨1, 0⟩ = .error .misaligned := by rfl  -- 3 + 11/1024 > 3.01
example : resolveCount Dy.mul ⟨-1, 1⟩ ⟨1, 0⟩ = .error .outOfRange := by rfl      -- round(-0.5) = -1
example : resolveCount Dy.mul ⟨-1, 2⟩ ⟨1, 0⟩ = .error .misaligned := by rfl      -- round(-0.25) = -0
example : resolveCount Dy.mul ⟨4294967295, 0⟩ ⟨1, 0⟩ = .error .outOfRange := by rfl
example : resolveCount Dy.mul ⟨4294967294, 0⟩ ⟨1, 0⟩ = .ok 4294967294 := by rfl
example : CountSpec ⟨5, 1⟩ ⟨1, 0⟩ (.error .misaligned) := (C32_count_checker _ _ _).1 (by decide)

/-- **Padding.** the number of padding samples is `⌈pad·rate⌉` clamped to `[0, usize::MAX]` -/
theorem C32_pad (fmul : Dy → Dy → Dy) (pad rate : Dy) :
    PadSpec (fmul pad rate) (padSamples fmul pad rate) :=
  ⟨_, ceilDiv_spec _ _ (den_pos _), rfl⟩

theorem C32_ceil_unique (m : Int) (p : Nat) (hp : 0 < p) (c c' : Int)
    (h : IsCeil m p c) (h' : IsCeil m p c') : c = c' :=
  isCeil_unique m p c c' h h'

theorem C32_pad_checker (x : Dy) (k : Nat) : padSpecB x k = true ↔ PadSpec x k := by
  have hc := ceilDiv_spec x.m x.den (den_pos x)
  have g0 := hc.le_iff 0
  have gU := hc.le_iff ((usizeMax : Int) - 1)
  have hu : 0 < usizeMax := by decide
  unfold padSpecB PadSpec
  -- with `c` the ceiling, `PadSpec x k` is `k = min c.toNat usizeMax`; the checker's branches are this for
  -- `k = 0` (`c ≤ 0 ↔ m ≤ 0`), for `k = usizeMax` (`usizeMax ≤ c ↔ (usizeMax - 1)·p < m`) and in between (`k = c`)
  simp only [isCeil_iff _ _ (den_pos x), exists_eq_left]
  generalize hcd : ceilDiv x.m x.den = c at *
  rw [Int.zero_mul] at g0
  split
  · simp only [decide_eq_true_eq]; omega
  · split
    · simp only [decide_eq_true_eq]; omega
    · simp only [Bool.and_eq_true, decide_eq_true_eq, isCeilB_iff, isCeil_iff _ _ (den_pos x), hcd]; omega

example : padSamples Dy.mul ⟨5, 1⟩ ⟨1, 0⟩ = 3 := by rfl     -- ⌈2.5⌉
example : padSamples Dy.mul ⟨-5, 1⟩ ⟨1, 0⟩ = 0 := by rfl    -- negative padding clamps to 0
example : padSamples Dy.mul ⟨1, 10⟩ ⟨1, 0⟩ = 1 := by rfl    -- ⌈1/1024⌉

/-- **Errors.** sampling fails with a `SamplingError` exactly when the count does, with the same
error — for every kind, partial or not -/
theorem C32_error_iff (fmul : Dy → Dy → Dy) (r : Request K) (e : SamplingErr) :
    sample fmul r = .err e ↔ resolveCount fmul r.common.duration r.rate = .error e :=
  sample_err_iff fmul r e

/-- **Length.** if the duration resolves to `k` samples and the total fits a `usize`, the result (samples *or
placeholder*) has exactly `⌈padL·rate⌉ + k + ⌈padR·rate⌉` entries (paddings only for ErfSquare / RaisedCosine) -/
theorem C32_length (fmul : Dy → Dy → Dy) (r : Request K) (k : Nat)
    (h : resolveCount fmul r.common.duration r.rate = .ok k)
    (hfit : totalCount fmul r k ≤ usizeMax) :
    (sample fmul r).count? = some (totalCount fmul r k) :=
  count?_sample fmul r k h hfit

/-- the only panic of the pipeline: the padded total does not fit a `usize` -/
theorem C32_crash_iff (fmul : Dy → Dy → Dy) (r : Request K) :
    sample fmul r = .crash ↔
      ∃ k, resolveCount fmul r.common.duration r.rate = .ok k ∧ totalCount fmul r k > usizeMax :=
  sample_crash_iff fmul r

/-- with a left padding below 2^63 samples and a right padding below 2^62, sampling never panics: the count is
below 2^32, and `2^63 + 2^32 + 2^62 ≤ usize::MAX` -/
theorem C32_no_crash (fmul : Dy → Dy → Dy) (r : Request K)
    (hl : padLeft fmul r < 2 ^ 63) (hr : padRight fmul r < 2 ^ 62) : sample fmul r ≠ .crash := by
  intro h
  obtain ⟨k, hc, hgt⟩ := (C32_crash_iff fmul r).1 h
  have := resolveCount_ok_lt_u32Max fmul _ _ k hc
  unfold totalCount usizeMax at hgt
  unfold u32Max at this
  omega

/-- **Placeholder.** a request with an unknown parameter yields a placeholder of the full length —
except that the enveloped kinds answer a *known zero scale* with all-zero samples of that length
("If the scale is zero it doesn't matter *what* the parameters are!", waveform/builtin.rs) -/
theorem C32_partial_placeholder (fmul : Dy → Dy → Dy) (r : Request K) (k : Nat)
    (hp : r.isPartial = true)
    (h : resolveCount fmul r.common.duration r.rate = .ok k)
    (hfit : totalCount fmul r k ≤ usizeMax) :
    (∃ p : Iq Unit, sample fmul r = .placeholder p ∧ p.count = totalCount fmul r k) ∨
    (scaleIsZero r.common = true ∧ sample fmul r = .samples (.flat zero (totalCount fmul r k))) := by
  cases sample_of_ok fmul r k h with
  | crash hgt => omega
  | placeholder p _ _ hc ho => exact .inl ⟨p, ho, hc⟩
  | zeros _ _ hz ho => exact .inr ⟨hz, ho⟩
  | samples _ _ hp' => rw [hp] at hp'; cases hp'

/-- a request without unknown parameters yields concrete samples of the full length, never a placeholder -/
theorem C32_total_samples (fmul : Dy → Dy → Dy) (r : Request K) (k : Nat)
    (hp : r.isPartial = false)
    (h : resolveCount fmul r.common.duration r.rate = .ok k)
    (hfit : totalCount fmul r k ≤ usizeMax) :
    ∃ s : Iq K, sample fmul r = .samples s ∧ s.count = totalCount fmul r k := by
  cases sample_of_ok fmul r k h with
  | crash hgt => omega
  | placeholder _ _ hp' => rw [hp] at hp'; cases hp'
  | zeros _ hp' => rw [hp] at hp'; cases hp'
  | samples s _ _ _ hc ho => exact ⟨s, ho, hc⟩

/-- **Once known.** filling in every unknown makes the request total -/
theorem C32_fill_total (r : Request K) (s p d : K) : (r.fill s p d).isPartial = false := by
  rw [isPartial_false_iff]
  refine ⟨(allKnown_iff _).2 ⟨?_, ?_, ?_⟩, Or.inl rfl⟩ <;> simp [Request.fill, Param.fill_isUnknown]

/-- **Same length.** the filled request has the same length, the same error and the same
panic as the partial one, whatever values are filled in -/
theorem C32_fill_same_length (fmul : Dy → Dy → Dy) (r : Request K) (s p d : K) :
    (sample fmul (r.fill s p d)).count? = (sample fmul r).count? ∧
    (∀ e, sample fmul (r.fill s p d) = .err e ↔ sample fmul r = .err e) ∧
    (sample fmul (r.fill s p d) = .crash ↔ sample fmul r = .crash) :=
  sample_shape_congr fmul r (r.fill s p d) rfl rfl (fun _ => rfl)

/-- filling a request that has no unknowns changes nothing -/
theorem C32_fill_known (fmul : Dy → Dy → Dy) (r : Request K) (s p d : K)
    (hp : r.isPartial = false) : sample fmul (r.fill s p d) = sample fmul r := by
  obtain ⟨hall, hwf⟩ := (isPartial_false_iff r).1 hp
  obtain ⟨h1, h2, h3⟩ := (allKnown_iff _).1 hall
  have hc : (r.fill s p d).common = r.common := by
    simp only [Request.fill, Param.fill_of_known _ _ h1, Param.fill_of_known _ _ h2,
      Param.fill_of_known _ _ h3]
  rcases hwf with hw | hk
  · have : r.fill s p d = r := by
      obtain ⟨kind, common, rate, padL, padR, wf, iq, env⟩ := r
      simp only [Request.fill] at hc ⊢
      simp only [] at hw
      subst hw
      simp only [Request.mk.injEq, and_true, true_and]
      exact hc
    rw [this]
  · unfold sample
    have hk' : (r.fill s p d).kind = .boxcarKernel := hk
    rw [hk, hk']
    simp only []
    rw [hc]
    rfl

/-- **Closed form without detuning.** sample `j` is `scale · cis(2π·phase) · base j`, where `base`
is the envelope (zero in the paddings), `iq` for Flat and `1/count` for BoxcarKernel; absent scale
counts as 1, absent phase as 0 -/
theorem C32_closed_form (L : Laws K) (fmul : Dy → Dy → Dy) (r : Request K) (k : Nat) (S P D : K)
    (hp : r.isPartial = false)
    (h : resolveCount fmul r.common.duration r.rate = .ok k)
    (hfit : totalCount fmul r k ≤ usizeMax)
    (hS : r.common.scale.evalOr one = some S) (hP : r.common.phase.evalOr zero = some P)
    (hD : r.common.detuning.evalOr zero = some D) (hD0 : isZero D = true)
    (j : Nat) (hj : j < totalCount fmul r k) :
    (sample fmul r).get? j = some (mul (mul S (turn P)) (baseAt fmul r k j)) := by
  rw [get?_sample fmul r k hp h hfit, if_pos hj, valueAt_eq L, Param.val_of_evalOr hS, Param.val_of_evalOr hP,
    Param.val_of_evalOr hD, (L.isZero_iff D).1 hD0, L.zero_mul, L.zero_div, L.zero_add, L.mul_assoc, L.mul_assoc,
    L.mul_comm (turn P)]

/-- **Scaling multiplies every sample by the scale** (with or without detuning): replacing the
scale `S` by `a·S` multiplies every sample by `a` -/
theorem C32_scale_linear (L : Laws K) (fmul : Dy → Dy → Dy) (r : Request K) (a S : K)
    (hp : r.isPartial = false) (hS : r.common.scale.evalOr one = some S) (j : Nat) :
    (sample fmul (r.withScale (mul a S))).get? j = ((sample fmul r).get? j).map (mul a) := by
  refine get_transfer fmul r _ (mul a) hp (withScale_isPartial r _ hp) rfl rfl (fun _ => rfl) (fun k j => ?_) j
  rw [valueAt_eq L, valueAt_eq L, Param.val_of_evalOr hS, ← L.mul_assoc a, ← L.mul_assoc a]
  rfl

/-- **A phase of `q` cycles multiplies every sample by `cis(2πq)`** (with or without detuning):
advancing the phase `P` to `P + q` multiplies every sample by `turn q` -/
theorem C32_phase_rotation (L : Laws K) (fmul : Dy → Dy → Dy) (r : Request K) (q P : K)
    (hp : r.isPartial = false) (hP : r.common.phase.evalOr zero = some P) (j : Nat) :
    (sample fmul (r.withPhase (add P q))).get? j = ((sample fmul r).get? j).map (mul (turn q)) := by
  refine get_transfer fmul r _ (mul (turn q)) hp (withPhase_isPartial r _ hp) rfl rfl (fun _ => rfl)
    (fun k j => ?_) j
  rw [valueAt_eq L, valueAt_eq L, Param.val_of_evalOr hP, L.mul_comm (turn q), L.mul_assoc _ _ (turn q),
    ← L.turn_add, L.add_assoc]
  rfl

/-- **Zero scale gives all-zero samples**: whatever else the request says (any kind, padding,
phase, detuning, known or unknown parameters), every sample that exists is zero -/
theorem C32_zero_scale (L : Laws K) (fmul : Dy → Dy → Dy) (r : Request K) (z : K)
    (hsc : r.common.scale = .known z) (hz : isZero z = true) (j : Nat) (v : K)
    (hv : (sample fmul r).get? j = some v) : v = zero := by
  have hS : r.common.scale.val one = zero := scaleIsZero_val L _ (scaleIsZero_of_known hsc hz)
  cases hc : resolveCount fmul r.common.duration r.rate with
  | error e => rw [sample_err fmul r e hc] at hv; cases hv
  | ok k =>
    cases sample_of_ok fmul r k hc with
    | crash _ ho => rw [ho] at hv; cases hv
    | placeholder _ _ _ _ ho => rw [ho] at hv; cases hv
    | zeros _ _ _ ho =>
      rw [ho] at hv; simp only [Out.get?, Iq.get?] at hv
      split at hv <;> cases hv; rfl
    | samples s _ _ hg _ ho =>
      rw [ho] at hv; simp only [Out.get?, hg, valueAt_eq L, hS, L.zero_mul] at hv
      split at hv <;> cases hv; rfl

/-- the padding samples are zero, whatever the scale, phase and detuning -/
theorem C32_padding_zero (L : Laws K) (fmul : Dy → Dy → Dy) (r : Request K) (k : Nat) (S P D : K)
    (hp : r.isPartial = false) (hkind : r.kind.padded = true)
    (h : resolveCount fmul r.common.duration r.rate = .ok k)
    (hfit : totalCount fmul r k ≤ usizeMax)
    (hS : r.common.scale.evalOr one = some S) (hP : r.common.phase.evalOr zero = some P)
    (hD : r.common.detuning.evalOr zero = some D)
    (j : Nat) (hj : j < totalCount fmul r k) (hpad : j < padLeft fmul r ∨ padLeft fmul r + k ≤ j) :
    (sample fmul r).get? j = some zero :=
  sample_get_padding L fmul r k hp hkind h hfit j hj hpad

/-- the count, stated with Mathlib's `round` on ℚ: for an accepted duration the number of samples is
`round (duration · rate)` -/
theorem C32_count_rat (d r : Dy) (k : Nat) (h : resolveCount Dy.mul d r = .ok k) :
    (k : ℤ) = round (((d.m : ℚ) / 2 ^ d.s) * ((r.m : ℚ) / 2 ^ r.s)) := by
  have hs := C32_count_exact d r
  rw [h] at hs
  obtain ⟨n, ⟨h1, h2⟩, rfl, -, -⟩ := hs
  simp only [Dy.mul, Dy.den] at h1 h2
  -- with `a = k·P`: `2a ≤ 2M + P < 2a + 2P`; `a ≥ 0`, so at a tie `|M| < |a|` says `M < a`
  have ha : (0 : ℤ) ≤ k * ((2 ^ (d.s + r.s) : ℕ) : ℤ) := by positivity
  have hx : ((d.m : ℚ) / 2 ^ d.s) * ((r.m : ℚ) / 2 ^ r.s) =
      ((d.m * r.m : ℤ) : ℚ) / ((2 ^ (d.s + r.s) : ℕ) : ℤ) := by
    push_cast; rw [div_mul_div_comm, pow_add]
  have hP : (0 : ℚ) < (((2 ^ (d.s + r.s) : ℕ) : ℤ) : ℚ) := by positivity
  generalize 2 ^ (d.s + r.s) = p at *
  generalize d.m * r.m = M at *
  have key : 2 * ((k : ℤ) * p) ≤ 2 * M + p ∧ 2 * M + p < 2 * ((k : ℤ) * p) + 2 * p := by
    generalize (k : ℤ) * p = a at *
    omega
  have keyq : 2 * (((k : ℤ) : ℚ) * (p : ℤ)) ≤ 2 * M + (p : ℤ) ∧
      2 * (M : ℚ) + (p : ℤ) < 2 * (((k : ℤ) : ℚ) * (p : ℤ)) + 2 * (p : ℤ) := by
    exact_mod_cast key
  rw [hx, round_eq, eq_comm, Int.floor_eq_iff, div_add_div _ _ hP.ne' two_ne_zero,
    le_div_iff₀ (by positivity), div_lt_iff₀ (by positivity)]
  constructor <;> linarith

/-- ℂ with `turn x = exp(2πi·x)`: the intended reading of the scalar operations -/
@[reducible] noncomputable def complexScalar : Scalar ℂ where
  zero := 0
  one := 1
  add := (· + ·)
  mul := (· * ·)
  div := (· / ·)
  ofNat n := (n : ℂ)
  ofDy d := (d.m : ℂ) / (2 : ℂ) ^ d.s
  turn x := Complex.exp (2 * Real.pi * Complex.I * x)
  isZero x := by classical exact decide (x = 0)

/-- **the laws hold in ℂ** with `turn x = exp(2πi·x)`, so every value theorem above is a statement
about complex numbers -/
theorem C32_laws_complex : @Laws ℂ complexScalar :=
  @Laws.mk ℂ complexScalar mul_assoc mul_comm zero_mul one_mul zero_add add_assoc zero_div
    (fun a b => by show a / b = a * (1 / b); rw [mul_one_div])
    (by show Complex.exp (2 * Real.pi * Complex.I * 0) = 1; simp)
    (fun a b => by
      show Complex.exp (2 * Real.pi * Complex.I * (a + b)) =
        Complex.exp (2 * Real.pi * Complex.I * a) * Complex.exp (2 * Real.pi * Complex.I * b)
      rw [mul_add, Complex.exp_add])
    (fun a => by show (by classical exact decide (a = 0)) = true ↔ a = 0; simp)

/-- a whole cycle is the identity, half a cycle is `-1` (what "phase in cycles" means) -/
theorem C32_turn_cycle : complexScalar.turn 1 = 1 ∧ complexScalar.turn (1 / 2) = -1 := by
  constructor
  · show Complex.exp (2 * Real.pi * Complex.I * 1) = 1
    rw [mul_one]; exact Complex.exp_two_pi_mul_I
  · show Complex.exp (2 * Real.pi * Complex.I * (1 / 2)) = -1
    have : (2 * Real.pi * Complex.I * (1 / 2) : ℂ) = Real.pi * Complex.I := by ring
    rw [this]; exact Complex.exp_pi_mul_I

/-- a small computable scalar type for evaluating the model inside Lean: ℤ with a degenerate
division and `turn = 1` (it satisfies the laws too) -/
@[reducible] def intScalar : Scalar Int where
  zero := 0
  one := 1
  add := (· + ·)
  mul := (· * ·)
  div _ _ := 0
  ofNat n := (n : Int)
  ofDy d := d.m
  turn _ := 1
  isZero x := decide (x = 0)

theorem C32_laws_int : @Laws Int intScalar :=
  @Laws.mk Int intScalar Int.mul_assoc Int.mul_comm Int.zero_mul Int.one_mul Int.zero_add
    Int.add_assoc (fun _ => rfl) (fun a b => by show (0 : Int) = a * 0; simp) rfl (fun _ _ => rfl)
    (fun a => by show decide (a = 0) = true ↔ a = 0; simp)

section examples
attribute [local instance] intScalar

private def exReqWith (kind : Kind) (dur : Dy) (scale phase : Param Int) (wf : Bool) (padL : Dy) : Request Int :=
  { kind := kind, common := ⟨dur, scale, phase, .absent⟩, rate := ⟨1, 0⟩,
    padL := padL, padR := ⟨1, 2⟩, wfKnown := wf, iq := 7, env := fun k => (k : Int) + 1 }
/-- ErfSquare, 16 s at 1 Hz, paddings 2.5 s and 0.25 s -/
private def exReq : Request Int := exReqWith .erfSquare ⟨16, 0⟩ (.known 3) .absent true ⟨5, 1⟩

example : (sample Dy.mul exReq).count? = some (3 + 16 + 1) := by rfl
example : (sample Dy.mul exReq).get? 2 = some 0 ∧ (sample Dy.mul exReq).get? 3 = some 3 ∧
    (sample Dy.mul exReq).get? 18 = some 48 ∧ (sample Dy.mul exReq).get? 19 = some 0 ∧
    (sample Dy.mul exReq).get? 20 = none := by
  refine ⟨by rfl, by rfl, by rfl, by rfl, by rfl⟩
/-- an unknown phase: placeholder of the same 20 entries; filling it: 20 samples -/
example : sample Dy.mul (exReqWith .erfSquare ⟨16, 0⟩ (.known 3) .unknown true ⟨5, 1⟩) =
    .placeholder (.vec (List.replicate 20 ())) := by rfl
example : (exReqWith .erfSquare ⟨16, 0⟩ (.known 3) .unknown true ⟨5, 1⟩).isPartial = true := by rfl
example : (sample Dy.mul ((exReqWith .erfSquare ⟨16, 0⟩ (.known 3) .unknown true ⟨5, 1⟩).fill 1 0 0)).count?
    = some 20 := by rfl
/-- zero scale with a missing waveform parameter: twenty zeros, not a placeholder -/
example : sample Dy.mul (exReqWith .erfSquare ⟨16, 0⟩ (.known 0) .absent false ⟨5, 1⟩) =
    .samples (.flat 0 20) := by rfl
/-- Flat with a missing `iq` and zero scale: a placeholder (Flat has no zero-scale shortcut) -/
example : sample Dy.mul (exReqWith .flat ⟨16, 0⟩ (.known 0) .absent false ⟨5, 1⟩) =
    .placeholder (.flat () 16) := by rfl
/-- misaligned duration 2.5 s at 1 Hz: an error -/
example : sample Dy.mul (exReqWith .erfSquare ⟨5, 1⟩ (.known 3) .absent true ⟨5, 1⟩) =
    .err .misaligned := by rfl
/-- the hypotheses of the value theorems are met by `exReq` -/
example : ((sample Dy.mul (exReq.withScale (2 * 3))).get? 5) = ((sample Dy.mul exReq).get? 5).map (2 * ·) :=
  C32_scale_linear C32_laws_int Dy.mul exReq 2 3 (by rfl) (by rfl) 5
/-- usize overflow: a padding of 2^70 samples panics -/
example : sample Dy.mul (exReqWith .erfSquare ⟨16, 0⟩ (.known 3) .absent true ⟨2 ^ 70, 0⟩) = .crash := by rfl
end examples

end QV.C32
