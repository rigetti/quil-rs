import QV.C32.Rounding
/-
Core Lean only (Mathlib enters in `Props.lean`).  The vocabulary of the pipeline theorems (`totalCount`, `valueAt`,
`baseAt`, …); closed forms of `rawResolve` and of the three samplers on a duration that resolves, and from them one
statement of everything `sample` does then (`SampledOk`, `sample_of_ok`), of which the theorems about what `sample`
returns are case analyses; `valueAt_eq`, the closed form of a sample value under `Laws`.
-/
namespace QV.C32
open Scalar

variable {K : Type} [Scalar K]

def Common.allKnown (c : Common K) : Bool :=
  !(c.scale.isUnknown || c.phase.isUnknown || c.detuning.isUnknown)

def padLeft (fmul : Dy → Dy → Dy) (r : Request K) : Nat :=
  if r.kind.padded then padSamples fmul r.padL r.rate else 0
def padRight (fmul : Dy → Dy → Dy) (r : Request K) : Nat :=
  if r.kind.padded then padSamples fmul r.padR r.rate else 0
def totalCount (fmul : Dy → Dy → Dy) (r : Request K) (k : Nat) : Nat :=
  padLeft fmul r + k + padRight fmul r

/-- the value a common parameter resolves to (`d` when absent; also when unknown, where nothing reads it) -/
def Param.val (p : Param K) (d : K) : K := (p.evalOr d).getD d

/-- `ExplicitCommonBuiltinParameters` of a fully known request with `k` samples -/
def Common.explicit (c : Common K) (k : Nat) : Explicit K :=
  ⟨k, c.scale.val one, c.phase.val zero, c.detuning.val zero⟩

/-- the value of sample `j` of a fully known request whose duration resolves to `k` samples.  The enveloped kinds
answer a known zero scale with literal zeros, as the code does (no arithmetic, so no `Laws`); `valueAt_eq` absorbs that
arm under `Laws`. -/
def valueAt (fmul : Dy → Dy → Dy) (r : Request K) (k j : Nat) : K :=
  match r.kind with
  | .flat =>
    if isZero (r.common.detuning.val zero) then applyPhase (mul (r.common.scale.val one) r.iq) (r.common.phase.val zero)
    else applyPD (mul (r.common.scale.val one) r.iq) (r.common.phase.val zero) (r.common.detuning.val zero)
      (ofDy r.rate) j
  | .boxcarKernel =>
    if isZero (r.common.detuning.val zero) then
      mul (div (r.common.scale.val one) (ofNat k)) (turn (r.common.phase.val zero))
    else mul (div (r.common.scale.val one) (ofNat k))
      (turn (add (div (mul (r.common.detuning.val zero) (ofNat j)) (ofDy r.rate)) (r.common.phase.val zero)))
  | _ =>
    if scaleIsZero r.common then zero
    else applyPD (mul (r.common.scale.val one) (paddedEnv r.env (padLeft fmul r) k j)) (r.common.phase.val zero)
      (r.common.detuning.val zero) (ofDy r.rate) j

/-- the factor of sample `j` that scale, phase and detuning act on (`valueAt_eq`) -/
def baseAt (fmul : Dy → Dy → Dy) (r : Request K) (k : Nat) (j : Nat) : K :=
  match r.kind with
  | .flat => r.iq
  | .boxcarKernel => div one (ofNat k)
  | _ => paddedEnv r.env (padLeft fmul r) k j

def Request.withScale (r : Request K) (a : K) : Request K :=
  { r with common := { r.common with scale := .known a } }
def Request.withPhase (r : Request K) (a : K) : Request K :=
  { r with common := { r.common with phase := .known a } }

/-- **Everything `sample` does** on a duration that resolves to `k` samples (`sample_of_ok`), up to the representation
of a sample vector.  The side conditions exclude each other, so they determine the case: a partial request with a
known zero scale gets zeros from the enveloped kinds and a placeholder from Flat / BoxcarKernel (the last field of
`placeholder` and of `zeros`). -/
inductive SampledOk (fmul : Dy → Dy → Dy) (r : Request K) (k : Nat) (o : Out K) : Prop
  | crash : usizeMax < totalCount fmul r k → o = .crash → SampledOk fmul r k o
  | placeholder (p : Iq Unit) : totalCount fmul r k ≤ usizeMax → r.isPartial = true →
      p.count = totalCount fmul r k → o = .placeholder p →
      (scaleIsZero r.common = true → r.kind = .flat ∨ r.kind = .boxcarKernel) → SampledOk fmul r k o
  | zeros : totalCount fmul r k ≤ usizeMax → r.isPartial = true → scaleIsZero r.common = true →
      o = .samples (.flat zero (totalCount fmul r k)) →
      r.kind ≠ .flat ∧ r.kind ≠ .boxcarKernel → SampledOk fmul r k o
  | samples (s : Iq K) : totalCount fmul r k ≤ usizeMax → r.isPartial = false →
      (∀ j, s.get? j = if j < totalCount fmul r k then some (valueAt fmul r k j) else none) →
      s.count = totalCount fmul r k → o = .samples s → SampledOk fmul r k o

@[simp] theorem Iq.count_flat {T : Type} (x : T) (n : Nat) : (Iq.flat x n).count = n := rfl
@[simp] theorem Iq.count_vec {T : Type} (l : List T) : (Iq.vec l).count = l.length := rfl
@[simp] theorem Out.count?_placeholder (p : Iq Unit) : (Out.placeholder p : Out K).count? = some p.count := rfl
@[simp] theorem Out.count?_samples (s : Iq K) : (Out.samples s).count? = some s.count := rfl

omit [Scalar K] in
theorem Param.val_of_evalOr {p : Param K} {d v : K} (h : p.evalOr d = some v) : p.val d = v := by
  rw [Param.val, h]; rfl

theorem rawResolve_err (fmul : Dy → Dy → Dy) (c : Common K) (rate : Dy) (e : SamplingErr)
    (h : resolveCount fmul c.duration rate = .error e) : rawResolve fmul c rate = .err e := by
  -- `delta`, here and below: `rw [rawResolve]` would first state the definition's unfolding equation, which costs
  -- more than the proof
  delta rawResolve; rw [h]

theorem rawResolve_of_ok {fmul : Dy → Dy → Dy} {c : Common K} {rate : Dy} {k : Nat}
    (h : resolveCount fmul c.duration rate = .ok k) :
    rawResolve fmul c rate = if c.allKnown then .total (c.explicit k) else .part k := by
  obtain ⟨dur, sc, ph, det⟩ := c
  delta rawResolve
  rw [h]
  cases sc <;> cases ph <;> cases det <;> rfl

theorem sampleFlat_of_ok {fmul : Dy → Dy → Dy} {iq? : Option K} {c : Common K} {rate : Dy} {k : Nat}
    (h : resolveCount fmul c.duration rate = .ok k) :
    sampleFlat fmul iq? c rate =
      match c.allKnown, iq? with
      | true, some iq =>
        if isZero (c.detuning.val zero) then
          .samples (.flat (applyPhase (mul (c.scale.val one) iq) (c.phase.val zero)) k)
        else .samples (.vec ((List.range k).map fun j =>
          applyPD (mul (c.scale.val one) iq) (c.phase.val zero) (c.detuning.val zero) (ofDy rate) j))
      | _, _ => flatPlaceholder c k := by
  delta sampleFlat
  rw [rawResolve_of_ok h]
  cases c.allKnown <;> cases iq? <;> rfl

theorem sampleBoxcar_of_ok {fmul : Dy → Dy → Dy} {c : Common K} {rate : Dy} {k : Nat}
    (h : resolveCount fmul c.duration rate = .ok k) :
    sampleBoxcar fmul c rate =
      if c.allKnown then
        if isZero (c.detuning.val zero) then
          .samples (.flat (mul (div (c.scale.val one) (ofNat k)) (turn (c.phase.val zero))) k)
        else .samples (.vec ((List.range k).map fun j => mul (div (c.scale.val one) (ofNat k))
          (turn (add (div (mul (c.detuning.val zero) (ofNat j)) (ofDy rate)) (c.phase.val zero)))))
      else flatPlaceholder c k := by
  delta sampleBoxcar
  rw [rawResolve_of_ok h]
  cases c.allKnown <;> rfl

/-- the enveloped sampler tests, in effect, in this order: overflow, known zero scale, anything unknown -/
theorem sampleEnv_of_ok {fmul : Dy → Dy → Dy} {r : Request K} {k : Nat}
    (h : resolveCount fmul r.common.duration r.rate = .ok k) :
    sampleEnv fmul r.kind.padded r.padL r.padR r.wfKnown r.env r.common r.rate =
      if totalCount fmul r k > usizeMax then .crash
      else if scaleIsZero r.common then .samples (.flat zero (totalCount fmul r k))
      else if r.common.allKnown && r.wfKnown then
        .samples (.vec ((List.range (totalCount fmul r k)).map fun j =>
          applyPD (mul (r.common.scale.val one) (paddedEnv r.env (padLeft fmul r) k j)) (r.common.phase.val zero)
            (r.common.detuning.val zero) (ofDy r.rate) j))
      else .placeholder (.vec (List.replicate (totalCount fmul r k) ())) := by
  delta sampleEnv
  rw [rawResolve_of_ok h]
  cases r.common.allKnown <;> cases r.wfKnown <;> cases scaleIsZero r.common <;> rfl

theorem range_map_get (n : Nat) (f : Nat → K) (j : Nat) :
    ((List.range n).map f)[j]? = if j < n then some (f j) else none := by
  by_cases h : j < n
  · simp [h]
  · simp [h]

/-- `((List.range n).map f)[j]?` in the form `simp` gives it (it moves the `map` outside the lookup first): this is how
the value steps of `sample_of_ok` read sample `j` of a computed vector -/
theorem map_range_getElem? (n : Nat) (f : Nat → K) (j : Nat) :
    Option.map f (List.range n)[j]? = if j < n then some (f j) else none := by
  by_cases h : j < n
  · simp [h]
  · simp [h]

omit [Scalar K] in
theorem isPartial_eq (r : Request K) :
    r.isPartial = !(r.common.allKnown && (r.wfKnown || r.kind == .boxcarKernel)) := by
  unfold Request.isPartial Common.allKnown bne
  cases r.common.scale.isUnknown <;> cases r.common.phase.isUnknown <;> cases r.common.detuning.isUnknown <;>
    cases r.wfKnown <;> cases (r.kind == Kind.boxcarKernel) <;> rfl

omit [Scalar K] in
theorem isPartial_false_iff (r : Request K) :
    r.isPartial = false ↔ r.common.allKnown = true ∧ (r.wfKnown = true ∨ r.kind = .boxcarKernel) := by
  rw [isPartial_eq]; cases r.wfKnown <;> simp

theorem totalCount_unpadded (fmul : Dy → Dy → Dy) (r : Request K) (k : Nat) (h : r.kind.padded = false) :
    totalCount fmul r k = k := by
  simp [totalCount, padLeft, padRight, h]

theorem sample_kind (fmul : Dy → Dy → Dy) (r : Request K) :
    (r.kind = .flat ∧ (∀ k, totalCount fmul r k = k) ∧
      sample fmul r = sampleFlat fmul (if r.wfKnown then some r.iq else none) r.common r.rate) ∨
    (r.kind = .boxcarKernel ∧ (∀ k, totalCount fmul r k = k) ∧
      sample fmul r = sampleBoxcar fmul r.common r.rate) ∨
    (r.kind ≠ .flat ∧ r.kind ≠ .boxcarKernel ∧
      sample fmul r = sampleEnv fmul r.kind.padded r.padL r.padR r.wfKnown r.env r.common r.rate) := by
  unfold sample
  cases hk : r.kind
  case flat => exact .inl ⟨rfl, fun k => totalCount_unpadded fmul r k (by rw [hk]; rfl), rfl⟩
  case boxcarKernel => exact .inr (.inl ⟨rfl, fun k => totalCount_unpadded fmul r k (by rw [hk]; rfl), rfl⟩)
  all_goals exact .inr (.inr ⟨nofun, nofun, rfl⟩)

theorem valueAt_env (fmul : Dy → Dy → Dy) (r : Request K) (k j : Nat)
    (h1 : r.kind ≠ .flat) (h2 : r.kind ≠ .boxcarKernel) :
    valueAt fmul r k j =
      if scaleIsZero r.common then zero
      else applyPD (mul (r.common.scale.val one) (paddedEnv r.env (padLeft fmul r) k j)) (r.common.phase.val zero)
        (r.common.detuning.val zero) (ofDy r.rate) j := by
  unfold valueAt
  cases hk : r.kind <;> first | rfl | exact absurd hk h1 | exact absurd hk h2

theorem resolveCount_ok_lt_u32Max (fmul : Dy → Dy → Dy) (d r : Dy) (k : Nat)
    (h : resolveCount fmul d r = .ok k) : (k : Int) < u32Max := by
  have := resolveCount_spec fmul d r
  rw [h] at this
  obtain ⟨n, _, h1, h2, _⟩ := this
  omega

theorem sample_err (fmul : Dy → Dy → Dy) (r : Request K) (e : SamplingErr)
    (h : resolveCount fmul r.common.duration r.rate = .error e) : sample fmul r = .err e := by
  have hr := rawResolve_err fmul r.common r.rate e h
  rcases sample_kind fmul r with ⟨-, -, hs⟩ | ⟨-, -, hs⟩ | ⟨-, -, hs⟩ <;> rw [hs]
  · delta sampleFlat; rw [hr]
  · delta sampleBoxcar; rw [hr]
  · delta sampleEnv; rw [hr]

theorem flatPlaceholder_ne_crash (c : Common K) (n : Nat) : flatPlaceholder c n ≠ .crash := by
  unfold flatPlaceholder; intro h; cases h

theorem flatPlaceholder_is (c : Common K) (n : Nat) :
    ∃ p : Iq Unit, flatPlaceholder c n = .placeholder p ∧ p.count = n := by
  unfold flatPlaceholder
  split
  · exact ⟨_, rfl, rfl⟩
  · exact ⟨_, rfl, by simp⟩

theorem flatPlaceholder_sampledOk {fmul : Dy → Dy → Dy} {r : Request K} {k : Nat}
    (hkind : r.kind = .flat ∨ r.kind = .boxcarKernel) (hk : totalCount fmul r k = k) (hfit : k ≤ usizeMax)
    (hp : r.isPartial = true) : SampledOk fmul r k (flatPlaceholder r.common k) := by
  obtain ⟨p, ho, hc⟩ := flatPlaceholder_is r.common k
  exact .placeholder p (by rw [hk]; exact hfit) hp (by rw [hk]; exact hc) ho fun _ => hkind

/-- One cell per class of kinds (`sample_kind`) and per test the sampler makes, read off the closed forms `…_of_ok`:
each cell is a constructor of `SampledOk`, whose side conditions are the cell's tests (`isPartial_eq` translates
"all known" into `isPartial`), and in the `samples` cells the value of entry `j` is `valueAt` by unfolding both sides
(`map_range_getElem?` for a computed vector). -/
theorem sample_of_ok (fmul : Dy → Dy → Dy) (r : Request K) (k : Nat)
    (h : resolveCount fmul r.common.duration r.rate = .ok k) : SampledOk fmul r k (sample fmul r) := by
  have hk : k ≤ usizeMax := by
    have := resolveCount_ok_lt_u32Max fmul _ _ k h; have := u32Max_le_usizeMax; omega
  have hpart := isPartial_eq r
  rcases sample_kind fmul r with ⟨hkind, ht, hs⟩ | ⟨hkind, ht, hs⟩ | ⟨hk1, hk2, hs⟩
  · rw [hs, sampleFlat_of_ok h]
    rw [hkind] at hpart
    cases hall : r.common.allKnown <;> cases hw : r.wfKnown <;> simp only [hall, hw] at hpart ⊢
    · exact flatPlaceholder_sampledOk (.inl hkind) (ht k) hk hpart
    · exact flatPlaceholder_sampledOk (.inl hkind) (ht k) hk hpart
    · exact flatPlaceholder_sampledOk (.inl hkind) (ht k) hk hpart
    · simp only [↓reduceIte]
      split
      · next hz =>
        exact .samples _ (by rw [ht]; exact hk) hpart (fun j => by
          simp [valueAt, hkind, Iq.get?, ht, hz]) (by simp [ht]) rfl
      · next hz =>
        exact .samples _ (by rw [ht]; exact hk) hpart (fun j => by
          simp [valueAt, hkind, Iq.get?, ht, hz, map_range_getElem?]) (by simp [ht]) rfl
  · rw [hs, sampleBoxcar_of_ok h]
    rw [hkind] at hpart
    cases hall : r.common.allKnown <;> simp only [hall] at hpart ⊢
    · exact flatPlaceholder_sampledOk (.inr hkind) (ht k) hk hpart
    · simp only [↓reduceIte]
      split
      · next hz =>
        exact .samples _ (by rw [ht]; exact hk) (by simpa using hpart) (fun j => by
          simp [valueAt, hkind, Iq.get?, ht, hz]) (by simp [ht]) rfl
      · next hz =>
        exact .samples _ (by rw [ht]; exact hk) (by simpa using hpart) (fun j => by
          simp [valueAt, hkind, Iq.get?, ht, hz, map_range_getElem?]) (by simp [ht]) rfl
  · rw [hs, sampleEnv_of_ok h]
    rw [beq_eq_false_iff_ne.2 hk2, Bool.or_false] at hpart
    split
    · next hgt => exact .crash hgt rfl
    · next hfit =>
      have hfit := Nat.le_of_not_gt hfit
      cases hak : r.common.allKnown && r.wfKnown <;> rw [hak] at hpart <;> split
      · next hz => exact .zeros hfit hpart hz rfl ⟨hk1, hk2⟩
      · next hz => exact .placeholder _ hfit hpart (by simp) rfl fun h => absurd h hz
      · next hz =>
        exact .samples _ hfit hpart (fun j => by simp [valueAt_env _ _ _ _ hk1 hk2, Iq.get?, hz]) rfl rfl
      · next hz =>
        exact .samples _ hfit hpart (fun j => by
          simp [valueAt_env _ _ _ _ hk1 hk2, Iq.get?, hz, map_range_getElem?]) (by simp) rfl

theorem sample_err_iff (fmul : Dy → Dy → Dy) (r : Request K) (e : SamplingErr) :
    sample fmul r = .err e ↔ resolveCount fmul r.common.duration r.rate = .error e := by
  refine ⟨fun h => ?_, sample_err fmul r e⟩
  cases hc : resolveCount fmul r.common.duration r.rate with
  | error e' => rw [sample_err fmul r e' hc] at h; rw [Out.err.inj h]
  | ok k => cases sample_of_ok fmul r k hc <;> simp_all

theorem sample_crash_iff (fmul : Dy → Dy → Dy) (r : Request K) :
    sample fmul r = .crash ↔
      ∃ k, resolveCount fmul r.common.duration r.rate = .ok k ∧ totalCount fmul r k > usizeMax := by
  cases hc : resolveCount fmul r.common.duration r.rate with
  | error e => simp [sample_err fmul r e hc]
  | ok k =>
    simp only [Except.ok.injEq, exists_eq_left']
    cases sample_of_ok fmul r k hc <;> simp [*] <;> omega

theorem count?_sample (fmul : Dy → Dy → Dy) (r : Request K) (k : Nat)
    (h : resolveCount fmul r.common.duration r.rate = .ok k)
    (hfit : totalCount fmul r k ≤ usizeMax) :
    (sample fmul r).count? = some (totalCount fmul r k) := by
  cases sample_of_ok fmul r k h with
  | crash hgt => omega
  | placeholder _ _ _ hc ho => rw [ho, ← hc]; rfl
  | zeros _ _ _ ho => rw [ho]; rfl
  | samples _ _ _ _ hc ho => rw [ho, ← hc]; rfl

theorem get?_sample (fmul : Dy → Dy → Dy) (r : Request K) (k : Nat)
    (hp : r.isPartial = false)
    (h : resolveCount fmul r.common.duration r.rate = .ok k)
    (hfit : totalCount fmul r k ≤ usizeMax) (j : Nat) :
    (sample fmul r).get? j = if j < totalCount fmul r k then some (valueAt fmul r k j) else none := by
  cases sample_of_ok fmul r k h with
  | crash hgt => omega
  | placeholder _ _ hp' => rw [hp] at hp'; cases hp'
  | zeros _ hp' => rw [hp] at hp'; cases hp'
  | samples s _ _ hg _ ho => rw [ho]; exact hg j

theorem sample_shape_congr (fmul : Dy → Dy → Dy) (r r' : Request K)
    (hd : r'.common.duration = r.common.duration) (hr : r'.rate = r.rate)
    (ht : ∀ k, totalCount fmul r' k = totalCount fmul r k) :
    (sample fmul r').count? = (sample fmul r).count? ∧
    (∀ e, sample fmul r' = .err e ↔ sample fmul r = .err e) ∧
    (sample fmul r' = .crash ↔ sample fmul r = .crash) := by
  refine ⟨?_, fun e => by rw [sample_err_iff, sample_err_iff, hd, hr], by simp only [sample_crash_iff, hd, hr, ht]⟩
  cases h : resolveCount fmul r.common.duration r.rate with
  | error e => rw [sample_err fmul r e h, sample_err fmul r' e (by rw [hd, hr, h])]
  | ok k =>
    by_cases hfit : totalCount fmul r k ≤ usizeMax
    · rw [count?_sample fmul r k h hfit, count?_sample fmul r' k (by rw [hd, hr, h]) (by rw [ht]; exact hfit), ht]
    · rw [(sample_crash_iff fmul r).2 ⟨k, h, by omega⟩,
        (sample_crash_iff fmul r').2 ⟨k, by rw [hd, hr, h], by rw [ht]; omega⟩]

/-- carries a pointwise identity between the `valueAt`s of two fully known requests of the same shape to their sampled
outputs -/
theorem get_transfer (fmul : Dy → Dy → Dy) (r r' : Request K) (f : K → K)
    (hp : r.isPartial = false) (hp' : r'.isPartial = false)
    (hd : r'.common.duration = r.common.duration) (hr : r'.rate = r.rate)
    (ht : ∀ k, totalCount fmul r' k = totalCount fmul r k)
    (hv : ∀ k j, valueAt fmul r' k j = f (valueAt fmul r k j)) (j : Nat) :
    (sample fmul r').get? j = ((sample fmul r).get? j).map f := by
  cases h : resolveCount fmul r.common.duration r.rate with
  | error e => rw [sample_err fmul r e h, sample_err fmul r' e (by rw [hd, hr, h])]; rfl
  | ok k =>
    by_cases hfit : totalCount fmul r k ≤ usizeMax
    · rw [get?_sample fmul r k hp h hfit, get?_sample fmul r' k hp' (by rw [hd, hr, h]) (by rw [ht]; exact hfit),
        ht, hv]
      split <;> rfl
    · rw [(sample_crash_iff fmul r).2 ⟨k, h, by omega⟩,
        (sample_crash_iff fmul r').2 ⟨k, by rw [hd, hr, h], by rw [ht]; omega⟩]; rfl

namespace Laws
variable (L : Laws K)
include L
theorem mul_zero (a : K) : mul a zero = (zero : K) := by rw [L.mul_comm, L.zero_mul]
theorem mul_one (a : K) : mul a one = a := by rw [L.mul_comm, L.one_mul]
theorem mul_left_comm (a b c : K) : mul a (mul b c) = mul b (mul a c) := by
  rw [← L.mul_assoc, L.mul_comm a b, L.mul_assoc]
end Laws

/-- the two spellings of "the scale is a known zero": the hypotheses of `C32_zero_scale`, and the model's test -/
theorem scaleIsZero_of_known {c : Common K} {z : K} (hsc : c.scale = .known z) (hz : isZero z = true) :
    scaleIsZero c = true := by
  unfold scaleIsZero; rw [hsc]; exact hz

theorem scaleIsZero_val (L : Laws K) (c : Common K) (hz : scaleIsZero c = true) : c.scale.val one = zero := by
  unfold scaleIsZero at hz
  cases hsc : c.scale <;> rw [hsc] at hz <;> first | cases hz | exact (L.isZero_iff _).1 hz

/-- One formula, `(scale · base) · turn (detuning · j / rate + phase)`, for all kinds: `Laws` is what makes the code's
shortcuts (no detuning: the phase alone; known zero scale: literal zero; BoxcarKernel: `scale / k`) instances of it. -/
theorem valueAt_eq (L : Laws K) (fmul : Dy → Dy → Dy) (r : Request K) (k j : Nat) :
    valueAt fmul r k j = mul (mul (r.common.scale.val one) (baseAt fmul r k j))
      (turn (add (div (mul (r.common.detuning.val zero) (ofNat j)) (ofDy r.rate)) (r.common.phase.val zero))) := by
  have h0 : isZero (r.common.detuning.val zero) = true →
      turn (add (div (mul (r.common.detuning.val zero) (ofNat j)) (ofDy r.rate)) (r.common.phase.val zero)) =
        turn (r.common.phase.val zero) := fun h => by
    rw [(L.isZero_iff _).1 h, L.zero_mul, L.zero_div, L.zero_add]
  unfold valueAt baseAt
  cases r.kind with
  | flat =>
    simp only []
    split
    · next h => rw [h0 h]; rfl
    · rfl
  | boxcarKernel =>
    simp only []
    split
    · next h => rw [h0 h, L.div_def (r.common.scale.val one)]
    · rw [L.div_def (r.common.scale.val one)]
  | gaussian | dragGaussian | hermiteGaussian | erfSquare | raisedCosine =>
    simp only []
    split
    · next h => rw [scaleIsZero_val L _ h, L.zero_mul, L.zero_mul]
    · rfl

theorem baseAt_padded (fmul : Dy → Dy → Dy) (r : Request K) (k j : Nat) (hkind : r.kind.padded = true) :
    baseAt fmul r k j = paddedEnv r.env (padLeft fmul r) k j := by
  unfold baseAt
  cases hk : r.kind <;> rw [hk] at hkind <;> first | rfl | cases hkind

theorem paddedEnv_outside (env : Nat → K) {left k j : Nat} (h : j < left ∨ left + k ≤ j) :
    paddedEnv env left k j = zero := by
  unfold paddedEnv
  rcases h with h | h
  · rw [if_pos h]
  · rw [if_neg (by omega), if_neg (by omega)]

theorem sample_get_padding (L : Laws K) (fmul : Dy → Dy → Dy) (r : Request K) (k : Nat)
    (hp : r.isPartial = false) (hkind : r.kind.padded = true)
    (h : resolveCount fmul r.common.duration r.rate = .ok k)
    (hfit : totalCount fmul r k ≤ usizeMax)
    (j : Nat) (hj : j < totalCount fmul r k) (hpad : j < padLeft fmul r ∨ padLeft fmul r + k ≤ j) :
    (sample fmul r).get? j = some zero := by
  rw [get?_sample fmul r k hp h hfit, if_pos hj, valueAt_eq L, baseAt_padded fmul r k j hkind,
    paddedEnv_outside r.env hpad, Laws.mul_zero L, L.zero_mul]

theorem Param.fill_of_known (p : Param K) (v : K) (h : p.isUnknown = false) : p.fill v = p := by
  cases p <;> simp_all [Param.fill, Param.isUnknown]

theorem Param.fill_isUnknown (p : Param K) (v : K) : (p.fill v).isUnknown = false := by
  cases p <;> simp [Param.fill, Param.isUnknown]

theorem allKnown_iff (c : Common K) : c.allKnown = true ↔
    c.scale.isUnknown = false ∧ c.phase.isUnknown = false ∧ c.detuning.isUnknown = false := by
  unfold Common.allKnown
  cases c.scale.isUnknown <;> cases c.phase.isUnknown <;> cases c.detuning.isUnknown <;> simp

theorem fill_totalCount (fmul : Dy → Dy → Dy) (r : Request K) (s p d : K) (k : Nat) :
    totalCount fmul (r.fill s p d) k = totalCount fmul r k := rfl

theorem withScale_isPartial (r : Request K) (a : K) (hp : r.isPartial = false) :
    (r.withScale a).isPartial = false := by
  rw [isPartial_false_iff] at hp ⊢
  obtain ⟨hall, hw⟩ := hp
  obtain ⟨_, h2, h3⟩ := (allKnown_iff _).1 hall
  exact ⟨(allKnown_iff _).2 ⟨rfl, h2, h3⟩, hw⟩

theorem withPhase_isPartial (r : Request K) (a : K) (hp : r.isPartial = false) :
    (r.withPhase a).isPartial = false := by
  rw [isPartial_false_iff] at hp ⊢
  obtain ⟨hall, hw⟩ := hp
  obtain ⟨h1, _, h3⟩ := (allKnown_iff _).1 hall
  exact ⟨(allKnown_iff _).2 ⟨h1, rfl, h3⟩, hw⟩

end QV.C32
