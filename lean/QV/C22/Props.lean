import QV.C22.Spec
import QV.C23.Props
import QV.C24.Props
/-
C22 — Every block's dependency graph is a well-formed DAG.
`C22_forward` is read off the block specifications of C23 and C24 (every edge is justified there with its direction);
`C22_connected` goes back to the state of `build` (`build_facts`): the queue invariant for RF instructions, the
bookkeeping of trailing classical instructions for the others.
-/
namespace QV.C22
open QV.Sched

/-- the same proposition as `C24.Hyp`; see there for why its two clauses hold of quil-rs -/
def Hyp (b : Block) : Prop :=
  (∀ p ∈ b.items, ((frameAccesses p.2).map (·.1)).Nodup) ∧ (∀ t, b.term = some t → t.role = .controlFlow)

private theorem item_valid (b : Block) (p : Node × Instr) (hp : p ∈ b.items) : Valid b.instrs.length p.1 := by
  rcases item_cases b p hp with ⟨i, h1, h2, _⟩ | ⟨h1, _⟩
  · rw [h1]; exact h2
  · rw [h1]; trivial

/-- **C22 (a).** Under `Hyp`, every edge of a successfully built graph joins nodes of the block and points from an
earlier position to a later one. -/
theorem C22_forward (b : Block) (es : List Edge) (h : buildBlock b = .ok es) (hyp : Hyp b) :
    (∀ e ∈ es, Valid b.instrs.length e.src ∧ Valid b.instrs.length e.dst) ∧
    (∀ e ∈ es, e.src.pos b.instrs.length < e.dst.pos b.instrs.length) := by
  have hm := (C23.C23_build_memSpec b es h).justified
  have hf := C24.C24_build_frameSpec b es h hyp
  have start : ∀ {x : Node}, x = .start → Valid b.instrs.length x := fun hx => hx ▸ trivial
  have stop : ∀ {x : Node}, x = .stop → Valid b.instrs.length x := fun hx => hx ▸ trivial
  have touches : ∀ {t x f k}, C24.TouchesF b t x f k → Valid b.instrs.length x :=
    fun ⟨_, hi, _⟩ => item_valid b _ hi
  have classical : ∀ {x}, C24.IsClassical b x → Valid b.instrs.length x := fun ⟨_, hi, _⟩ => item_valid b _ hi
  have frameJust : ∀ {t e}, C24.FrameJust b t e → Valid b.instrs.length e.src ∧ Valid b.instrs.length e.dst :=
    fun ⟨_, _, _, h1, h2, _⟩ => ⟨h1.elim (fun h => start h.1) touches, touches h2⟩
  have endJust : ∀ {t e}, C24.EndJust b t e → Valid b.instrs.length e.src ∧ Valid b.instrs.length e.dst :=
    fun ⟨h1, h2⟩ => ⟨h2.elim start fun ⟨_, _, h⟩ => touches h, stop h1⟩
  have all : ∀ e ∈ es, (Valid b.instrs.length e.src ∧ Valid b.instrs.length e.dst) ∧
      e.src.pos b.instrs.length < e.dst.pos b.instrs.length := by
    intro e he
    cases hl : e.label with
    | await k =>
      obtain ⟨h1, _, _, ⟨_, hi, _⟩, ⟨_, hj, _⟩, _⟩ := hm e he k hl
      exact ⟨⟨item_valid b _ hi, item_valid b _ hj⟩, h1⟩
    | scheduled =>
      obtain ⟨h1, h2⟩ := hf.schedJust e he hl
      exact ⟨h2.elim frameJust endJust, h1⟩
    | stable =>
      obtain ⟨h1, h2 | h2 | h2 | h2 | h2⟩ := hf.stableJust e he hl
      · exact ⟨frameJust h2, h1⟩
      · exact ⟨endJust h2, h1⟩
      · exact ⟨⟨start h2.1, classical h2.2⟩, h1⟩
      · exact ⟨⟨classical h2.1, stop h2.2⟩, h1⟩
      · exact ⟨⟨start h2.1, stop h2.2.1⟩, h1⟩
  exact ⟨fun e he => (all e he).1, fun e he => (all e he).2⟩

/-- **C22 (b): acyclic.** In any graph whose edges all point forward, no node lies on a cycle. -/
theorem C22_acyclic_of_forward (L : Nat) (es : List Edge)
    (hf : ∀ e ∈ es, e.src.pos L < e.dst.pos L) (u : Node) : ¬ Path1 es u u := by
  rintro ⟨e, he, hsrc, hr⟩
  have h1 := hf e he
  rcases Reach.measure_le (Node.pos L) (fun e he _ => hf e he) hr with h | h
  · rw [h, hsrc] at h1; exact Nat.lt_irrefl _ h1
  · rw [hsrc] at h1; exact Nat.lt_irrefl _ (Nat.lt_trans h1 h)

/-- **C22 (b).** Under `Hyp`, a successfully built graph is acyclic. -/
theorem C22_acyclic (b : Block) (es : List Edge) (h : buildBlock b = .ok es) (hyp : Hyp b) (u : Node) :
    ¬ Path1 es u u :=
  C22_acyclic_of_forward b.instrs.length es (C22_forward b es h hyp).2 u

/-- **C22 (c).** Under `Hyp`, when every RF-control instruction matches at least one frame, every instruction
node is reachable from the block start and reaches the block end. -/
theorem C22_connected (b : Block) (es : List Edge) (h : buildBlock b = .ok es) (hyp : Hyp b)
    (hrf : RfMatches b) (i : Nat) (hi : i < b.instrs.length) :
    Reach es anyLabel .start (.instr i) ∧ Reach es anyLabel (.instr i) .stop := by
  obtain ⟨hvalid, hfwd⟩ := C22_forward b es h hyp
  obtain ⟨st, rfl, inv⟩ := build_facts h
  have ho := inv.ord
  have hsub := sub_finish b st
  have hcl := inv.classical
  have edge : ∀ {e : Edge}, e ∈ st.edges → Reach (finish b st) anyLabel e.src e.dst :=
    fun {e} he => Reach.edge (l := e.label) (hsub _ he) rfl
  have item : ∀ j, j < b.instrs.length → ∃ x, ((Node.instr j, x) : Node × Instr) ∈ b.items ∧
      (x.role = .classical ∨ frameAccesses x ≠ []) := by
    intro j hj
    have hx : b.instrs[j]? = some b.instrs[j] := List.getElem?_eq_getElem hj
    have hitem := mem_items_of_getElem hx
    refine ⟨_, hitem, ?_⟩
    rcases (inv.roles _ hitem).2 with h1 | h1 | ⟨-, h1⟩
    · exact .inl h1
    · exact .inr (hrf _ (List.mem_of_getElem? hx) h1)
    · cases h1
  -- an RF instruction: its frame accesses are logged, so it comes after the initial user and before what is pending
  have rfCase : ∀ j x, ((Node.instr j, x) : Node × Instr) ∈ b.items → frameAccesses x ≠ [] →
      Reach (finish b st) anyLabel .start (.instr j) ∧ Reach (finish b st) anyLabel (.instr j) .stop := by
    intro j x hitem hfr
    obtain ⟨a, ha⟩ := List.exists_mem_of_ne_nil _ hfr
    have hlog : (⟨.instr j, a.1, a.2⟩ : Access) ∈ ordLog b.items := mem_accLog.2 ⟨x, hitem, ha⟩
    obtain ⟨d, hd, hr⟩ := ho.reaches_pending hlog
    exact ⟨(ho.afterInit ⟨.write, .start⟩ rfl _ hlog).weaken fun _ _ => rfl,
      (hr.weaken fun _ _ => rfl).trans (Reach.edge (l := .stable) (finish_of_pending hd) rfl)⟩
  -- a classical instruction has an edge from the start or from an earlier instruction (induction on the index) …
  have fromStart : ∀ j, j < b.instrs.length → Reach (finish b st) anyLabel .start (.instr j) := by
    intro j
    induction j using Nat.strongRecOn with
    | ind j ih =>
      intro hj
      obtain ⟨x, hitem, hc | hfr⟩ := item j hj
      · obtain ⟨⟨e, he, hdst, -⟩, -⟩ := hcl _ (mem_classicalNodes.2 ⟨x, hitem, hc⟩)
        have hre := edge he
        have hf := hfwd e (hsub e he)
        have hv := (hvalid e (hsub e he)).1
        rw [hdst] at hre hf
        cases hs : e.src with
        | start => exact hs ▸ hre
        | instr k =>
          rw [hs] at hre hf hv
          exact (ih k (Nat.lt_of_succ_lt_succ hf) hv).trans hre
        | stop =>
          rw [hs] at hf
          exact absurd (Nat.lt_of_succ_lt_succ hf) (Nat.not_lt.2 (Nat.le_of_lt hj))
      · exact (rfCase j x hitem hfr).1
  -- … and is still trailing at the end or has an edge to a later instruction or the end (induction on the distance)
  have toEnd : ∀ d j, j < b.instrs.length → b.instrs.length - j ≤ d →
      Reach (finish b st) anyLabel (.instr j) .stop := by
    intro d
    induction d with
    | zero => intro j hj hd; omega
    | succ d ih =>
      intro j hj hd
      obtain ⟨x, hitem, hc | hfr⟩ := item j hj
      · obtain ⟨-, htrail | ⟨e, he, hsrc, -⟩⟩ := hcl _ (mem_classicalNodes.2 ⟨x, hitem, hc⟩)
        · exact Reach.edge (l := .stable) (finish_of_trailing htrail) rfl
        · have hre := edge he
          have hf := hfwd e (hsub e he)
          have hv := (hvalid e (hsub e he)).2
          rw [hsrc] at hre hf
          cases hs : e.dst with
          | start => rw [hs] at hf; exact absurd hf (Nat.not_lt_zero _)
          | instr k =>
            rw [hs] at hre hf hv
            exact hre.trans (ih k hv (by have := Nat.lt_of_succ_lt_succ hf; omega))
          | stop => exact hs ▸ hre
      · exact (rfCase j x hitem hfr).2
  exact ⟨fromStart i hi, toEnd _ i hi (Nat.le_refl _)⟩

/-- **C22**: the clauses of `DagSpec` together (acyclicity follows from `forward`:
`C22_acyclic_of_forward`). -/
theorem C22_build_dagSpec (b : Block) (es : List Edge) (h : buildBlock b = .ok es) (hyp : Hyp b) :
    DagSpec b es :=
  ⟨(C22_forward b es h hyp).1, (C22_forward b es h hyp).2, fun hrf i hi => C22_connected b es h hyp hrf i hi⟩

open QV.HandlerFromAst in
/-- **C22 for every AST program and every block of its control-flow graph.** The handler's answers are computed
from the AST (C27's and C26's proved models, the role table), the blocks by C28's proved model; `Hyp` is a theorem
(`schedBlock_hyp`). Whenever `build` succeeds the graph is a well-formed DAG, and if every RF-control instruction
of the block uses or blocks at least one DEFINED frame — by C26's specification `UsedBy` / `BlockedBy` — every
instruction node is reachable from the start and reaches the end. -/
theorem C22_ast_dagSpec (p : AProgram) (ab : ABlock) (hab : ab ∈ astBlocks p) (es : List Edge)
    (h : buildBlock (schedBlock p ab) = .ok es) :
    (∀ e ∈ es, Valid ab.instrs.length e.src ∧ Valid ab.instrs.length e.dst) ∧
    (∀ e ∈ es, e.src.pos ab.instrs.length < e.dst.pos ab.instrs.length) ∧
    (∀ u, ¬ Path1 es u u) ∧
    ((∀ i ∈ ab.instrs, role i = .rf → ∃ f k, FrameAccessA p i f k) → ∀ n, n < ab.instrs.length →
      Reach es anyLabel .start (.instr n) ∧ Reach es anyLabel (.instr n) .stop) := by
  have hyp : Hyp (schedBlock p ab) := schedBlock_hyp p ab hab
  have hspec := C22_build_dagSpec _ es h hyp
  have hlen := schedBlock_length p ab
  refine ⟨hlen ▸ hspec.valid, hlen ▸ hspec.forward, C22_acyclic _ es h hyp, fun hrf n hn => ?_⟩
  refine hspec.connected ?_ n (hlen ▸ hn)
  intro ins hins hr
  obtain ⟨i, hi, rfl⟩ := List.mem_map.1 hins
  obtain ⟨f, k, hf⟩ := hrf i hi hr
  exact List.ne_nil_of_mem ((mem_frameAccesses_answers p i (frameId p f, k)).2 ⟨f, rfl, hf⟩)

theorem C22_checker_sound (b : Block) (es : List Edge) (h : dagSpecB b es = true) : DagSpec b es := by
  simp only [dagSpecB, Bool.and_eq_true, List.all_eq_true, decide_eq_true_eq, Bool.or_eq_true,
    Bool.not_eq_true'] at h
  refine ⟨fun e he => (h.1 e he).1, fun e he => (h.1 e he).2, ?_⟩
  intro hrf i hi
  rcases h.2 with h2 | h2
  · exfalso
    simp only [rfMatchesB, List.all_eq_false, Bool.or_eq_true, Bool.not_eq_true', decide_eq_false_iff_not,
      not_or, Bool.not_eq_false, List.isEmpty_iff] at h2
    obtain ⟨x, hx, h3, h4⟩ := h2
    exact hrf x hx (Decidable.not_not.1 h3) h4
  · have := h2 i (List.mem_range.2 hi)
    exact ⟨reachFrom_sound this.1, reachFrom_sound this.2⟩

theorem C22_hyp_checker (b : Block) (h : hypB b = true) : Hyp b :=
  C24.C24_hyp_checker b h

private def exBlock : Block :=
  { instrs := [
      ⟨.classical, false, false, [], [0], [], none⟩,
      ⟨.rf, true, false, [0], [], [], some ([0], [1])⟩,
      ⟨.classical, false, false, [0], [1], [], none⟩,
      ⟨.rf, false, false, [], [], [1], some ([1], [])⟩,
      ⟨.classical, false, false, [], [], [], none⟩],
    term := some ⟨.controlFlow, false, false, [1], [], [], none⟩ }

example : hypB exBlock = true ∧ rfMatchesB exBlock = true := by decide +kernel

set_option maxRecDepth 8192 in
example : ∃ es, buildBlock exBlock = .ok es ∧ dagSpecB exBlock es = true ∧
    (⟨.instr 3, .stop, .await .capture⟩ : Edge) ∈ es ∧ (⟨.instr 4, .stop, .stable⟩ : Edge) ∈ es :=
  ⟨_, rfl, by decide +kernel, by decide +kernel, by decide +kernel⟩

set_option maxRecDepth 8192 in
/-- the checker rejects a backward edge and a disconnected instruction -/
example : ∃ es, buildBlock exBlock = .ok es ∧ dagSpecB exBlock (⟨.instr 3, .instr 1, .stable⟩ :: es) = false ∧
    dagSpecB exBlock (es.filter fun e => e.src ≠ .instr 4) = false :=
  ⟨_, rfl, by decide +kernel, by decide +kernel⟩

/-- without the hypothesis of clause (c) the conclusion can fail: an RF instruction matching no frame is
an isolated node -/
example : ∃ es, buildBlock ⟨[⟨.rf, true, false, [], [], [], some ([], [])⟩], none⟩ = .ok es ∧ es = [] :=
  ⟨_, rfl, by decide +kernel⟩

end QV.C22
