import QV.C11.Spec
import QV.Shared.Upsert
/-
C11's containers are ordered maps in the sense of `Shared/Upsert.lean`: `insert` is `upsertBy Prod.fst`, `extend`
its fold, `lookup` the value of `find?` on the key, and the used-qubit set a map whose elements are their own
keys. Here: these equations, and what follows from the general theory with fewer hypotheses than C11 states.
-/
namespace QV.C11

theorem lookup_eq (k : String) (l : Assoc) :
    lookup k l = (l.find? (fun x => x.1 = k)).map Prod.snd := by
  induction l with
  | nil => rfl
  | cons x xs ih =>
    rw [List.find?_cons]
    by_cases h : x.1 = k <;> simp [lookup, h, ih]

theorem extend_eq (a b : Assoc) : extend a b = b.foldl (upsertBy Prod.fst) a := by
  have step : ∀ (acc : Assoc) (kv : String × String), insert kv.1 kv.2 acc = upsertBy Prod.fst acc kv := by
    intro acc kv
    induction acc with
    | nil => rfl
    | cons x xs ih =>
      unfold insert upsertBy
      split
      · next h => rw [h]
      · rw [ih]
  unfold extend
  congr
  funext acc kv
  exact step acc kv

theorem unionSet_eq (a b : List String) : unionSet a b = b.foldl (upsertBy id) a := by
  have step : ∀ (acc : List String) (x : String),
      (if acc.contains x then acc else acc ++ [x]) = upsertBy id acc x := by
    intro acc x
    induction acc with
    | nil => rfl
    | cons y ys ih =>
      by_cases h : y = x
      · simp [upsertBy, h]
      · have h' : ¬ x = y := fun e => h e.symm
        rw [upsertBy_cons_ne id h, ← ih]
        by_cases hc : x ∈ ys <;> simp [hc, h']
  unfold unionSet
  congr
  funext acc x
  exact step acc x

theorem lookup_extend_of_not_mem (a b : Assoc) (k : String) (h : k ∉ keys b) :
    lookup k (extend a b) = lookup k a := by
  have hr : b.reverse.find? (fun x => x.1 = k) = none :=
    List.find?_eq_none.mpr fun x hx e =>
      h (List.mem_map.mpr ⟨x, List.mem_reverse.mp hx, of_decide_eq_true e⟩)
  rw [lookup_eq, lookup_eq, extend_eq, find?_foldl_upsertBy, hr, Option.none_or]

theorem extend_extend (a b c : Assoc) (ha : (keys a).Nodup) (hb : (keys b).Nodup) :
    extend (extend a b) c = extend a (extend b c) := by
  simp only [extend_eq]
  exact (foldl_upsertBy_assoc Prod.fst c hb ha).symm

theorem add_assoc_definitions (a b c : Program) (ha : WF a) (hb : WF b) :
    { add (add a b) c with usedQubits := [] } = { add a (add b c) with usedQubits := [] } := by
  simp only [WF] at ha hb
  simp only [add, addAssign, List.append_assoc, extend_extend, ha, hb]

end QV.C11
