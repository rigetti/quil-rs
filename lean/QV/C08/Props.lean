import QV.C09.Props  -- the order and last-value clauses are fields of `C09_listing_spec`
import QV.C08.Model
/-
C08 — Serialization is deterministic and keeps definition order.

"Building a program from the same sequence of instructions always yields byte-identical serialized
text, in the same process or another. Within each definition kind, output follows the order in which
each definition was first added, and a redefinition with the same key replaces the earlier one in
place."  (quantifier: programs with several definitions of each kind, built repeatedly, including
via concatenation)

Model: `QV/Shared/Program.lean` — every container, FrameSet included (an IndexMap since fix
483e58b), is an ordered association list; nothing in the model depends on anything but the
history, so "deterministic" is, in the model, the statement that every construction route of the
same history yields the same program text (`C08_route_independent`); that the running binary has no
hidden source of order (hash seeds) is what the correspondence check measures (8 in-process builds
through different routes + one build in a fresh process, byte-compared).
All theorems are unbounded (any history, any number of definitions, any split).

DERIVED programs (`derive`, `C08/Model.lean`): every program-producing operation keeps the first-added order of each
definition container (`OrdPres`, `C08_derived_order`).
-/
namespace QV.C08
open QV.Prog QV.C09

/-- within each definition kind the listed keys are the history's keys of that kind in the order of
their FIRST occurrence, each listed once -/
theorem C08_key_order (is : List Instr) (k : Kind) (hk : k ≠ .body) :
    keys (ofKind k (toInstructions (fromInstructions is))) = firstOcc (keys (ofKind k is)) :=
  (C09_listing_spec is).keyOrder k hk

/-- every listed definition is the LAST one the history gives for its kind and key -/
theorem C08_last_value (is : List Instr) (x : Instr) (hx : x ∈ toInstructions (fromInstructions is))
    (hb : x.kind ≠ .body) : lookupLast (ofKind x.kind is) x.key = some x :=
  (C09_listing_spec is).lastValue x hx hb

theorem C08_keys_once (is : List Instr) (k : Kind) (hk : k ≠ .body) :
    (keys (ofKind k (toInstructions (fromInstructions is)))).Nodup := by
  rw [C08_key_order is k hk]; exact firstOcc_nodup _

theorem C08_firstOcc_spec (ks : List String) :
    (firstOcc ks).Nodup ∧ (∀ k, k ∈ firstOcc ks ↔ k ∈ ks) ∧ (firstOcc ks).Sublist ks :=
  ⟨firstOcc_nodup ks, mem_firstOcc ks, firstOcc_sublist ks⟩

/-- adding a definition whose key is already present changes neither the key sequence of its
container (so its position in the output stays) nor any other entry; the entry under that key is
the new definition -/
theorem C08_redefinition_in_place (p : Program) (i : Instr) (hb : i.kind ≠ .body)
    (hk : i.key ∈ keys (p.container i.kind)) :
    keys ((add p i).container i.kind) = keys (p.container i.kind) ∧
    lookup ((add p i).container i.kind) i.key = some i ∧
    (∀ key, key ≠ i.key → lookup ((add p i).container i.kind) key = lookup (p.container i.kind) key) ∧
    (∀ k, k ≠ i.kind → (add p i).container k = p.container k) := by
  rw [container_add_self p hb]
  exact ⟨by rw [keys_upsert, if_pos hk], by rw [lookup_upsert, if_pos rfl],
    fun key hne => by rw [lookup_upsert, if_neg (Ne.symm hne)],
    fun k hne => by rw [container_add, if_neg (Ne.symm hne)]⟩

theorem C08_new_key_appended (p : Program) (i : Instr) (hb : i.kind ≠ .body)
    (hk : i.key ∉ keys (p.container i.kind)) :
    (add p i).container i.kind = p.container i.kind ++ [i] := by
  rw [container_add_self p hb, upsert_of_not_mem hk]

/-- the listing of a well-formed program goes kind by kind, in the order `to_instructions` uses (`Kind.all`) -/
theorem C08_kind_order {p : Program} (h : WF p) :
    toInstructions p = Kind.all.flatMap (fun k => ofKind k (toInstructions p)) :=
  toInstructions_eq_flatMap_ofKind h

/-- `p += from_instructions(b)` is exactly `p.add_instructions(b)`: concatenation inserts the right
operand's definitions as if they had been added one by one, in order (cache included) -/
theorem C08_concat_is_add {p : Program} (hp : WF p) (b : List Instr) :
    concat p (fromInstructions b) = addMany p b := by
  rw [fromInstructions, concat_addMany hp wf_empty, concat_empty]

theorem C08_concat_histories (a b : List Instr) :
    concat (fromInstructions a) (fromInstructions b) = fromInstructions (a ++ b) := by
  rw [C08_concat_is_add (wf_fromInstructions a)]
  exact (addMany_append empty a b).symm

private theorem foldl_concat (p : List Instr) (cs : List (List Instr)) :
    cs.foldl (fun acc d => concat acc (fromInstructions d)) (fromInstructions p) =
      fromInstructions (p ++ cs.flatten) := by
  induction cs generalizing p with
  | nil => simp
  | cons c cs ih =>
    simp only [List.foldl_cons, C08_concat_histories, ih, List.flatten_cons, List.append_assoc]

theorem C08_route_independent (chunks : List (List Instr)) :
    buildChunks chunks = fromInstructions chunks.flatten := by
  cases chunks with
  | nil => rfl
  | cons c cs => simp only [buildChunks, foldl_concat, List.flatten_cons]

/-- the harness' routes (`chunksAt`) are routes of the same history -/
theorem C08_chunksAt_flatten (is : List Instr) (cuts : List Nat) : (chunksAt is cuts).flatten = is := by
  have : ∀ (cs : List Nat) (rest : List Instr) (start : Nat), (chunksAt.go is rest start cs).flatten = rest := by
    intro cs
    induction cs with
    | nil => intro rest start; simp [chunksAt.go]
    | cons c cs ih => intro rest start; simp [chunksAt.go, ih]
  exact this cuts is 0

theorem C08_deterministic_text (chunks₁ chunks₂ : List (List Instr)) (h : chunks₁.flatten = chunks₂.flatten) :
    print (buildChunks chunks₁) = print (buildChunks chunks₂) := by
  rw [C08_route_independent, C08_route_independent, h]

/-- the two routes the harness compares (whole history, history cut at arbitrary positions) give
the same program -/
theorem C08_cut_route (is : List Instr) (cuts : List Nat) :
    buildChunks (chunksAt is cuts) = fromInstructions is := by
  rw [C08_route_independent, C08_chunksAt_flatten]

theorem C08_print_lines (p : Program) :
    print p = String.join ((toInstructions p).map fun i => i.text ++ "\n") := rfl

private def f0 : Instr := ⟨.frame, "0 \"rf\"", 0, "DEFFRAME 0 \"rf\":\n\tDIRECTION: \"tx\"", []⟩
private def f1 : Instr := ⟨.frame, "1 \"rf\"", 1, "DEFFRAME 1 \"rf\":\n\tDIRECTION: \"tx\"", []⟩
private def f2 : Instr := ⟨.frame, "0 1 \"cz\"", 2, "DEFFRAME 0 1 \"cz\":\n\tDIRECTION: \"tx\"", []⟩
private def f0' : Instr := ⟨.frame, "0 \"rf\"", 3, "DEFFRAME 0 \"rf\":\n\tDIRECTION: \"rx\"", []⟩
private def w0 : Instr := ⟨.waveform, "wf", 4, "DEFWAVEFORM wf:\n\t1", []⟩
private def g0 : Instr := ⟨.body, "", 5, "X 0", [.fixed 0]⟩

/-- three frames, one redefined later: it keeps the FIRST position and shows the LAST value -/
example : toInstructions (fromInstructions [f0, g0, f1, w0, f2, f0']) = [f0', f1, f2, w0, g0] := rfl
example : keys (ofKind .frame (toInstructions (fromInstructions [f0, g0, f1, w0, f2, f0']))) =
    ["0 \"rf\"", "1 \"rf\"", "0 1 \"cz\""] := rfl
example : buildChunks [[f0, g0], [f1, w0, f2], [f0']] = fromInstructions [f0, g0, f1, w0, f2, f0'] :=
  C08_route_independent _
example : firstOcc ["b", "a", "b", "c", "a"] = ["b", "a", "c"] := by decide +kernel

/-- "first-added order is kept": the keys already in `base` come first and form a sub-list of
`base` (same relative order); keys new to `base` follow -/
def OrdPres (base out : List String) : Prop :=
  ∃ sub rest, sub.Sublist base ∧ out = sub ++ rest ∧ ∀ x ∈ rest, x ∉ base

/-- the Bool checker evaluated on the implementation's listings decides `OrdPres` -/
theorem C08_ordPres_iff (base out : List String) : ordPres base out = true ↔ OrdPres base out := by
  constructor
  · intro h
    simp only [ordPres, Bool.and_eq_true, beq_iff_eq, List.isSublist_iff_sublist] at h
    refine ⟨_, _, h.2, h.1, ?_⟩
    intro x hx; simp only [List.mem_filter, Bool.not_eq_true', List.contains_eq_mem, decide_eq_false_iff_not] at hx
    exact hx.2
  · rintro ⟨sub, rest, hs, rfl, hr⟩
    have h1 : (sub ++ rest).filter (fun k => base.contains k) = sub := by
      rw [List.filter_append, List.filter_eq_self.mpr fun x hx => by simpa using hs.subset hx,
        List.filter_eq_nil_iff.mpr fun x hx => by simpa using hr x hx, List.append_nil]
    have h2 : (sub ++ rest).filter (fun k => !base.contains k) = rest := by
      rw [List.filter_append, List.filter_eq_nil_iff.mpr fun x hx => by simpa using hs.subset hx,
        List.filter_eq_self.mpr fun x hx => by simpa using hr x hx, List.nil_append]
    simp only [ordPres, h1, h2, Bool.and_eq_true, beq_iff_eq, List.isSublist_iff_sublist, true_and]
    exact hs

theorem OrdPres.refl (l : List String) : OrdPres l l := ⟨l, [], List.Sublist.refl l, by simp, by simp⟩

theorem OrdPres.sublist {base out out' : List String} (h : OrdPres base out) (hs : out'.Sublist out) :
    OrdPres base out' := by
  obtain ⟨sub, rest, h1, rfl, h3⟩ := h
  obtain ⟨l1, l2, rfl, hl1, hl2⟩ := List.sublist_append_iff.mp hs
  exact ⟨l1, l2, hl1.trans h1, rfl, fun x hx => h3 x (hl2.subset hx)⟩

theorem OrdPres.of_sublist {base out : List String} (h : out.Sublist base) : OrdPres base out :=
  (OrdPres.refl base).sublist h

theorem OrdPres.of_sub {l m : List Instr} (h : l.Sublist m) : OrdPres (keys m) (keys l) :=
  .of_sublist (keys_sublist h)

private theorem keys_filter_key (l : List Instr) (P : String → Bool) :
    keys (l.filter (fun f => P f.key)) = (keys l).filter P := by
  induction l with
  | nil => rfl
  | cons x xs ih =>
    by_cases h : P x.key <;> simp [h, ih]

theorem ordPres_foldl_upsert (l xs : List Instr) : OrdPres (keys l) (keys (xs.foldl upsert l)) := by
  rw [keys_foldl_upsert]
  refine ⟨keys l, _, List.Sublist.refl _, rfl, ?_⟩
  intro x hx; simp only [List.mem_filter, decide_eq_true_eq] at hx; exact hx.2

private theorem eraseKey_sublist (l : List Instr) (k : String) : (eraseKey l k).Sublist l := by
  induction l with
  | nil => simp [eraseKey]
  | cons x xs ih =>
    by_cases h : x.key = k
    · simp [eraseKey, h]
    · simp only [eraseKey, h, if_false]; exact ih.cons_cons x

/-- the operations whose opaque input is well-formed: sequence expansion produces body instructions -/
def DOp.valid : DOp → Bool
  | .expSeq _ out => out.all (fun x => x.kind == .body)
  | .sum a b => a.valid && b.valid
  | _ => true

private theorem ordPres_addMany {p p' : Program} {k : Kind} (hk : k ≠ .body)
    (e : p'.container k = p.container k) (is : List Instr) :
    OrdPres (keys (p.container k)) (keys ((addMany p' is).container k)) := by
  rw [container_addMany, if_neg hk, e]; exact ordPres_foldl_upsert _ _

private theorem ordPres_expandCalibrations (p : Program) (out : List Instr) {k : Kind} (hk : k ≠ .body) :
    OrdPres (keys (p.container k)) (keys ((expandCalibrations p out).container k)) :=
  ordPres_addMany hk (by rw [container_rebuildUsed, container_cloneWithoutBody_of_ne p hk]) out

/-- derived programs: for every producing operation other than `+` (with valid opaque input), every
definition container of the result keeps the first-added order of the program it was applied to
(a filtered set is a sub-list of the original order; additions go to the end) -/
theorem C08_derived_order (p q : Program) (op : DOp) (hv : op.valid = true)
    (hs : ∀ a b, op ≠ .sum a b) (k : Kind) (hk : k ≠ .body) :
    OrdPres (keys (p.container k)) (keys ((derive p q op).container k)) := by
  -- every container of the result is untouched, a sub-list of the old one, an `extend` of it, or
  -- the result of `add_instructions` on a program with the old definitions
  cases op with
  | sum a b => exact absurd rfl (hs a b)
  | clone => exact .refl _
  | cloneWb => exact .of_sub (cloneWithoutBody_sublist p k)
  | resolve nb =>
    cases k
    case body => exact absurd rfl hk
    all_goals exact .refl _
  | intersect ks =>
    cases k
    case frame => exact .of_sub List.filter_sublist
    all_goals exact .refl _
  | merge =>
    cases k
    case frame => exact ordPres_foldl_upsert _ _
    all_goals exact .refl _
  | calExtend =>
    cases k
    case cal | mcal => exact ordPres_foldl_upsert _ _
    all_goals exact .refl _
  | extExtend =>
    cases k
    case extern => exact ordPres_foldl_upsert _ _
    all_goals exact .refl _
  | calRemove key =>
    cases k
    case cal => exact .of_sub (eraseKey_sublist _ _)
    all_goals exact .refl _
  | mcalRemove key =>
    cases k
    case mcal => exact .of_sub (eraseKey_sublist _ _)
    all_goals exact .refl _
  | expCal out => exact ordPres_expandCalibrations p out hk
  | wrap n hd tl =>
    match n with
    | 0 => exact .of_sub (cloneWithoutBody_sublist p k)
    | 1 => exact .refl _
    | n + 2 => exact ordPres_addMany hk (container_cloneWithoutBody_of_ne p hk) _
  | expSeq kept out =>
    -- the expander's output is body only, so the definitions are those of the filtered clone
    have hb : ∀ x ∈ out, x.kind = .body := by simpa [DOp.valid] using hv
    rw [derive, expandSequences, container_addMany, if_neg hk, ofKind_eq_nil hb (Ne.symm hk), List.foldl_nil]
    cases k
    case body => exact absurd rfl hk
    case gateDef => exact .of_sub List.filter_sublist
    all_goals exact .refl _
  | simplify out kF kW kE =>
    -- expansion appends new keys; then calibrations are dropped and three containers filtered
    exact (ordPres_expandCalibrations p out hk).sublist
      (keys_sublist ((simplify_sublist ..).trans (simpMid_sublist ..)))

/-- `+` with derived operands: the sum keeps the left operand's order, the right operand's new definitions are
appended -/
theorem C08_derived_sum_order (p q : Program) (a b : DOp) (k : Kind) (hk : k ≠ .body) :
    OrdPres (keys ((derive p q a).container k)) (keys ((derive p q (.sum a b)).container k)) := by
  simp only [derive]
  rw [container_concat]; simp only [hk, if_false, extendMap]
  exact ordPres_foldl_upsert _ _

/-- a set operation that only filters yields exactly the sub-list of the original order selected by
the predicate (`FrameSet::intersection`) -/
theorem C08_intersection_is_filter (p q : Program) (ks : List String) :
    (derive p q (.intersect ks)).frames = p.frames.filter (fun f => ks.contains f.key) ∧
    (keys (derive p q (.intersect ks)).frames).Sublist (keys p.frames) :=
  ⟨rfl, keys_sublist List.filter_sublist⟩

example : ordPres ["a", "b", "c", "d"] ["a", "c", "x"] = true := by decide
/-- a kept pair in the wrong relative order is rejected -/
example : ordPres ["a", "b", "c", "d"] ["c", "a"] = false := by decide
/-- an old key after a new one is rejected -/
example : ordPres ["a", "b"] ["x", "a"] = false := by decide

end QV.C08
