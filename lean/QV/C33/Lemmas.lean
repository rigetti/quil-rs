import QV.C33.Model
import QV.Shared.Upsert
/-
C33 helper definitions and lemmas: the declarative small-step relation `Steps`, its link to the
fuel-bounded interpreter `run`, and the embedding of a body's execution into the wrapped program.
-/
namespace QV.C33

def evs : Option Instr → List Instr
  | none => []
  | some e => [e]

theorem consEv_eq (ev : Option Instr) (tr : List Instr) : consEv ev tr = tr ++ evs ev := by
  cases ev <;> simp [consEv, evs]

/-- Reflexive-transitive closure of `step`, collecting the events in order. -/
inductive Steps (P : List Instr) : Nat → Mem → List Instr → Nat → Mem → Prop where
  | refl (pc : Nat) (m : Mem) : Steps P pc m [] pc m
  | cons {pc pc' pc'' : Nat} {m m' m'' : Mem} {ev : Option Instr} {tr : List Instr} :
      step P pc m = .next pc' m' ev → Steps P pc' m' tr pc'' m'' →
      Steps P pc m (evs ev ++ tr) pc'' m''

theorem Steps.trans {P : List Instr} {a b c : Nat} {m1 m2 m3 : Mem} {t1 t2 : List Instr}
    (h1 : Steps P a m1 t1 b m2) (h2 : Steps P b m2 t2 c m3) : Steps P a m1 (t1 ++ t2) c m3 := by
  induction h1 with
  | refl => simpa using h2
  | cons hs _ ih =>
    rw [List.append_assoc]
    exact Steps.cons hs (ih h2)

theorem Steps.single {P : List Instr} {pc pc' : Nat} {m m' : Mem} {ev : Option Instr}
    (h : step P pc m = .next pc' m' ev) : Steps P pc m (evs ev) pc' m' := by
  have := Steps.cons h (Steps.refl pc' m')
  simpa using this

/-- The program, started at `(pc, m)`, finishes by running past its last instruction with events
`tr` and final memory `m'`. -/
def Finishes (P : List Instr) (pc : Nat) (m : Mem) (tr : List Instr) (m' : Mem) : Prop :=
  ∃ pc', Steps P pc m tr pc' m' ∧ step P pc' m' = .done

theorem run_of_steps {P : List Instr} {pc pc' : Nat} {m m' : Mem} {tr : List Instr}
    (h : Steps P pc m tr pc' m') (hd : step P pc' m' = .done) :
    ∃ fuel, ∀ extra tr0, run P (fuel + extra) pc m tr0 = .done m' (tr0 ++ tr) := by
  induction h with
  | refl pc m =>
    refine ⟨1, fun extra tr0 => ?_⟩
    rw [show 1 + extra = extra + 1 by omega]
    simp [run, hd]
  | cons hs _ ih =>
    obtain ⟨fuel, hf⟩ := ih hd
    refine ⟨fuel + 1, fun extra tr0 => ?_⟩
    rw [show fuel + 1 + extra = (fuel + extra) + 1 by omega]
    simp only [run, hs]
    rw [hf, consEv_eq, List.append_assoc]

theorem steps_of_run {P : List Instr} : ∀ (fuel pc : Nat) (m : Mem) (tr0 T : List Instr) (m' : Mem),
    run P fuel pc m tr0 = .done m' T → ∃ tr, T = tr0 ++ tr ∧ Finishes P pc m tr m' := by
  intro fuel
  induction fuel with
  | zero => intro pc m tr0 T m' h; simp [run] at h
  | succ fuel ih =>
    intro pc m tr0 T m' h
    simp only [run] at h
    cases hs : step P pc m with
    | next pc1 m1 ev =>
      rw [hs] at h
      obtain ⟨tr, hT, pc', hst, hd⟩ := ih _ _ _ _ _ h
      refine ⟨evs ev ++ tr, ?_, pc', Steps.cons hs hst, hd⟩
      rw [hT, consEv_eq, List.append_assoc]
    | done =>
      rw [hs] at h
      simp only [Outcome.done.injEq] at h
      obtain ⟨rfl, rfl⟩ := h
      exact ⟨[], by simp, pc, Steps.refl _ _, hs⟩
    | haltInstr => rw [hs] at h; simp at h
    | stuck => rw [hs] at h; simp at h

theorem findLabel_eq (t : Target) (P : List Instr) : findLabel t P = P.findIdx? (· == .label t) := by
  induction P with
  | nil => rfl
  | cons x xs ih => simp only [findLabel, List.findIdx?_cons, ih, beq_iff_eq]

theorem findLabel_append (t : Target) (xs ys : List Instr) :
    findLabel t (xs ++ ys) = (findLabel t xs).or ((findLabel t ys).map (· + xs.length)) := by
  simp only [findLabel_eq, List.findIdx?_append]

theorem findLabel_lt {t : Target} {P : List Instr} {i : Nat} (h : findLabel t P = some i) : i < P.length :=
  (List.findIdx?_eq_some_iff_getElem.1 (findLabel_eq t P ▸ h)).1

theorem step_next_cases {P : List Instr} {pc pc' : Nat} {m m' : Mem} {ev : Option Instr}
    (h : step P pc m = .next pc' m' ev) :
    ∃ x, P[pc]? = some x ∧
      ((pc' = pc + 1 ∧ (m' = m ∨ ∃ d v w, (x = .move d v ∨ x = .sub d v) ∧ m' = m.set d w)) ∨
       (∃ t, findLabel t P = some pc' ∧ m' = m)) := by
  unfold step at h
  -- after `split at h` the bullets follow the arms of `step` in order
  have hjump : ∀ t, jumpTo P t m = .next pc' m' ev → ∃ t, findLabel t P = some pc' ∧ m' = m := by
    intro t hj
    unfold jumpTo at hj
    split at hj
    · cases hj; exact ⟨t, ‹_›, rfl⟩
    · cases hj
  split at h
  · cases h
  · cases h; exact ⟨_, ‹_›, .inl ⟨rfl, .inr ⟨_, _, _, .inl rfl, rfl⟩⟩⟩
  · cases h; exact ⟨_, ‹_›, .inl ⟨rfl, .inr ⟨_, _, _, .inr rfl, rfl⟩⟩⟩
  · cases h; exact ⟨_, ‹_›, .inl ⟨rfl, .inl rfl⟩⟩
  · exact ⟨_, ‹_›, .inr (hjump _ h)⟩
  · split at h
    · exact ⟨_, ‹_›, .inr (hjump _ h)⟩
    · cases h; exact ⟨_, ‹_›, .inl ⟨rfl, .inl rfl⟩⟩
  · split at h
    · exact ⟨_, ‹_›, .inr (hjump _ h)⟩
    · cases h; exact ⟨_, ‹_›, .inl ⟨rfl, .inl rfl⟩⟩
  · cases h
  · cases h; exact ⟨_, ‹_›, .inl ⟨rfl, .inl rfl⟩⟩

theorem step_done {P : List Instr} {pc : Nat} {m : Mem} (h : step P pc m = .done) :
    P.length ≤ pc := by
  have hjump : ∀ t, jumpTo P t m ≠ .done := by
    intro t; unfold jumpTo; split <;> nofun
  unfold step at h
  -- the bullets follow the arms of `step` in order
  split at h
  · exact List.getElem?_eq_none_iff.1 ‹_›
  · cases h
  · cases h
  · cases h
  · exact absurd h (hjump _)
  · split at h
    · exact absurd h (hjump _)
    · cases h
  · split at h
    · exact absurd h (hjump _)
    · cases h
  · cases h
  · cases h

/-- the body of the looped program for `iterations ≥ 2` -/
def wrapBody (body : List Instr) (c : MemRef) (t : Target) (n : Nat) : List Instr :=
  [.move c (Int.ofNat n), .label t] ++ body ++ [.sub c 1, .jumpWhen t c]

theorem wrapBody_length (body : List Instr) (c : MemRef) (t : Target) (n : Nat) :
    (wrapBody body c t n).length = body.length + 4 := by
  simp [wrapBody]

theorem wrapBody_get_body (body : List Instr) (c : MemRef) (t : Target) (n i : Nat) (h : i < body.length) :
    (wrapBody body c t n)[2 + i]? = body[i]? := by
  simp only [wrapBody]
  rw [List.append_assoc, List.getElem?_append_right (by simp)]
  simp only [List.length_cons, List.length_nil]
  rw [show 2 + i - (0 + 1 + 1) = i by omega, List.getElem?_append_left h]

theorem wrapBody_get_tail (body : List Instr) (c : MemRef) (s : Target) (n k : Nat) :
    (wrapBody body c s n)[k + 2 + body.length]? = [Instr.sub c 1, .jumpWhen s c][k]? := by
  unfold wrapBody
  rw [List.getElem?_append_right (by simp; omega)]
  congr 1
  simp; omega

theorem findLabel_wrapBody_body {body : List Instr} {c : MemRef} {s t : Target} {n j : Nat}
    (hts : t ≠ s) (h : findLabel t body = some j) :
    findLabel t (wrapBody body c s n) = some (2 + j) := by
  have h0 : findLabel t [Instr.move c (Int.ofNat n), Instr.label s] = none := by
    simp [findLabel, Ne.symm hts]
  rw [wrapBody, List.append_assoc, findLabel_append, h0, findLabel_append, h]
  simp [Nat.add_comm]

theorem findLabel_wrapBody_start (body : List Instr) (c : MemRef) (s : Target) (n : Nat) :
    findLabel s (wrapBody body c s n) = some 1 := by
  simp [wrapBody, findLabel]

theorem embed_step {body : List Instr} {c : MemRef} {s : Target} {n : Nat}
    (hfresh : labelFresh s body = true) {i i' : Nat} {m m' : Mem} {ev : Option Instr}
    (h : step body i m = .next i' m' ev) :
    step (wrapBody body c s n) (2 + i) m = .next (2 + i') m' ev := by
  obtain ⟨x, hx, _⟩ := step_next_cases h
  have hi : i < body.length := (List.getElem?_eq_some_iff.1 hx).1
  -- a jump of the body lands 2 further in the wrapped program: the start label is not among its targets
  have hjump : ∀ t, t ∈ x.targets → jumpTo body t m = .next i' m' ev →
      jumpTo (wrapBody body c s n) t m = .next (2 + i') m' ev := by
    intro t ht hj
    have hts : t ≠ s := by
      intro hts
      have := List.all_eq_true.mp hfresh x (List.mem_of_getElem? hx)
      simp at this
      exact this (hts ▸ ht)
    unfold jumpTo at hj ⊢
    split at hj
    · cases hj; rw [findLabel_wrapBody_body hts ‹_›]
    · cases hj
  unfold step at h ⊢
  rw [hx] at h
  rw [wrapBody_get_body _ _ _ _ _ hi, hx]
  cases x with
  | move | sub | label | other => obtain ⟨rfl, rfl, rfl⟩ := Step.next.inj h; rfl
  | halt => nomatch h
  | jump t => exact hjump t (List.mem_singleton_self _) h
  | jumpWhen t cc | jumpUnless t cc =>
    dsimp only at h ⊢
    split at h
    · rw [if_pos ‹_›]; exact hjump t (List.mem_singleton_self _) h
    · rw [if_neg ‹_›]; obtain ⟨rfl, rfl, rfl⟩ := Step.next.inj h; rfl

theorem embed_steps {body : List Instr} {c : MemRef} {s : Target} {n : Nat}
    (hfresh : labelFresh s body = true) {i i' : Nat} {m m' : Mem} {tr : List Instr}
    (h : Steps body i m tr i' m') : Steps (wrapBody body c s n) (2 + i) m tr (2 + i') m' := by
  induction h with
  | refl => exact Steps.refl _ _
  | cons hs _ ih => exact Steps.cons (embed_step hfresh hs) ih

/-- no MOVE or SUB of the body writes the word `r` -/
def NoWrite (r : MemRef) (body : List Instr) : Prop :=
  ∀ x ∈ body, ∀ d v, (x = .move d v ∨ x = .sub d v) → d ≠ r

theorem step_preserves {body : List Instr} {r : MemRef}
    (hw : NoWrite r body)
    {i i' : Nat} {m m' : Mem} {ev : Option Instr} (h : step body i m = .next i' m' ev) : m' r = m r := by
  obtain ⟨x, hx, ⟨_, rfl | ⟨d, v, w, hxd, rfl⟩⟩ | ⟨t, _, rfl⟩⟩ := step_next_cases h
  · rfl
  · exact if_neg fun e => hw x (List.mem_of_getElem? hx) d v hxd e.symm
  · rfl

theorem steps_preserve {body : List Instr} {r : MemRef}
    (hw : NoWrite r body)
    {i i' : Nat} {m m' : Mem} {tr : List Instr} (h : Steps body i m tr i' m') : m' r = m r := by
  induction h with
  | refl => rfl
  | cons hs _ ih => rw [ih, step_preserves hw hs]

theorem insertRegion_eq (k : String) (v : Region) (l : List (String × Region)) :
    insertRegion k v l = upsertBy Prod.fst l (k, v) := by
  induction l with
  | nil => rfl
  | cons x xs ih =>
    unfold insertRegion upsertBy
    split
    · next h => rw [h]
    · rw [ih]

end QV.C33
