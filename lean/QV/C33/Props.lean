import QV.C33.Lemmas
import QV.C33.Spec
/-
C33 — Wrapping a program in a loop repeats its body exactly n times.

Statement (properties.jsonl): "For every program and every n of at least 2, running the wrapped
program executes the original body exactly n times in order and then stops. This holds with a
counter region and start label not otherwise used. For n = 1 the program is unchanged, for n = 0
only the body is removed, and every definition is preserved in all cases."

Semantics = the small-step relation `Steps` over `step` (Model.lean / Lemmas.lean); "executes the
body" = the body, run on its own from the current memory, runs past its last instruction
(`BodyRuns`).
-/
namespace QV.C33

/-- The body, executed on its own from memory `m`, finishes (runs past its end) having produced
the events `tr` and the memory `m'`.  Bodies may contain their own labels and jumps. -/
def BodyRuns (body : List Instr) (m : Mem) (tr : List Instr) (m' : Mem) : Prop :=
  Steps body 0 m tr body.length m'

/-- `k` consecutive executions of the body, each starting from the memory the previous one left,
each followed by the decrement of the counter `c0`.  This is the specification of "the body is
executed exactly k times in order"; it does not mention labels, jumps or program counters of
the wrapped program. -/
inductive Iter (body : List Instr) (c0 : MemRef) : Nat → Mem → List Instr → Mem → Prop where
  | zero (m : Mem) : Iter body c0 0 m [] m
  | succ {k : Nat} {m m' m'' : Mem} {tr trs : List Instr} :
      BodyRuns body m tr m' → Iter body c0 k (m'.set c0 (m' c0 - 1)) trs m'' →
      Iter body c0 (k + 1) m (tr ++ .sub c0 1 :: trs) m''

theorem noWrite_of_counterFresh {r : MemRef} {body : List Instr} (h : counterFresh r.name body = true) :
    NoWrite r body := by
  intro x hx d v hxd hdr
  have := List.all_eq_true.mp h x hx
  rcases hxd with rfl | rfl <;> simp [Instr.avoids, hdr] at this

private theorem wrap_at_sub (body : List Instr) (c : MemRef) (s : Target) (n : Nat) :
    (wrapBody body c s n)[2 + body.length]? = some (.sub c 1) :=
  wrapBody_get_tail body c s n 0

private theorem wrap_at_jump (body : List Instr) (c : MemRef) (s : Target) (n : Nat) :
    (wrapBody body c s n)[3 + body.length]? = some (.jumpWhen s c) :=
  wrapBody_get_tail body c s n 1

private theorem wrap_at_end (body : List Instr) (c : MemRef) (s : Target) (n : Nat) :
    (wrapBody body c s n)[4 + body.length]? = none :=
  wrapBody_get_tail body c s n 2

theorem wrap_at_label (body : List Instr) (c : MemRef) (s : Target) (n : Nat) (m : Mem) :
    step (wrapBody body c s n) 1 m = .next 2 m none := by
  simp [step, wrapBody]

theorem body_then_sub {body : List Instr} {c : MemRef} {s : Target} {n : Nat}
    (hfresh : labelFresh s body = true) (hw : NoWrite c body) {m m' : Mem} {tr : List Instr}
    (hb : BodyRuns body m tr m') :
    Steps (wrapBody body c s n) 2 m (tr ++ [.sub c 1]) (3 + body.length) (m'.set c (m' c - 1)) ∧
      m' c = m c := by
  have hsub : step (wrapBody body c s n) (2 + body.length) m' =
      .next (3 + body.length) (m'.set c (m' c - 1)) (some (.sub c 1)) := by
    simp only [step, wrap_at_sub]
    simp only [Step.next.injEq, and_true]; omega
  exact ⟨(embed_steps hfresh hb).trans (Steps.single hsub), steps_preserve hw hb⟩

/-- the conditional jump that ends a round: back to the start label while the counter is not zero -/
theorem wrap_jump (body : List Instr) (c : MemRef) (s : Target) (n : Nat) (m : Mem) :
    step (wrapBody body c s n) (3 + body.length) m =
      .next (if m c ≠ 0 then 1 else 4 + body.length) m none := by
  simp only [step, wrap_at_jump]
  split
  · simp [jumpTo, findLabel_wrapBody_start]
  · simp only [Step.next.injEq, and_true]; omega

/-- **Loop invariant**: at the top of the loop body (pc 2) the counter holds the number `k ≥ 1` of body executions
still to come. -/
theorem loop_from_top {body : List Instr} {c : MemRef} {s : Target} {n : Nat}
    (hfresh : labelFresh s body = true) (hw : NoWrite c body) {k : Nat} {m mf : Mem} {T : List Instr}
    (hit : Iter body c k m T mf) : 1 ≤ k → m c = Int.ofNat k →
      Steps (wrapBody body c s n) 2 m T (4 + body.length) mf ∧ mf c = 0 := by
  induction hit with
  | zero => intro h; omega
  | @succ k m m' mf tr trs hb hrest ih =>
    intro _ hm
    obtain ⟨h1, hpres⟩ := body_then_sub (n := n) hfresh hw hb
    have hval : (m'.set c (m' c - 1)) c = Int.ofNat k := by simp [Mem.set, hpres, hm]
    have hjw := wrap_jump body c s n (m'.set c (m' c - 1))
    rw [hval] at hjw
    cases k with
    | zero =>
      -- the counter has reached 0: JUMP-WHEN falls through, past the end
      cases hrest
      exact ⟨by simpa [evs] using h1.trans (Steps.single hjw), hval⟩
    | succ k =>
      -- JUMP-WHEN jumps back to the start label (index 1), LABEL is skipped
      rw [if_pos (by simp; omega)] at hjw
      obtain ⟨hrec, hz⟩ := ih (by omega) hval
      exact ⟨by simpa [evs] using
        ((h1.trans (Steps.single hjw)).trans (Steps.single (wrap_at_label ..))).trans hrec, hz⟩

/-- **C33, main theorem (any body, any n ≥ 1, any initial memory).**
Let the start label occur nowhere in the body and the body never write the counter word.  If the body can
be executed `n` times in a row starting from the memory in which the counter holds `n` — `Iter` — then the
wrapped program, started at its first instruction, executes MOVE counter n, then exactly those n body
executions (each followed by the SUB), and then stops by running past its last instruction with the counter
at 0. -/
theorem C33_loop_general {body : List Instr} {c : MemRef} {s : Target} {n : Nat} (hn : 1 ≤ n)
    (hfresh : labelFresh s body = true) (hw : NoWrite c body)
    {m0 mf : Mem} {T : List Instr}
    (hit : Iter body c n (m0.set c (Int.ofNat n)) T mf) :
    Finishes (wrapBody body c s n) 0 m0 (.move c (Int.ofNat n) :: T) mf ∧ mf c = 0 := by
  obtain ⟨k, rfl⟩ : ∃ k, n = k + 1 := ⟨n - 1, by omega⟩
  have hmove : step (wrapBody body c s (k + 1)) 0 m0 =
      .next 1 (m0.set c (Int.ofNat (k + 1))) (some (.move c (Int.ofNat (k + 1)))) := by
    simp [step, wrapBody]
  obtain ⟨hloop, hz⟩ := loop_from_top (n := k + 1) hfresh hw hit (by omega) (by simp [Mem.set])
  refine ⟨⟨4 + body.length, ?_, ?_⟩, hz⟩
  · have := ((Steps.single hmove).trans (Steps.single (wrap_at_label ..))).trans hloop
    simpa [evs] using this
  · simp [step, wrap_at_end]

private theorem straight_suffix (xs : List Instr) : ∀ (ys : List Instr) (m : Mem),
    straightLine ys = true → ∀ pre, xs = pre ++ ys →
    ∃ m', Steps xs pre.length m ys xs.length m' := by
  intro ys
  induction ys with
  | nil =>
    intro m _ pre hx
    refine ⟨m, ?_⟩
    subst hx; simpa using Steps.refl _ _
  | cons y ys ih =>
    intro m hs pre hx
    have hy : y.isControl = false := by
      have := List.all_eq_true.mp hs y (by simp); simpa using this
    have hys : straightLine ys = true := by
      simp only [straightLine, List.all_cons, Bool.and_eq_true] at hs; exact hs.2
    have hget : xs[pre.length]? = some y := by subst hx; simp
    have hstep : ∃ m1, step xs pre.length m = .next (pre.length + 1) m1 (some y) := by
      cases y <;> simp [Instr.isControl] at hy <;> simp [step, hget]
    obtain ⟨m1, hm1⟩ := hstep
    obtain ⟨m', hm'⟩ := ih m1 hys (pre ++ [y]) (by simp [hx])
    refine ⟨m', ?_⟩
    have := Steps.cons hm1 (by simpa using hm')
    simpa [evs] using this

theorem bodyRuns_straight {body : List Instr} (h : straightLine body = true) (m : Mem) :
    ∃ m', BodyRuns body m body m' := by
  simpa [BodyRuns] using straight_suffix body body m h [] rfl

theorem iter_straight {body : List Instr} (h : straightLine body = true) (c0 : MemRef) :
    ∀ (k : Nat) (m : Mem), ∃ mf, Iter body c0 k m (repeatList (body ++ [.sub c0 1]) k) mf := by
  intro k
  induction k with
  | zero => intro m; exact ⟨m, by simpa [repeatList] using Iter.zero m⟩
  | succ k ih =>
    intro m
    obtain ⟨m', hb⟩ := bodyRuns_straight h m
    obtain ⟨mf, hi⟩ := ih (m'.set c0 (m' c0 - 1))
    refine ⟨mf, ?_⟩
    have := Iter.succ hb hi
    simpa [repeatList] using this

/-- **C33 for straight-line bodies** (gates, pragmas, pulses, classical instructions — anything
but LABEL/JUMP*/HALT): for every n ≥ 1, every body that does not access the counter region, and
every initial memory, the wrapped program halts (runs past its end) and its event trace is
MOVE counter n followed by (body, SUB counter 1) repeated exactly n times; the counter ends at 0. -/
theorem C33_loop_straight {body : List Instr} {c : MemRef} {s : Target} {n : Nat} (hn : 1 ≤ n)
    (hs : straightLine body = true) (hcf : counterFresh c.name body = true)
    (m0 : Mem) :
    ∃ mf, Finishes (wrapBody body c s n) 0 m0
        (.move c (Int.ofNat n) :: repeatList (body ++ [.sub c 1]) n) mf ∧ mf c = 0 := by
  have hfresh : labelFresh s body = true := by
    apply List.all_eq_true.mpr
    intro x hx
    have := List.all_eq_true.mp hs x hx
    cases x <;> simp [Instr.isControl] at this <;> simp [Instr.targets]
  obtain ⟨mf, hi⟩ := iter_straight hs c n (m0.set c (Int.ofNat n))
  exact ⟨mf, C33_loop_general hn hfresh (noWrite_of_counterFresh hcf) hi⟩

/-- the same, for the executable interpreter: with enough fuel `run` reports `done` and that trace -/
theorem C33_run_straight {body : List Instr} {c : MemRef} {s : Target} {n : Nat} (hn : 1 ≤ n)
    (hs : straightLine body = true) (hcf : counterFresh c.name body = true)
    (m0 : Mem) :
    ∃ fuel mf, ∀ extra, run (wrapBody body c s n) (fuel + extra) 0 m0 [] =
      .done mf (.move c (Int.ofNat n) :: repeatList (body ++ [.sub c 1]) n) := by
  obtain ⟨mf, ⟨pc', hst, hd⟩, _⟩ := C33_loop_straight (s := s) hn hs hcf m0
  obtain ⟨fuel, hf⟩ := run_of_steps hst hd
  exact ⟨fuel, mf, fun extra => by simpa using hf extra []⟩

/-- Observed through the events that do not access the counter region, the trace is the body
repeated exactly n times. -/
theorem C33_trace_filter {body : List Instr} {c : MemRef} (n : Nat) (hc : c.index = 0)
    (hcf : counterFresh c.name body = true) :
    ((Instr.move c (Int.ofNat n) :: repeatList (body ++ [.sub c 1]) n).filter (Instr.avoids c.name))
      = repeatList body n := by
  have hb : body.filter (Instr.avoids c.name) = body := by
    apply List.filter_eq_self.mpr
    intro x hx; exact List.all_eq_true.mp hcf x hx
  have hrep : ∀ k, (repeatList (body ++ [.sub c 1]) k).filter (Instr.avoids c.name) = repeatList body k := by
    intro k
    induction k with
    | zero => simp [repeatList]
    | succ k ih => simp [repeatList, List.filter_append, hb, ih, Instr.avoids]
  simp [Instr.avoids, hrep]

/-- The interpreter only ever reports `done` for genuine terminating executions (soundness of the
Bool check evaluated by the driver on the implementation's output). -/
theorem C33_run_sound (P : List Instr) (fuel : Nat) (m0 mf : Mem) (T : List Instr)
    (h : run P fuel 0 m0 [] = .done mf T) : Finishes P 0 m0 T mf := by
  obtain ⟨tr, hT, hfin⟩ := steps_of_run fuel 0 m0 [] T mf h
  simp at hT; subst hT; exact hfin

/-- Execution is deterministic: a program that finishes does so with one trace only, so the
trace in the theorems above is *the* behaviour ("exactly n times"). -/
theorem C33_finishes_unique {P : List Instr} {pc : Nat} {m mf mf' : Mem} {T T' : List Instr}
    (h : Finishes P pc m T mf) (h' : Finishes P pc m T' mf') : T = T' := by
  obtain ⟨_, hs, hd⟩ := h
  obtain ⟨_, hs', hd'⟩ := h'
  obtain ⟨f, hf⟩ := run_of_steps hs hd
  obtain ⟨f', hf'⟩ := run_of_steps hs' hd'
  have e1 := hf f' []
  have e2 := hf' f []
  rw [Nat.add_comm f' f] at e2
  rw [e1] at e2
  simp only [List.nil_append, Outcome.done.injEq] at e2
  exact e2.2

private theorem step_pc_le {P : List Instr} {pc pc' : Nat} {m m' : Mem} {ev : Option Instr}
    (h : step P pc m = .next pc' m' ev) : pc' ≤ P.length := by
  obtain ⟨x, hx, ⟨rfl, _⟩ | ⟨t, ht, _⟩⟩ := step_next_cases h
  · exact (List.getElem?_eq_some_iff.1 hx).1
  · exact Nat.le_of_lt (findLabel_lt ht)

private theorem steps_pc_le {P : List Instr} {pc pc' : Nat} {m m' : Mem} {tr : List Instr}
    (h : Steps P pc m tr pc' m') (h0 : pc ≤ P.length) : pc' ≤ P.length := by
  induction h with
  | refl => exact h0
  | cons hs _ ih => exact ih (step_pc_le hs)

/-- a finishing run of the body from its first instruction ends exactly at `body.length` -/
theorem bodyRuns_of_finishes {body : List Instr} {m m' : Mem} {tr : List Instr}
    (h : Finishes body 0 m tr m') : BodyRuns body m tr m' := by
  obtain ⟨pc', hs, hd⟩ := h
  cases Nat.le_antisymm (steps_pc_le hs (Nat.zero_le _)) (step_done hd)
  exact hs

/-- The driver's executable `iterTrace` (Spec.lean) is sound for the relation `Iter`: whatever it
returns is the trace of `k` genuine consecutive executions of the body. -/
theorem C33_iterTrace_sound (body : List Instr) (c0 : MemRef) (fuel : Nat) :
    ∀ (k : Nat) (m : Mem) (T : List Instr), iterTrace body c0 fuel k m = some T →
      ∃ mf, Iter body c0 k m T mf := by
  intro k
  induction k with
  | zero => intro m T h; simp [iterTrace] at h; subst h; exact ⟨m, Iter.zero m⟩
  | succ k ih =>
    intro m T h
    simp only [iterTrace] at h
    cases hr : run body fuel 0 m [] with
    | done m' tr =>
      simp only [hr] at h
      cases hi : iterTrace body c0 fuel k (m'.set c0 (m' c0 - 1)) with
      | none => rw [hi] at h; simp at h
      | some trs =>
        rw [hi] at h; simp at h; subst h
        obtain ⟨mf, hmf⟩ := ih _ _ hi
        obtain ⟨tr', hT, hfin⟩ := steps_of_run fuel 0 m [] tr m' hr
        simp at hT; subst hT
        exact ⟨mf, Iter.succ (bodyRuns_of_finishes hfin) hmf⟩
    | halted tr => rw [hr] at h; simp at h
    | stuck tr => rw [hr] at h; simp at h
    | outOfFuel tr => rw [hr] at h; simp at h

/-- **The driver's behavioural check means what it says.**  If, for an arbitrary program body `P`
(in the check: the body returned by the real `wrap_in_loop`), the interpreter reports `done` with
trace `MOVE c n :: T` where `T = iterTrace body …`, then `P` really finishes with exactly the
events of `n` consecutive executions of `body`. -/
theorem C33_checker_sound (P body : List Instr) (c : MemRef) (n fuel fuel' : Nat) (m0 mf : Mem)
    (T tr : List Instr)
    (hT : iterTrace body c fuel n (m0.set c (Int.ofNat n)) = some T)
    (hrun : run P fuel' 0 m0 [] = .done mf tr) (htr : tr = .move c (Int.ofNat n) :: T) :
    Finishes P 0 m0 (.move c (Int.ofNat n) :: T) mf ∧
    ∃ mi, Iter body c n (m0.set c (Int.ofNat n)) T mi := by
  subst htr
  exact ⟨C33_run_sound P fuel' m0 mf _ hrun, C33_iterTrace_sound body c fuel n _ T hT⟩

private theorem foldl_addInstruction_instrs (p : Program) (is : List Instr) :
    (is.map Added.instr).foldl addInstruction p = { p with body := p.body ++ is } := by
  induction is generalizing p with
  | nil => simp
  | cons i is ih => rw [List.map_cons, List.foldl_cons, ih]; simp [addInstruction]

/-- **Shape for n ≥ 2**: the body is exactly `wrapBody`, the counter region is declared
INTEGER of length `counterLen c` (IndexMap insert), every other definition is untouched. -/
theorem C33_shape (p : Program) (c : MemRef) (t : Target) (n : Nat) (hn : 2 ≤ n) :
    wrapInLoop p c t n =
      { regions := insertRegion c.name { ty := "INTEGER", len := counterLen c, sharing := none } p.regions,
        defs := p.defs,
        body := wrapBody p.body c t n } := by
  obtain ⟨k, rfl⟩ : ∃ k, n = k + 2 := ⟨n - 2, by omega⟩
  -- the DECLARE, MOVE and LABEL one by one, the body's instructions in one fold, then SUB and JUMP-WHEN
  simp only [wrapInLoop, loopInstructions, addInstructions, List.foldl_append, List.foldl_cons,
    List.foldl_nil, foldl_addInstruction_instrs]
  simp [addInstruction, cloneWithoutBody, wrapBody]

def lookupRegion (k : String) : List (String × Region) → Option Region
  | [] => none
  | (k', v) :: rest => if k' = k then some v else lookupRegion k rest

private theorem lookupRegion_eq (k : String) (l : List (String × Region)) :
    lookupRegion k l = (l.find? (fun x => x.1 = k)).map Prod.snd := by
  induction l with
  | nil => rfl
  | cons x xs ih => rw [List.find?_cons, lookupRegion, ih]; by_cases h : x.1 = k <;> simp [h]

/-- **Definitions are preserved**: every region other than the counter keeps its descriptor,
in every case (n = 0, 1, ≥ 2), and all other definitions are identical. -/
theorem C33_definitions_preserved (p : Program) (c : MemRef) (t : Target) (n : Nat) :
    (wrapInLoop p c t n).defs = p.defs ∧
    ∀ k, k ≠ c.name → lookupRegion k (wrapInLoop p c t n).regions = lookupRegion k p.regions := by
  match n with
  | 0 => simp [wrapInLoop, cloneWithoutBody]
  | 1 => simp [wrapInLoop]
  | n + 2 =>
    rw [C33_shape p c t (n + 2) (by omega)]
    exact ⟨rfl, fun k hk => by
      rw [lookupRegion_eq, lookupRegion_eq, insertRegion_eq, find?_upsertBy, if_neg (Ne.symm hk)]⟩

/-- a counter region that the program does not declare yet is appended after the existing ones,
which all keep their place -/
theorem C33_fresh_region_appended (p : Program) (c : MemRef) (t : Target) (n : Nat) (hn : 2 ≤ n)
    (hfresh : lookupRegion c.name p.regions = none) :
    (wrapInLoop p c t n).regions = p.regions ++ [(c.name, { ty := "INTEGER", len := counterLen c, sharing := none })] := by
  rw [lookupRegion_eq, Option.map_eq_none_iff, List.find?_eq_none] at hfresh
  rw [C33_shape p c t n hn]
  exact (insertRegion_eq ..).trans (upsertBy_of_not_mem Prod.fst fun hm =>
    let ⟨x, hx, e⟩ := List.mem_map.1 hm
    hfresh x hx (by simpa using e))

/-- **n = 1**: the program is unchanged. -/
theorem C33_one (p : Program) (c : MemRef) (t : Target) : wrapInLoop p c t 1 = p := rfl

/-- **n = 0**: only the body is removed. -/
theorem C33_zero (p : Program) (c : MemRef) (t : Target) :
    wrapInLoop p c t 0 = { p with body := [] } := rfl

/-- **C33 end to end**: for n ≥ 2, a straight-line body that does not access the counter region,
the body of the program returned by `wrap_in_loop` halts from
any initial memory with trace MOVE, then (body, SUB) n times. -/
theorem C33_wrapInLoop_runs (p : Program) (c : MemRef) (t : Target) (n : Nat) (hn : 2 ≤ n)
    (hs : straightLine p.body = true) (hcf : counterFresh c.name p.body = true)
    (m0 : Mem) :
    ∃ mf, Finishes (wrapInLoop p c t n).body 0 m0
        (.move c (Int.ofNat n) :: repeatList (p.body ++ [.sub c 1]) n) mf ∧ mf c = 0 := by
  rw [C33_shape p c t n hn]
  exact C33_loop_straight (by omega) hs hcf m0

/-! ### A counter reference with a non-zero index

MOVE, SUB and JUMP-WHEN all use the caller's reference, so the theorems above hold for every index.  A concrete run
with `cnt[1]`: were SUB to decrement `cnt[0]` instead, the tested word would never change and this run would not end. -/

theorem C33_nonzero_index_terminates :
    (match run (wrapBody [] ⟨"cnt", 1⟩ (.fixed "s") 2) 100 0 zeroMem [] with
     | .done _ tr => tr == [.move ⟨"cnt", 1⟩ 2, .sub ⟨"cnt", 1⟩ 1, .sub ⟨"cnt", 1⟩ 1]
     | _ => false) = true := by
  decide

theorem C33_counter_region_holds_reference (c : MemRef) (h : c.index < 18446744073709551615) :
    c.index < counterLen c := by
  unfold counterLen; omega

private def exBody : List Instr :=
  [.other "X 0" [], .move ⟨"ro", 0⟩ 5, .other "MEASURE 0 ro[0]" ["ro"]]

example : straightLine exBody = true ∧ counterFresh "cnt" exBody = true ∧
    labelFresh (.placeholder 0) exBody = true := by decide

/-- the interpreter really produces the trace of the theorem on a concrete instance (n = 3) -/
example :
    (match run (wrapBody exBody ⟨"cnt", 0⟩ (.placeholder 0) 3) 100 0 zeroMem [] with
     | .done _ tr => tr == .move ⟨"cnt", 0⟩ 3 :: repeatList (exBody ++ [.sub ⟨"cnt", 0⟩ 1]) 3
     | _ => false) = true := by decide

/-- `BodyRuns` is satisfiable for a body with its own control flow (a forward jump over an event) -/
example : ∃ m', BodyRuns [.jump (.fixed "a"), .other "X 0" [], .label (.fixed "a"), .other "Y 0" []]
    zeroMem [.other "Y 0" []] m' := by
  refine ⟨zeroMem, ?_⟩
  have s1 : step [.jump (.fixed "a"), .other "X 0" [], .label (.fixed "a"), .other "Y 0" []] 0 zeroMem
      = .next 2 zeroMem none := by simp [step, jumpTo, findLabel]
  have s2 : step [.jump (.fixed "a"), .other "X 0" [], .label (.fixed "a"), .other "Y 0" []] 2 zeroMem
      = .next 3 zeroMem none := by simp [step]
  have s3 : step [.jump (.fixed "a"), .other "X 0" [], .label (.fixed "a"), .other "Y 0" []] 3 zeroMem
      = .next 4 zeroMem (some (.other "Y 0" [])) := by simp [step]
  have := ((Steps.single s1).trans (Steps.single s2)).trans (Steps.single s3)
  simpa [BodyRuns, evs] using this

end QV.C33
