import QV.Shared.Program
import QV.Shared.Upsert
import QV.Shared.Chk
/-
Lemmas about the shared `Program` model.  `upsert`, `keys`, `lookup`, `firstOcc` are `upsertBy Instr.key` and its
vocabulary (`Shared/Upsert.lean`), read off through `upsert_eq` and `firstOcc_eq`.  A program is looked at through
`Program.container k` and `used` (`Program.ofContainers`, `Program.ext_container`), so that an operation has one
equation for all kinds and the listing is a flat map over `Kind.all`; the operations that update single fields of the
record (`simplify`, `resolvePlaceholders`) go back to the fields by `cases k`.  Core Lean only.
-/
namespace QV.Prog

@[simp] theorem keys_nil : keys [] = [] := rfl
@[simp] theorem keys_cons (x : Instr) (l : List Instr) : keys (x :: l) = x.key :: keys l := rfl
@[simp] theorem keys_append (a b : List Instr) : keys (a ++ b) = keys a ++ keys b := by simp [keys]

theorem mem_keys {l : List Instr} {k : String} : k ∈ keys l ↔ ∃ x ∈ l, x.key = k := by
  simp [keys]

theorem keys_sublist {a b : List Instr} (h : a.Sublist b) : (keys a).Sublist (keys b) := h.map _

theorem lookup_cons (x : Instr) (l : List Instr) (k : String) :
    lookup (x :: l) k = if x.key = k then some x else lookup l k := by
  by_cases h : x.key = k <;> simp [lookup, h]

theorem lookup_eq_none {l : List Instr} {k : String} : lookup l k = none ↔ k ∉ keys l := by
  simp [lookup, keys]

theorem mem_of_lookup {l : List Instr} {k : String} {x : Instr} (h : lookup l k = some x) :
    x ∈ l ∧ x.key = k :=
  ⟨List.mem_of_find?_eq_some h, by simpa using List.find?_some h⟩

theorem upsert_eq : upsert = upsertBy Instr.key := by
  funext l i
  induction l with
  | nil => rfl
  | cons x xs ih => simp only [upsert, upsertBy, ih]

theorem upsert_cons_eq {x i : Instr} (h : x.key = i.key) (xs : List Instr) :
    upsert (x :: xs) i = i :: xs := by
  rw [upsert, if_pos h]

theorem upsert_cons_ne {x i : Instr} (h : x.key ≠ i.key) (xs : List Instr) :
    upsert (x :: xs) i = x :: upsert xs i := by
  rw [upsert, if_neg h]

theorem firstOcc_eq : firstOcc = QV.firstSeen := by
  funext ks
  induction ks with
  | nil => rfl
  | cons k ks ih => simp only [firstOcc, QV.firstSeen, ih]

theorem lookup_of_mem_nodup {l : List Instr} {x : Instr} (hx : x ∈ l) (hn : (keys l).Nodup) :
    lookup l x.key = some x :=
  find?_of_mem_nodup Instr.key hx hn

theorem mem_firstOcc (ks : List String) (k : String) : k ∈ firstOcc ks ↔ k ∈ ks :=
  firstOcc_eq ▸ QV.mem_firstSeen ks k

theorem firstOcc_nodup (ks : List String) : (firstOcc ks).Nodup := firstOcc_eq ▸ QV.firstSeen_nodup ks

theorem firstOcc_sublist (ks : List String) : (firstOcc ks).Sublist ks := firstOcc_eq ▸ QV.firstSeen_sublist ks

theorem keys_upsert (l : List Instr) (i : Instr) :
    keys (upsert l i) = if i.key ∈ keys l then keys l else keys l ++ [i.key] :=
  upsert_eq ▸ keys_upsertBy Instr.key l i

theorem lookup_upsert (l : List Instr) (i : Instr) (k : String) :
    lookup (upsert l i) k = if i.key = k then some i else lookup l k :=
  upsert_eq ▸ find?_upsertBy Instr.key l i k

theorem mem_upsert_imp {l : List Instr} {i y : Instr} (h : y ∈ upsert l i) : y = i ∨ y ∈ l :=
  mem_upsertBy Instr.key (upsert_eq ▸ h)

theorem mem_upsert_self (l : List Instr) (i : Instr) : i ∈ upsert l i :=
  upsert_eq ▸ mem_upsertBy_self Instr.key l i

theorem mem_upsert_of_not_lookup {l : List Instr} {i y : Instr} (h : y ∈ l)
    (hl : lookup l i.key ≠ some y) : y ∈ upsert l i :=
  upsert_eq ▸ mem_upsertBy_of_not_find? Instr.key h hl

theorem nodup_upsert {l : List Instr} (i : Instr) (h : (keys l).Nodup) : (keys (upsert l i)).Nodup :=
  upsert_eq ▸ nodup_upsertBy Instr.key i h

theorem upsert_of_not_mem {l : List Instr} {i : Instr} (h : i.key ∉ keys l) : upsert l i = l ++ [i] :=
  upsert_eq ▸ upsertBy_of_not_mem Instr.key h

theorem keys_foldl_upsert (xs l : List Instr) :
    keys (xs.foldl upsert l) = keys l ++ (firstOcc (keys xs)).filter (fun k => k ∉ keys l) := by
  rw [upsert_eq, firstOcc_eq]; exact keys_foldl_upsertBy Instr.key xs l

theorem keys_foldl_upsert_nil (xs : List Instr) : keys (xs.foldl upsert []) = firstOcc (keys xs) := by
  rw [keys_foldl_upsert]; simp

theorem lookup_foldl_upsert (xs l : List Instr) (k : String) :
    lookup (xs.foldl upsert l) k = (lookupLast xs k).or (lookup l k) :=
  upsert_eq ▸ find?_foldl_upsertBy Instr.key xs l k

theorem lookup_foldl_upsert_nil (xs : List Instr) (k : String) :
    lookup (xs.foldl upsert []) k = lookupLast xs k := by
  rw [lookup_foldl_upsert]; simp [lookup]

theorem nodup_foldl_upsert (xs : List Instr) {l : List Instr} (h : (keys l).Nodup) :
    (keys (xs.foldl upsert l)).Nodup :=
  upsert_eq ▸ nodup_foldl_upsertBy Instr.key xs h

theorem foldl_upsert_of_nodup (xs l : List Instr) (h : (keys (l ++ xs)).Nodup) :
    xs.foldl upsert l = l ++ xs :=
  upsert_eq ▸ foldl_upsertBy_of_nodup Instr.key xs l h

theorem extendMap_assoc (xs : List Instr) {m l : List Instr} (hm : (keys m).Nodup) (hl : (keys l).Nodup) :
    extendMap l (xs.foldl upsert m) = xs.foldl upsert (extendMap l m) := by
  unfold extendMap; rw [upsert_eq]; exact foldl_upsertBy_assoc Instr.key xs hm hl

theorem mem_foldl_upsert_imp {xs l : List Instr} {y : Instr} (h : y ∈ xs.foldl upsert l) :
    y ∈ l ∨ y ∈ xs :=
  mem_foldl_upsertBy Instr.key (upsert_eq ▸ h)

theorem mem_foldl_upsert_of_not_key {xs l : List Instr} {y : Instr} (hy : y ∈ l) (hk : y.key ∉ keys xs) :
    y ∈ xs.foldl upsert l :=
  upsert_eq ▸ mem_foldl_upsertBy_of_not_key Instr.key hy hk

theorem mem_foldl_upsert_of_mem_nodup {xs l : List Instr} {y : Instr} (hy : y ∈ xs) (hn : (keys xs).Nodup) :
    y ∈ xs.foldl upsert l :=
  upsert_eq ▸ mem_foldl_upsertBy_of_mem_nodup Instr.key l hy hn

theorem Kind.mem_all (k : Kind) : k ∈ Kind.all := by cases k <;> decide +kernel

theorem Kind.mem_defs {k : Kind} : k ∈ Kind.defs ↔ k ≠ .body := by cases k <;> decide +kernel

theorem Kind.filter_all (k : Kind) : Kind.all.filter (· = k) = [k] := by cases k <;> decide +kernel

def Program.ofContainers (c : Kind → List Instr) (u : List Qubit) : Program :=
  { externs := c .extern, decls := c .decl, frames := c .frame, waveforms := c .waveform,
    cals := c .cal, mcals := c .mcal, gateDefs := c .gateDef, circuits := c .circuit,
    body := c .body, used := u }

theorem container_ofContainers (c : Kind → List Instr) (u : List Qubit) (k : Kind) :
    (Program.ofContainers c u).container k = c k := by cases k <;> rfl

theorem Program.ext_container {p q : Program} (h : ∀ k, p.container k = q.container k)
    (hu : p.used = q.used) : p = q :=
  show Program.ofContainers p.container p.used = .ofContainers q.container q.used by
    rw [funext h, hu]

theorem toInstructions_eq_flatMap (p : Program) :
    toInstructions p = Kind.all.flatMap (fun k => p.container k) := by
  simp [toInstructions, Kind.all, Program.container]

theorem mem_toInstructions {p : Program} {x : Instr} :
    x ∈ toInstructions p ↔ ∃ k, x ∈ p.container k := by
  simp [toInstructions_eq_flatMap, Kind.mem_all]

theorem intoInstructions_eq (p : Program) : intoInstructions p = toInstructions p := by
  simp [intoInstructions, toInstructions]

theorem container_empty (k : Kind) : empty.container k = [] := by cases k <;> rfl

theorem add_eq (p : Program) (i : Instr) :
    add p i = .ofContainers
      (fun k => if i.kind = k then (if k = .body then p.container k ++ [i] else upsert (p.container k) i)
        else p.container k)
      (p.used ++ i.getQubits) := by
  unfold add
  generalize i.kind = ki
  cases ki <;> rfl

theorem container_add (p : Program) (i : Instr) (k : Kind) :
    (add p i).container k =
      if i.kind = k then (if k = .body then p.container k ++ [i] else upsert (p.container k) i)
      else p.container k := by
  rw [add_eq, container_ofContainers]

theorem container_add_self (p : Program) {i : Instr} (hb : i.kind ≠ .body) :
    (add p i).container i.kind = upsert (p.container i.kind) i := by
  rw [container_add, if_pos rfl, if_neg hb]

theorem used_add (p : Program) (i : Instr) : (add p i).used = p.used ++ i.getQubits := by
  rw [add_eq]; rfl

theorem addMany_nil (p : Program) : addMany p [] = p := rfl

theorem addMany_cons (p : Program) (i : Instr) (is : List Instr) : addMany p (i :: is) = addMany (add p i) is := rfl

theorem addMany_append (p : Program) (a b : List Instr) : addMany p (a ++ b) = addMany (addMany p a) b :=
  List.foldl_append

theorem used_addMany (p : Program) (is : List Instr) : (addMany p is).used = p.used ++ qubitsOf is := by
  induction is generalizing p with
  | nil => simp [addMany_nil, qubitsOf]
  | cons i is ih => rw [addMany_cons, ih, used_add]; simp [qubitsOf]

theorem container_addMany (p : Program) (is : List Instr) (k : Kind) :
    (addMany p is).container k =
      if k = .body then p.container k ++ ofKind k is else (ofKind k is).foldl upsert (p.container k) := by
  induction is generalizing p with
  | nil => simp [addMany_nil, ofKind]
  | cons i is ih =>
    rw [addMany_cons, ih, container_add]
    by_cases hb : k = .body
    · subst hb; by_cases hi : i.kind = .body <;> simp [hi, ofKind]
    · by_cases hi : i.kind = k <;> simp [hb, hi, ofKind]

theorem container_fromInstructions (is : List Instr) (k : Kind) :
    (fromInstructions is).container k =
      if k = .body then ofKind k is else (ofKind k is).foldl upsert [] := by
  rw [fromInstructions, container_addMany, container_empty, List.nil_append]

theorem used_fromInstructions (is : List Instr) : (fromInstructions is).used = qubitsOf is := by
  rw [fromInstructions, used_addMany]; rfl

theorem container_concat (p q : Program) (k : Kind) :
    (concat p q).container k =
      if k = .body then p.container k ++ q.container k else extendMap (p.container k) (q.container k) := by
  cases k <;> rfl

@[simp] theorem container_rebuildUsed (p : Program) (k : Kind) :
    (rebuildUsed p).container k = p.container k := by cases k <;> rfl

theorem toInstructions_rebuildUsed (p : Program) : toInstructions (rebuildUsed p) = toInstructions p := rfl

theorem container_cloneWithoutBody (p : Program) (k : Kind) :
    (cloneWithoutBody p).container k = if k = .body then [] else p.container k := by cases k <;> rfl

theorem container_cloneWithoutBody_of_ne (p : Program) {k : Kind} (hk : k ≠ .body) :
    (cloneWithoutBody p).container k = p.container k := by
  rw [container_cloneWithoutBody, if_neg hk]

theorem mem_container_add {p : Program} {i x : Instr} {k : Kind} (h : x ∈ (add p i).container k) :
    (x = i ∧ i.kind = k) ∨ x ∈ p.container k := by
  rw [container_add] at h
  split at h
  · next hi =>
    split at h
    · exact (List.mem_append.mp h).symm.imp_left fun h => ⟨List.mem_singleton.mp h, hi⟩
    · exact (mem_upsert_imp h).imp_left fun h => ⟨h, hi⟩
  · exact .inr h

theorem self_mem_container_add (p : Program) (i : Instr) : i ∈ (add p i).container i.kind := by
  rw [container_add]
  by_cases hb : i.kind = .body
  · simp [hb]
  · simp [hb, mem_upsert_self]

/-- the invariant of every reachable program (`wf_fromInstructions`, `C10.eval_facts`).  The calibration sets are
among the containers without a repeated key, since `CalibrationSet::replace` keeps one calibration per signature -/
structure WF (p : Program) : Prop where
  kinds : ∀ k, ∀ x ∈ p.container k, x.kind = k
  nodup : ∀ k, k ≠ .body → (keys (p.container k)).Nodup

theorem wf_of_sublists {p' : Program}
    (hs : ∀ k, ∃ p, WF p ∧ (p'.container k).Sublist (p.container k)) : WF p' where
  kinds k x hx := let ⟨_, h, s⟩ := hs k; h.kinds k x (s.subset hx)
  nodup k hb := let ⟨_, h, s⟩ := hs k; (h.nodup k hb).sublist (keys_sublist s)

theorem wf_of_sub {p p' : Program} (h : WF p)
    (hs : ∀ k, (p'.container k).Sublist (p.container k)) : WF p' :=
  wf_of_sublists fun k => ⟨p, h, hs k⟩

theorem wf_empty : WF empty where
  kinds k x hx := by rw [container_empty] at hx; cases hx
  nodup k _ := by rw [container_empty]; exact List.nodup_nil

theorem wf_add {p : Program} (h : WF p) (i : Instr) : WF (add p i) where
  kinds k x hx := by
    rcases mem_container_add hx with ⟨rfl, hk⟩ | hx
    · exact hk
    · exact h.kinds k x hx
  nodup k hb := by
    rw [container_add]
    by_cases hi : i.kind = k
    · rw [if_pos hi, if_neg hb]; exact nodup_upsert i (h.nodup k hb)
    · rw [if_neg hi]; exact h.nodup k hb

theorem wf_addMany {p : Program} (h : WF p) (is : List Instr) : WF (addMany p is) := by
  induction is generalizing p with
  | nil => exact h
  | cons i is ih => exact ih (wf_add h i)

theorem wf_fromInstructions (is : List Instr) : WF (fromInstructions is) := wf_addMany wf_empty is

theorem wf_rebuildUsed {p : Program} (h : WF p) : WF (rebuildUsed p) :=
  wf_of_sub h fun k => by rw [container_rebuildUsed]; exact .refl _

theorem cloneWithoutBody_sublist (p : Program) (k : Kind) :
    ((cloneWithoutBody p).container k).Sublist (p.container k) := by
  rw [container_cloneWithoutBody]; split
  · exact List.nil_sublist _
  · exact .refl _

theorem wf_cloneWithoutBody {p : Program} (h : WF p) : WF (cloneWithoutBody p) :=
  wf_of_sub h (cloneWithoutBody_sublist p)

theorem wf_expandCalibrations {p : Program} (h : WF p) (out : List Instr) : WF (expandCalibrations p out) :=
  wf_addMany (wf_rebuildUsed (wf_cloneWithoutBody h)) out

/-- the program `simplify` has after dropping the calibrations and rebuilding the cache (879-881) -/
def simpMid (p : Program) (out : List Instr) : Program :=
  rebuildUsed { expandCalibrations p out with cals := [], mcals := [] }

theorem simplify_eq (p : Program) (out : List Instr) (kF kW kE : List String) :
    simplify p out kF kW kE =
      { simpMid p out with
        frames := (simpMid p out).frames.filter (fun f => kF.contains f.key)
        waveforms := (simpMid p out).waveforms.filter (fun w => kW.contains w.key)
        externs := (simpMid p out).externs.filter (fun x => kE.contains x.key) } := rfl

theorem simpMid_sublist (p : Program) (out : List Instr) (k : Kind) :
    ((simpMid p out).container k).Sublist ((expandCalibrations p out).container k) := by
  cases k
  case cal | mcal => exact List.nil_sublist _
  all_goals exact .refl _

theorem simplify_sublist (p : Program) (out : List Instr) (kF kW kE : List String) (k : Kind) :
    ((simplify p out kF kW kE).container k).Sublist ((simpMid p out).container k) := by
  cases k
  case frame | waveform | extern => exact List.filter_sublist
  all_goals exact .refl _

theorem wf_simplify {p : Program} (h : WF p) (out : List Instr) (kF kW kE : List String) :
    WF (simplify p out kF kW kE) :=
  wf_of_sub (wf_expandCalibrations h out) fun _ => (simplify_sublist ..).trans (simpMid_sublist ..)

theorem wf_wrapInLoop {p : Program} (h : WF p) (n : Nat) (hd tl : List Instr) : WF (wrapInLoop p n hd tl) := by
  match n with
  | 0 => exact wf_cloneWithoutBody h
  | 1 => exact h
  | n + 2 => exact wf_addMany (wf_cloneWithoutBody h) _

theorem container_withBody (p : Program) (nb : List Instr) (k : Kind) :
    ({ p with body := nb } : Program).container k = if k = .body then nb else p.container k := by
  cases k <;> rfl

theorem wf_resolvePlaceholders {p : Program} (h : WF p) (nb : List Instr)
    (hv : ∀ x ∈ nb, x.kind = .body) : WF (resolvePlaceholders p nb) := by
  apply wf_rebuildUsed
  constructor
  · intro k x hx
    rw [container_withBody] at hx
    split at hx
    · next hb => exact (hv x hx).trans hb.symm
    · exact h.kinds k x hx
  · intro k hb
    rw [container_withBody, if_neg hb]; exact h.nodup k hb

theorem mem_container_concat {p q : Program} {y : Instr} {k : Kind} (h : y ∈ (concat p q).container k) :
    y ∈ p.container k ∨ y ∈ q.container k := by
  rw [container_concat] at h
  split at h
  · exact List.mem_append.mp h
  · exact mem_foldl_upsert_imp h

theorem mem_container_concat_left {p q : Program} {y : Instr} {k : Kind} (h : y ∈ p.container k)
    (hk : k = .body ∨ y.key ∉ keys (q.container k)) : y ∈ (concat p q).container k := by
  rw [container_concat]
  split
  · exact List.mem_append_left _ h
  · next hb => exact mem_foldl_upsert_of_not_key h (hk.resolve_left hb)

theorem mem_container_concat_right {p q : Program} (hq : WF q) {y : Instr} {k : Kind}
    (h : y ∈ q.container k) : y ∈ (concat p q).container k := by
  rw [container_concat]
  split
  · exact List.mem_append_right _ h
  · next hb => exact mem_foldl_upsert_of_mem_nodup h (hq.nodup k hb)

theorem wf_concat {p q : Program} (hp : WF p) (hq : WF q) : WF (concat p q) where
  kinds k x hx := (mem_container_concat hx).elim (hp.kinds k x) (hq.kinds k x)
  nodup k hb := by
    rw [container_concat, if_neg hb]; exact nodup_foldl_upsert _ (hp.nodup k hb)

/-- container by container this is associativity of `extend` -/
theorem concat_addMany {p q : Program} (hp : WF p) (hq : WF q) (b : List Instr) :
    concat p (addMany q b) = addMany (concat p q) b := by
  apply Program.ext_container
  · intro k
    simp only [container_concat, container_addMany]
    by_cases hb : k = .body
    · simp only [hb, if_true, List.append_assoc]
    · simp only [hb, if_false]
      exact extendMap_assoc _ (hq.nodup k hb) (hp.nodup k hb)
  · show p.used ++ (addMany q b).used = (addMany (concat p q) b).used
    rw [used_addMany, used_addMany]; exact (List.append_assoc ..).symm

theorem concat_empty (p : Program) : concat p empty = p := by
  cases p; simp [concat, empty, extendMap]

theorem ofKind_eq_self {l : List Instr} {k : Kind} (h : ∀ x ∈ l, x.kind = k) : ofKind k l = l :=
  List.filter_eq_self.mpr fun x hx => by simp [h x hx]

theorem ofKind_eq_nil {l : List Instr} {k k' : Kind} (h : ∀ x ∈ l, x.kind = k') (hne : k' ≠ k) :
    ofKind k l = [] :=
  List.filter_eq_nil_iff.mpr fun x hx => by simp [h x hx, hne]

/-- filtering a flat map of containers keeps those of that kind whole and empties the others (`WF.kinds`), and
`Kind.all` lists each kind once -/
theorem ofKind_toInstructions {p : Program} (h : WF p) (k : Kind) :
    ofKind k (toInstructions p) = p.container k := by
  have key : ∀ l : List Kind, ofKind k (l.flatMap fun k' => p.container k') =
      (l.filter (· = k)).flatMap fun k' => p.container k' := by
    intro l
    induction l with
    | nil => rfl
    | cons a l ih =>
      rw [List.flatMap_cons, ofKind, List.filter_append, ← ofKind, ← ofKind, ih, List.filter_cons]
      by_cases e : a = k
      · rw [ofKind_eq_self (e ▸ h.kinds a)]; simp [e]
      · rw [ofKind_eq_nil (h.kinds a) e]; simp [e]
  rw [toInstructions_eq_flatMap, key, Kind.filter_all, List.flatMap_singleton]

theorem toInstructions_eq_flatMap_ofKind {p : Program} (h : WF p) :
    toInstructions p = Kind.all.flatMap (fun k => ofKind k (toInstructions p)) := by
  conv => lhs; rw [toInstructions_eq_flatMap]
  congr 1; funext k; exact (ofKind_toInstructions h k).symm

theorem distinct_of_sublist {p : Program} (h : WF p) {l : List Instr} (hs : l.Sublist (toInstructions p)) :
    ∀ k, k ≠ .body → (keys (ofKind k l)).Nodup := by
  intro k hb
  have h1 : (ofKind k l).Sublist (ofKind k (toInstructions p)) := hs.filter _
  rw [ofKind_toInstructions h k] at h1
  exact (h.nodup k hb).sublist (keys_sublist h1)

theorem container_fromInstructions_of_distinct {is : List Instr}
    (hd : ∀ k, k ≠ .body → (keys (ofKind k is)).Nodup) (k : Kind) :
    (fromInstructions is).container k = ofKind k is := by
  rw [container_fromInstructions]
  split
  · rfl
  · next hb => exact foldl_upsert_of_nodup _ [] (hd k hb)

theorem mem_toInstructions_fromInstructions_of_distinct {is : List Instr}
    (hd : ∀ k, k ≠ .body → (keys (ofKind k is)).Nodup) {x : Instr} :
    x ∈ toInstructions (fromInstructions is) ↔ x ∈ is := by
  simp [mem_toInstructions, container_fromInstructions_of_distinct hd, ofKind]

theorem fromInstructions_toInstructions {p : Program} (h : WF p) :
    fromInstructions (toInstructions p) = rebuildUsed p := by
  apply Program.ext_container
  · intro k
    rw [container_fromInstructions_of_distinct (distinct_of_sublist h (.refl _)),
      ofKind_toInstructions h, container_rebuildUsed]
  · exact used_fromInstructions _

/-! ### Equality and the cache invariant (what C09 needs; the rest is in `C10/Lemmas.lean`) -/

theorem subset_iff {a b : List Qubit} : subset a b = true ↔ ∀ q ∈ a, q ∈ b :=
  Chk.all_contains_iff a b

theorem setEq_iff {a b : List Qubit} : setEq a b = true ↔ ∀ q, q ∈ a ↔ q ∈ b :=
  Chk.sameSet_iff a b

/-- the C10 invariant -/
def Inv (p : Program) : Prop := ∀ q, q ∈ p.used ↔ q ∈ qubitsOf (toInstructions p)

theorem invB_iff (p : Program) : invB p = true ↔ Inv p := by
  simp [invB, Inv, setEq_iff]

theorem mapEq_self {l : List Instr} (hn : (keys l).Nodup) : mapEq l l = true := by
  simp only [mapEq, beq_self_eq_true, Bool.true_and, List.all_eq_true]
  intro x hx
  have h : l.find? (fun y => y.key == x.key) = some x := lookup_of_mem_nodup hx hn
  rw [h]; exact beq_self_eq_true _

theorem vecEq_self (l : List Instr) : vecEq l l = true := by simp [vecEq]

/-- with all containers equal every `mapEq`/`vecEq` of `progEq` compares a list with itself (`mapEq_self` needs the
distinct keys `WF` gives), and the cache clause is `setEq_iff` -/
theorem progEq_of_containers {p q : Program} (hp : WF p) (h : ∀ k, p.container k = q.container k)
    (hu : ∀ x, x ∈ p.used ↔ x ∈ q.used) : progEq p q = true := by
  have h0 := h .extern; have h1 := h .decl; have h2 := h .frame; have h3 := h .waveform
  have h4 := h .cal; have h5 := h .mcal; have h6 := h .gateDef; have h7 := h .circuit
  have h8 := h .body
  simp only [Program.container] at h0 h1 h2 h3 h4 h5 h6 h7 h8
  have n0 := hp.nodup .extern (by decide); have n1 := hp.nodup .decl (by decide)
  have n2 := hp.nodup .frame (by decide); have n3 := hp.nodup .waveform (by decide)
  have n6 := hp.nodup .gateDef (by decide); have n7 := hp.nodup .circuit (by decide)
  simp only [Program.container] at n0 n1 n2 n3 n6 n7
  simp only [progEq, ← h0, ← h1, ← h2, ← h3, ← h4, ← h5, ← h6, ← h7, ← h8, vecEq_self, mapEq_self n0,
    mapEq_self n1, mapEq_self n2, mapEq_self n3, mapEq_self n6, mapEq_self n7, Bool.true_and,
    setEq_iff]
  exact hu

theorem progEq_used {p q : Program} (h : progEq p q = true) : ∀ x, x ∈ p.used ↔ x ∈ q.used := by
  simp only [progEq, Bool.and_eq_true] at h
  exact setEq_iff.mp h.2

theorem inv_rebuildUsed (p : Program) : Inv (rebuildUsed p) := fun _ => Iff.rfl

theorem inv_empty : Inv empty := fun _ => Iff.rfl

/-- the listing has the same members as the history, and the cache is the history's qubits -/
theorem inv_fromInstructions_of_distinct (is : List Instr)
    (hd : ∀ k, k ≠ .body → (keys (ofKind k is)).Nodup) : Inv (fromInstructions is) := by
  intro q
  simp only [used_fromInstructions, qubitsOf, List.mem_flatMap,
    mem_toInstructions_fromInstructions_of_distinct hd]

theorem maskFilter_sublist (l : List Instr) (m : List Bool) : (maskFilter l m).Sublist l := by
  induction l generalizing m with
  | nil => cases m <;> simp [maskFilter]
  | cons x xs ih =>
    cases m with
    | nil => simp [maskFilter]
    | cons b bs =>
      cases b
      · simp only [maskFilter, Bool.false_eq_true, if_false]; exact (ih bs).cons x
      · simp only [maskFilter, if_true]; exact (ih bs).cons_cons x

theorem inv_filterInstructions {p : Program} (h : WF p) (mask : List Bool) :
    Inv (filterInstructions p mask) :=
  inv_fromInstructions_of_distinct _ (distinct_of_sublist h (maskFilter_sublist _ _))

end QV.Prog
