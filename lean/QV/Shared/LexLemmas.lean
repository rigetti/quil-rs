import QV.Shared.Lex
/-!
Lemmas about the lexer model's scanning primitives (`span`, `takeWhile1`), about which alternative of
`lex_token` a first character selects, about the text shown to lexical (`lexicalView`) and about the outer loop
(`lexMany`; `lex` item by item).  Core Lean only.
-/
namespace QV.Lex

def stops (p : Char → Bool) (rest : List Char) : Bool :=
  match rest with
  | [] => true
  | c :: _ => !p c

@[simp] theorem stops_nil (p : Char → Bool) : stops p [] = true := rfl
@[simp] theorem stops_cons (p : Char → Bool) (c : Char) (r : List Char) : stops p (c :: r) = !p c := rfl

theorem span_stops (p : Char → Bool) (rest : List Char) (h : stops p rest = true) :
    span p rest = ([], rest) := by
  cases rest with
  | nil => rfl
  | cons c cs =>
    have : p c = false := by simpa using h
    simp [span, this]

theorem span_append (p : Char → Bool) (a rest : List Char)
    (ha : ∀ c ∈ a, p c = true) (hr : stops p rest = true) :
    span p (a ++ rest) = (a, rest) := by
  induction a with
  | nil => simpa using span_stops p rest hr
  | cons c cs ih =>
    have hc : p c = true := ha c (by simp)
    have ih' := ih (fun d hd => ha d (by simp [hd]))
    simp [span, hc, ih']

theorem takeWhile1_append (p : Char → Bool) (a rest : List Char) (hne : a ≠ [])
    (ha : ∀ c ∈ a, p c = true) (hr : stops p rest = true) :
    takeWhile1 p (a ++ rest) = some (a, rest) := by
  unfold takeWhile1
  rw [span_append p a rest ha hr]
  cases a with
  | nil => exact absurd rfl hne
  | cons c cs => rfl

theorem takeWhile1_stops (p : Char → Bool) (rest : List Char) (h : stops p rest = true) :
    takeWhile1 p rest = none := by
  unfold takeWhile1
  rw [span_stops p rest h]

theorem span_spec (p : Char → Bool) (inp : List Char) :
    ∃ a r, span p inp = (a, r) ∧ inp = a ++ r ∧ (∀ c ∈ a, p c = true) ∧ stops p r = true := by
  induction inp with
  | nil => exact ⟨[], [], rfl, rfl, by simp, rfl⟩
  | cons c cs ih =>
    by_cases hc : p c = true
    · obtain ⟨a, r, hsp, h1, h2, h3⟩ := ih
      refine ⟨c :: a, r, by simp [span, hc, hsp], by simp [h1], ?_, h3⟩
      intro d hd
      rcases List.mem_cons.1 hd with rfl | hd
      · exact hc
      · exact h2 d hd
    · have hc' : p c = false := by simpa using hc
      exact ⟨[], c :: cs, by simp [span, hc'], rfl, by simp, by simp [hc']⟩

theorem takeWhile1_some (p : Char → Bool) (inp a r : List Char) (h : takeWhile1 p inp = some (a, r)) :
    a ≠ [] ∧ inp = a ++ r ∧ (∀ c ∈ a, p c = true) ∧ stops p r = true ∧ span p inp = (a, r) := by
  obtain ⟨x, y, hsp, h1, h2, h3⟩ := span_spec p inp
  rw [takeWhile1, hsp] at h
  cases x with
  | nil => cases h
  | cons c cs => cases h; exact ⟨by simp, h1, h2, h3, hsp⟩

theorem takeWhile1_none (p : Char → Bool) (inp : List Char) (h : takeWhile1 p inp = none) :
    span p inp = ([], inp) := by
  obtain ⟨x, y, hsp, h1, _, _⟩ := span_spec p inp
  rw [takeWhile1, hsp] at h
  cases x with
  | nil => rw [hsp, h1]; rfl
  | cons c cs => cases h

section
variable {c : Char} {r : List Char}

theorem isEnd_of_isAsciiDigit (h : isAsciiDigit c = true) : isEnd c = true := by
  simp only [isEnd, h, Bool.or_true]

theorem lexComment_error (h : isEnd c = true) : lexComment (c :: r) = .error := by
  unfold lexComment
  split
  · rename_i heq; cases heq; cases h
  · rfl

theorem recognizeNewlines_none (h : isEnd c = true) : recognizeNewlines (c :: r) = none := by
  unfold recognizeNewlines
  split
  iterate 2 (rename_i heq; cases heq; cases h)
  rfl

theorem lexPunctuation_error (h : isEnd c = true) : lexPunctuation (c :: r) = .error := by
  unfold lexPunctuation
  split
  iterate 10 (rename_i heq; cases heq; cases h)
  rw [recognizeNewlines_none h]

theorem lexTarget_error (h : isEnd c = true) : lexTarget (c :: r) = .error := by
  unfold lexTarget
  split
  · rename_i heq; cases heq; cases h
  · rfl

theorem lexString_error (h : isEnd c = true) : lexString (c :: r) = .error := by
  have : c ≠ '"' := fun e => by subst e; cases h
  simp [lexString, QV.C07.lexString, QV.C07.surrounded, this]

theorem lexOperator_error (h : isEnd c = true) : lexOperator (c :: r) = .error := by
  unfold lexOperator
  split
  iterate 5 (rename_i heq; cases heq; cases h)
  rfl

theorem lexVariable_error (h : isEnd c = true) : lexVariable (c :: r) = .error := by
  unfold lexVariable
  split
  · rename_i heq; cases heq; cases h
  · rfl

theorem lexToken_of_isEnd (h : isEnd c = true) :
    lexToken (c :: r) = (lexKeywordOrIdentifier (c :: r)).orElse fun _ => lexNumber (c :: r) := by
  simp only [lexToken, lexComment_error h, lexPunctuation_error h, lexTarget_error h, lexString_error h,
    lexOperator_error h, lexVariable_error h, Res.orElse]

theorem lexItem_of_head (c : Char) (r : List Char) (h1 : c ≠ ' ') (h2 : c ≠ '\t') :
    lexItem (c :: r) = lexToken (c :: r) ∧ lexItem (' ' :: c :: r) = lexToken (c :: r) := by
  have hb : (c == ' ') = false := beq_eq_false_iff_ne.2 h1
  have e1 : lexIndent (c :: r) = .error := by
    unfold lexIndent
    split
    · rename_i heq; cases heq; exact absurd rfl h1
    · rename_i heq; cases heq; exact absurd rfl h2
    · rfl
  have e2 : lexIndent (' ' :: c :: r) = .error := by
    unfold lexIndent
    split
    · rename_i heq; cases heq; exact absurd rfl h1
    · rename_i heq; cases heq
    · rfl
  constructor
  · simp only [lexItem, e1, Res.orElse, List.dropWhile, hb]
  · simp only [lexItem, e2, Res.orElse, List.dropWhile, hb]; simp

theorem lexItem_of_isEnd (h : isEnd c = true) : lexItem (c :: r) = lexToken (c :: r) :=
  (lexItem_of_head c r (fun e => by subst e; cases h) (fun e => by subst e; cases h)).1

end

/-- after the sigil `@` (`%`) only `lex_target` (`lex_variable`) can fire, and what it returns is the token: no later
alternative of `lex_token` accepts the sigil -/
theorem lexToken_at (r : List Char) : lexToken ('@' :: r) = (lexIdentifierRaw r).map Tok.Token.target := by
  simp only [lexToken, lexTarget, Res.orElse, show lexComment ('@' :: r) = .error from rfl,
    show lexPunctuation ('@' :: r) = .error from rfl]
  cases lexIdentifierRaw r <;> rfl

theorem lexToken_percent (r : List Char) : lexToken ('%' :: r) = (lexIdentifierRaw r).map Tok.Token.variable := by
  simp only [lexToken, lexVariable, Res.orElse, show lexComment ('%' :: r) = .error from rfl,
    show lexPunctuation ('%' :: r) = .error from rfl, show lexTarget ('%' :: r) = .error from rfl,
    show lexString ('%' :: r) = .error from rfl, show lexOperator ('%' :: r) = .error from rfl]
  cases lexIdentifierRaw r <;> rfl

theorem lexicalView_cons (c : Char) (cs : List Char) (h : ¬ (c = '.' ∧ cs.head? = some '_')) :
    lexicalView (c :: cs) = if isCandChar c then c :: lexicalView cs else c :: cs := by
  have hstep : viewLen? (c :: cs) = if isCandChar c then (viewLen? cs).map (· + 1) else none := by
    conv => lhs; unfold viewLen?
    split
    · rename_i heq
      injection heq with h1 h2
      exact absurd ⟨h1, by rw [h2]; rfl⟩ h
    · rename_i heq
      injection heq with h1 h2
      subst h1; subst h2; rfl
    · rename_i heq; cases heq
  rw [lexicalView, hstep]
  by_cases hc : isCandChar c = true
  · rw [if_pos hc, if_pos hc, lexicalView]; cases viewLen? cs <;> rfl
  · rw [if_neg hc, if_neg hc]

theorem lexicalView_head (t : List Char) : (lexicalView t).head? = t.head? := by
  cases t with
  | nil => rfl
  | cons c cs =>
    by_cases h : c = '.' ∧ cs.head? = some '_'
    · obtain ⟨rfl, h⟩ := h
      cases cs with
      | nil => cases h
      | cons d r => cases h; rfl
    · rw [lexicalView_cons c cs h]; split <;> rfl

theorem lexicalView_length_le (t : List Char) : (lexicalView t).length ≤ t.length := by
  unfold lexicalView
  split
  · simp only [List.length_take]; omega
  · exact Nat.le_refl _

theorem lexMany_nil (n : Nat) : lexMany n [] = .ok [] [] := by cases n <;> rfl

theorem lexMany_fail (k : Nat) (inp : List Char) (h : lexItem inp = .failure) :
    lexMany (k + 1) inp = .failure := by
  simp only [lexMany, h]

theorem lexMany_fuel : ∀ (f g : Nat) (inp : List Char), inp.length ≤ f → inp.length ≤ g →
    lexMany f inp = lexMany g inp := by
  intro f
  induction f with
  | zero =>
    intro g inp hf _
    cases inp with
    | nil => rw [lexMany_nil, lexMany_nil]
    | cons _ _ => cases hf
  | succ f ih =>
    intro g inp hf hg
    cases g with
    | zero =>
      cases inp with
      | nil => rw [lexMany_nil, lexMany_nil]
      | cons _ _ => cases hg
    | succ g =>
      simp only [lexMany]
      cases lexItem inp with
      | ok t rest =>
        by_cases h : rest.length < inp.length
        · simp only [h, if_true]; rw [ih g rest (by omega) (by omega)]
        · simp only [h, if_false]
      | error => rfl
      | failure => rfl

/-! `lex` item by item: no proof outside this file mentions `lexMany` or its fuel -/

theorem lex_nil : lex [] = some [] := rfl

theorem lex_cons {inp rest : List Char} {t : Tok.Token} (h : lexItem inp = .ok t rest)
    (hl : rest.length < inp.length) : lex inp = (lex rest).map (t :: ·) := by
  cases hn : inp.length with
  | zero => omega
  | succ n =>
    simp only [lex, hn, lexMany, h, hn ▸ hl, if_true]
    rw [lexMany_fuel n rest.length rest (by omega) (Nat.le_refl _)]
    cases lexMany rest.length rest with
    | ok ts r => dsimp only; split <;> rfl
    | error => rfl
    | failure => rfl

theorem lex_failure {inp : List Char} (h : lexItem inp = .failure) : lex inp = none := by
  cases inp with
  | nil => cases h
  | cons c cs => simp only [lex, List.length_cons, lexMany, h]

theorem lex_single (inp : List Char) (t : Tok.Token) (h : lexItem inp = .ok t []) :
    lex inp = some [t] := by
  cases inp with
  | nil => cases h
  | cons c cs => rw [lex_cons h (Nat.succ_pos _), lex_nil]; rfl

end QV.Lex
