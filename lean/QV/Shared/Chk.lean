/-!
Boolean checkers against their `Prop` specifications: the shapes that recur in the `…B_iff` / `…_checker_sound`
theorems.  An implication written as `!a || b`; a list used as a set, compared by `all`/`contains`.  The set checkers
of the models (`C26.subset`/`sameSet`, `C27.subsetB`/`sameSetB`, `Prog.subset`/`setEq`) are separate definitions with
these bodies, so each of their characterisations is an instance by `exact`; `C26.exactlyB` likewise for `exactly_iff`.
`C11.usedB` compares with a union written `a.contains q || b.contains q` and follows by `simpa` at `a ++ b`.
Core Lean only.
-/
namespace QV.Chk
universe u
variable {α : Type u}

theorem guard_iff {a b : Bool} : (!a || b) = true ↔ (a = true → b = true) := by
  cases a <;> simp

section sets
variable [BEq α] [LawfulBEq α]

theorem all_contains_iff (a b : List α) : a.all (fun x => b.contains x) = true ↔ ∀ x ∈ a, x ∈ b := by simp

theorem sameSet_iff (a b : List α) :
    (a.all (fun x => b.contains x) && b.all (fun x => a.contains x)) = true ↔ ∀ x, x ∈ a ↔ x ∈ b := by
  simp only [Bool.and_eq_true, all_contains_iff]
  exact ⟨fun h x => ⟨h.1 x, h.2 x⟩, fun h => ⟨fun x => (h x).1, fun x => (h x).2⟩⟩

theorem exactly_iff (dom l : List α) (pb : α → Bool) (P : α → Prop) (hp : ∀ f, pb f = true ↔ P f) :
    (l.all (fun f => dom.contains f && pb f) && dom.all (fun f => !pb f || l.contains f)) = true ↔
      ∀ f, f ∈ l ↔ f ∈ dom ∧ P f := by
  simp only [Bool.and_eq_true, List.all_eq_true, List.contains_iff_mem, guard_iff, hp]
  exact ⟨fun h f => ⟨h.1 f, fun hf => h.2 f hf.1 hf.2⟩, fun h => ⟨fun f => (h f).1, fun f hd hP => (h f).2 ⟨hd, hP⟩⟩⟩

end sets
end QV.Chk
