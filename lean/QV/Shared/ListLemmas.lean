/-!
Facts about plain lists that several areas need and core Lean does not state: `List.lookup` on an association list
seen through its keys, `zip` of a list with its own image, and the length of a filter.  Core Lean only.
-/
namespace QV
universe u v
variable {α : Type u} {β : Type v}

section lookup
variable [BEq α] [LawfulBEq α] {k : α} {v : β} {l : List (α × β)}

theorem mem_of_lookup (h : l.lookup k = some v) : (k, v) ∈ l := by
  obtain ⟨l₁, l₂, rfl, -⟩ := List.lookup_eq_some_iff.1 h
  simp

theorem lookup_eq_none_iff_not_mem_keys : l.lookup k = none ↔ k ∉ l.map Prod.fst := by
  simp only [List.lookup_eq_none_iff, List.mem_map, bne_iff_ne, ne_eq]
  exact ⟨fun h ⟨p, hp, e⟩ => h p hp e.symm, fun h p hp e => h ⟨p, hp, e.symm⟩⟩

theorem exists_lookup_of_mem_keys (h : k ∈ l.map Prod.fst) : ∃ v, l.lookup k = some v := by
  obtain ⟨p, hp, rfl⟩ := List.mem_map.mp h
  exact Option.isSome_iff_exists.mp (List.lookup_isSome_iff.mpr ⟨p, hp, beq_self_eq_true _⟩)

theorem lookup_of_mem (hnd : (l.map Prod.fst).Nodup) (h : (k, v) ∈ l) : l.lookup k = some v := by
  obtain ⟨l₁, l₂, rfl⟩ := List.append_of_mem h
  refine List.lookup_eq_some_iff.2 ⟨l₁, l₂, rfl, fun p hp => ?_⟩
  rw [List.map_append, List.map_cons, List.nodup_append] at hnd
  simpa using fun e => hnd.2.2 p.1 (List.mem_map.2 ⟨p, hp, rfl⟩) k (by simp) e.symm

end lookup

theorem zip_map_self (g : α → β) (l : List α) : l.zip (l.map g) = l.map fun x => (x, g x) := by
  simpa using List.zip_map' (f := id) (g := g) (l := l)

theorem mem_zip_self {l : List α} {a b : α} (h : (a, b) ∈ l.zip l) : a = b ∧ a ∈ l := by
  have e := zip_map_self id l
  rw [List.map_id] at e
  obtain ⟨x, hx, hab⟩ := List.mem_map.1 (e ▸ h)
  cases hab
  exact ⟨rfl, hx⟩

/-- leaving out more elements, among them one that was still there, makes the rest of `L` strictly shorter -/
theorem length_filter_notMem_append_lt [DecidableEq α] (L s t : List α) (n : α) (hn : n ∈ L) (hs : n ∉ s)
    (ht : n ∈ t) : (L.filter fun x => decide (x ∉ s ++ t)).length < (L.filter fun x => decide (x ∉ s)).length := by
  have e : (L.filter fun x => decide (x ∉ s ++ t)) =
      (L.filter fun x => decide (x ∉ s)).filter fun x => decide (x ∉ s ++ t) := by
    rw [List.filter_filter]
    exact List.filter_congr fun x _ => by by_cases hx : x ∈ s <;> simp [hx]
  rw [e]
  exact List.length_filter_lt_length_iff_exists.2 ⟨n, List.mem_filter.2 ⟨hn, by simpa using hs⟩, by simp [ht]⟩

end QV
