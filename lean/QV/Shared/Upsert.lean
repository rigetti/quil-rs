/-
Ordered maps as lists of values that carry their own key (`IndexMap`, `CalibrationSet`, `FrameSet`,
`ExternPragmaMap` of quil-rs).  `upsertBy key` is `IndexMap::insert` / `CalibrationSet::replace`: replace the
first element with an equal key in place, else append; `xs.foldl (upsertBy key) l` is `Extend::extend`.

A list with distinct keys is determined by its key sequence and its lookups (`ext_of_keys_find?`), and a fold
of insertions is characterised in exactly those terms (`keys_foldl_upsertBy`, `find?_foldl_upsertBy`); the
algebraic laws (`foldl_upsertBy_of_nodup`, `foldl_upsertBy_assoc`) follow from that.
To use it: `key` is the explicit first argument of every lemma. Two maps are proved equal by
`apply ext_of_keys_find? key (nodup_foldl_upsertBy key _ h)`, then `keys_foldl_upsertBy` / `find?_foldl_upsertBy` on
both sides (`mem_keys_foldl_upsertBy` for the filter). Where a map is an implicit argument fixed only by its `Nodup`
hypothesis (`foldl_upsertBy_assoc`, `nodup_foldl_upsertBy`, `nodup_upsertBy`), `exact` finds it from the goal; inside
`rw` or `have` at the empty map write it, `(l := [])`.
Instances: `QV.Prog.upsert` (key `Instr.key`), `QV.C02.upsert` (key `slotOf`), `QV.Ast.indexMapInsert` and
`QV.C11.insert` (pairs, key `Prod.fst`), `QV.C11.unionSet` (a set: key `id`), `QV.C17.upsert` (pairs, `upsert_eq` in
`C17/Container.lean`), `QV.C16.replace` (key `sig`, `replace_eq_upsertBy` in `C16/Lemmas.lean`), `QV.C33.insertRegion` (`insertRegion_eq` in
`C33/Lemmas.lean`).  Core Lean only.
-/
namespace QV
variable {α κ : Type} [DecidableEq κ] (key : α → κ)

def upsertBy : List α → α → List α
  | [], i => [i]
  | x :: xs, i => if key x = key i then i :: xs else x :: upsertBy xs i

theorem upsertBy_cons_eq {x i : α} (h : key x = key i) (xs : List α) : upsertBy key (x :: xs) i = i :: xs := by
  rw [upsertBy, if_pos h]

theorem upsertBy_cons_ne {x i : α} (h : key x ≠ key i) (xs : List α) :
    upsertBy key (x :: xs) i = x :: upsertBy key xs i := by
  rw [upsertBy, if_neg h]

theorem keys_upsertBy (l : List α) (i : α) :
    (upsertBy key l i).map key = if key i ∈ l.map key then l.map key else l.map key ++ [key i] := by
  induction l with
  | nil => simp [upsertBy]
  | cons x xs ih =>
    by_cases h : key x = key i
    · simp [upsertBy, h]
    · have h' : ¬ key i = key x := fun e => h e.symm
      simp only [upsertBy, h, if_false, List.map_cons, ih, List.mem_cons, h', false_or]
      split <;> simp

theorem mem_map_keys_upsertBy {β : Type} (f : κ → β) (l : List α) (i : α) (x : β) :
    x ∈ (upsertBy key l i).map (fun a => f (key a)) ↔ f (key i) = x ∨ x ∈ l.map (fun a => f (key a)) := by
  have e : ∀ m : List α, m.map (fun a => f (key a)) = (m.map key).map f := fun m => by simp
  rw [e, e, keys_upsertBy]
  split
  · next h => exact ⟨Or.inr, fun h' => h'.elim (fun e => e ▸ List.mem_map_of_mem h) id⟩
  · simp [or_comm, eq_comm]

theorem find?_upsertBy (l : List α) (i : α) (k : κ) :
    (upsertBy key l i).find? (fun x => key x = k) =
      if key i = k then some i else l.find? (fun x => key x = k) := by
  induction l with
  | nil => by_cases hk : key i = k <;> simp [upsertBy, hk]
  | cons x xs ih =>
    by_cases h : key x = key i
    · rw [upsertBy_cons_eq key h, List.find?_cons, List.find?_cons, h]
      by_cases hk : key i = k <;> simp [hk]
    · rw [upsertBy_cons_ne key h, List.find?_cons, List.find?_cons, ih]
      by_cases hx : key x = k
      · simp [hx, show ¬ key i = k from fun e => h (hx.trans e.symm)]
      · simp [hx]

theorem mem_upsertBy {l : List α} {i y : α} (h : y ∈ upsertBy key l i) : y = i ∨ y ∈ l := by
  induction l with
  | nil => exact .inl (List.mem_singleton.mp h)
  | cons x xs ih =>
    unfold upsertBy at h
    split at h
    · exact (List.mem_cons.mp h).imp_right (List.mem_cons_of_mem _)
    · rcases List.mem_cons.mp h with h | h
      · exact .inr (h ▸ List.mem_cons_self ..)
      · exact (ih h).imp_right (List.mem_cons_of_mem _)

theorem mem_upsertBy_self (l : List α) (i : α) : i ∈ upsertBy key l i := by
  induction l with
  | nil => exact List.mem_singleton_self i
  | cons x xs ih =>
    by_cases hk : key x = key i
    · rw [upsertBy_cons_eq key hk]; exact List.mem_cons_self
    · rw [upsertBy_cons_ne key hk]; exact List.mem_cons_of_mem _ ih

theorem mem_upsertBy_of_not_find? {l : List α} {i y : α} (h : y ∈ l)
    (hl : l.find? (fun x => key x = key i) ≠ some y) : y ∈ upsertBy key l i := by
  induction l with
  | nil => cases h
  | cons x xs ih =>
    rw [List.find?_cons] at hl
    by_cases hx : key x = key i
    · rw [upsertBy_cons_eq key hx]
      rcases List.mem_cons.mp h with rfl | h
      · simp [hx] at hl
      · exact List.mem_cons_of_mem _ h
    · rw [upsertBy_cons_ne key hx]
      simp only [hx, decide_false] at hl
      exact List.mem_cons.mpr ((List.mem_cons.mp h).imp_right fun h => ih h hl)

theorem nodup_upsertBy {l : List α} (i : α) (h : (l.map key).Nodup) : ((upsertBy key l i).map key).Nodup := by
  rw [keys_upsertBy]
  split
  · exact h
  · next hn =>
    refine List.nodup_append.mpr ⟨h, by simp, fun a ha b hb e => ?_⟩
    rw [List.mem_singleton.mp hb] at e
    exact hn (e ▸ ha)

theorem upsertBy_of_not_mem {l : List α} {i : α} (h : key i ∉ l.map key) : upsertBy key l i = l ++ [i] := by
  induction l with
  | nil => rfl
  | cons x xs ih =>
    simp only [List.map_cons, List.mem_cons, not_or] at h
    have hx : ¬ key x = key i := fun e => h.1 e.symm
    simp [upsertBy, hx, ih h.2]

theorem upsertBy_map (f : α → α) (hf : ∀ i, key (f i) = key i) (l : List α) (i : α) :
    upsertBy key (l.map f) (f i) = (upsertBy key l i).map f := by
  induction l with
  | nil => rfl
  | cons x xs ih =>
    simp only [List.map_cons, upsertBy, hf]
    split <;> simp [ih]

theorem find?_of_mem_nodup {l : List α} {x : α} (hx : x ∈ l) (hn : (l.map key).Nodup) :
    l.find? (fun y => key y = key x) = some x := by
  induction l with
  | nil => cases hx
  | cons y ys ih =>
    have hn' := List.nodup_cons.mp hn
    rw [List.find?_cons]
    rcases List.mem_cons.mp hx with rfl | h
    · simp
    · have : key y ≠ key x := fun e => hn'.1 (e ▸ List.mem_map_of_mem h)
      simp only [this, decide_false]
      exact ih h hn'.2

omit [DecidableEq κ] in
theorem filterMap_keys {f : κ → Option α} {l : List α} (h : ∀ x ∈ l, f (key x) = some x) :
    (l.map key).filterMap f = l := by
  induction l with
  | nil => rfl
  | cons x xs ih =>
    rw [List.map_cons, List.filterMap_cons, h x List.mem_cons_self]
    exact congrArg _ (ih fun z hz => h z (List.mem_cons_of_mem _ hz))

theorem ext_of_keys_find? {l m : List α} (hl : (l.map key).Nodup) (hk : l.map key = m.map key)
    (hv : ∀ k, l.find? (fun y => key y = k) = m.find? (fun y => key y = k)) : l = m := by
  have el := filterMap_keys key (f := fun k => l.find? (fun y => key y = k)) fun x hx =>
    find?_of_mem_nodup key hx hl
  have em := filterMap_keys key (f := fun k => m.find? (fun y => key y = k)) fun x hx =>
    find?_of_mem_nodup key hx (hk ▸ hl)
  rw [← el, ← em, hk, funext hv]

theorem find?_reverse_of_nodup {l : List α} (hn : (l.map key).Nodup) (k : κ) :
    l.reverse.find? (fun y => key y = k) = l.find? (fun y => key y = k) := by
  have hr : (l.reverse.map key).Nodup := by
    rw [List.map_reverse]; exact List.pairwise_reverse.mpr (hn.imp Ne.symm)
  cases h : l.find? (fun y => key y = k) with
  | none =>
    rw [List.find?_eq_none] at h ⊢
    exact fun x hx => h x (List.mem_reverse.mp hx)
  | some x =>
    obtain rfl : key x = k := by simpa using List.find?_some h
    exact find?_of_mem_nodup key (List.mem_reverse.mpr (List.mem_of_find?_eq_some h)) hr

def firstSeen : List κ → List κ
  | [] => []
  | k :: ks => k :: (firstSeen ks).filter (fun x => x ≠ k)

theorem mem_firstSeen (ks : List κ) (k : κ) : k ∈ firstSeen ks ↔ k ∈ ks := by
  induction ks with
  | nil => simp [firstSeen]
  | cons a ks ih =>
    simp only [firstSeen, List.mem_cons, List.mem_filter, ih]
    by_cases h : k = a <;> simp [h]

theorem firstSeen_nodup (ks : List κ) : (firstSeen ks).Nodup := by
  induction ks with
  | nil => simp [firstSeen]
  | cons a ks ih =>
    simp only [firstSeen, List.nodup_cons, List.mem_filter]
    exact ⟨by simp, ih.sublist List.filter_sublist⟩

theorem firstSeen_of_nodup {ks : List κ} (h : ks.Nodup) : firstSeen ks = ks := by
  induction ks with
  | nil => rfl
  | cons a ks ih =>
    have ⟨ha, hks⟩ := List.nodup_cons.mp h
    simp only [firstSeen, ih hks]
    congr 1
    apply List.filter_eq_self.mpr
    intro x hx
    simp only [ne_eq, decide_eq_true_eq]
    intro hxa; subst hxa; exact ha hx

theorem firstSeen_sublist (ks : List κ) : (firstSeen ks).Sublist ks := by
  induction ks with
  | nil => simp [firstSeen]
  | cons a ks ih =>
    simp only [firstSeen]
    exact List.Sublist.cons_cons a (List.filter_sublist.trans ih)

theorem keys_foldl_upsertBy (xs l : List α) :
    (xs.foldl (upsertBy key) l).map key =
      l.map key ++ (firstSeen (xs.map key)).filter (fun k => k ∉ l.map key) := by
  induction xs generalizing l with
  | nil => simp [firstSeen]
  | cons x xs ih =>
    rw [List.foldl_cons, ih, keys_upsertBy, List.map_cons, firstSeen, List.filter_cons, List.filter_filter]
    by_cases hx : key x ∈ l.map key
    · -- `key x` is already a key: removing it from the rest changes nothing outside the old keys
      simp only [hx, if_true, not_true_eq_false, decide_false, Bool.false_eq_true, if_false]
      congr 1
      apply List.filter_congr
      intro k _
      by_cases hk : k ∈ l.map key
      · simp [hk]
      · simp [hk, show k ≠ key x from fun e => hk (e ▸ hx)]
    · -- `key x` is new: it comes next, and is removed from the rest
      simp only [hx, if_false, not_false_eq_true, decide_true, if_true, List.append_assoc,
        List.singleton_append]
      congr 2
      apply List.filter_congr
      intro k _
      by_cases hk : k = key x <;> simp [hk, hx]

theorem mem_keys_foldl_upsertBy (xs l : List α) (k : κ) :
    k ∈ (xs.foldl (upsertBy key) l).map key ↔ k ∈ l.map key ∨ k ∈ xs.map key := by
  rw [keys_foldl_upsertBy, List.mem_append, List.mem_filter, mem_firstSeen, decide_eq_true_eq]
  exact ⟨Or.imp_right And.left, fun h => (Decidable.em (k ∈ l.map key)).imp_right fun hn => ⟨h.resolve_left hn, hn⟩⟩

theorem find?_foldl_upsertBy (xs l : List α) (k : κ) :
    (xs.foldl (upsertBy key) l).find? (fun y => key y = k) =
      (xs.reverse.find? (fun y => key y = k)).or (l.find? (fun y => key y = k)) := by
  induction xs generalizing l with
  | nil => simp
  | cons x xs ih =>
    simp only [List.foldl_cons, ih, find?_upsertBy, List.reverse_cons, List.find?_append]
    by_cases hk : key x = k <;> simp [hk, List.find?]

theorem nodup_foldl_upsertBy (xs : List α) {l : List α} (h : (l.map key).Nodup) :
    ((xs.foldl (upsertBy key) l).map key).Nodup := by
  induction xs generalizing l with
  | nil => exact h
  | cons x xs ih => exact ih (nodup_upsertBy key x h)

theorem foldl_upsertBy_of_nodup (xs l : List α) (h : ((l ++ xs).map key).Nodup) :
    xs.foldl (upsertBy key) l = l ++ xs := by
  induction xs generalizing l with
  | nil => simp
  | cons x xs ih =>
    have hx : key x ∉ l.map key := fun hm => by
      rw [List.map_append, List.map_cons] at h
      exact (List.nodup_append.mp h).2.2 _ hm (key x) (List.mem_cons_self ..) rfl
    rw [List.foldl_cons, upsertBy_of_not_mem key hx, ih _ (by simpa using h), List.append_assoc]
    rfl

/-- `extend` is associative on maps: `l.extend(m.extend(xs)) = l.extend(m).extend(xs)`.  Both sides have the
keys of `l`, then the new ones of `m`, then the new ones of `xs`, and look a key up in `xs`, else `m`, else `l` -/
theorem foldl_upsertBy_assoc (xs : List α) {m l : List α} (hm : (m.map key).Nodup) (hl : (l.map key).Nodup) :
    (xs.foldl (upsertBy key) m).foldl (upsertBy key) l = xs.foldl (upsertBy key) (m.foldl (upsertBy key) l) := by
  have hxm := nodup_foldl_upsertBy key xs hm
  apply ext_of_keys_find? key (nodup_foldl_upsertBy key _ hl)
  · rw [keys_foldl_upsertBy, firstSeen_of_nodup hxm, keys_foldl_upsertBy, keys_foldl_upsertBy key xs,
      keys_foldl_upsertBy, firstSeen_of_nodup hm, List.filter_append, List.filter_filter, List.append_assoc]
    congr 2
    apply List.filter_congr
    intro k _
    generalize l.map key = a, m.map key = b
    by_cases h1 : k ∈ a <;> by_cases h2 : k ∈ b <;> simp [h1, h2]
  · intro k
    simp only [find?_foldl_upsertBy, find?_reverse_of_nodup key hxm, find?_reverse_of_nodup key hm,
      Option.or_assoc]

theorem mem_foldl_upsertBy {xs l : List α} {y : α} (h : y ∈ xs.foldl (upsertBy key) l) : y ∈ l ∨ y ∈ xs := by
  induction xs generalizing l with
  | nil => exact Or.inl h
  | cons x xs ih =>
    rcases ih h with h | h
    · rcases mem_upsertBy key h with e | h
      · subst e; exact Or.inr (by simp)
      · exact Or.inl h
    · exact Or.inr (List.mem_cons_of_mem _ h)

theorem mem_foldl_upsertBy_of_not_key {xs l : List α} {y : α} (hy : y ∈ l) (hk : key y ∉ xs.map key) :
    y ∈ xs.foldl (upsertBy key) l := by
  induction xs generalizing l with
  | nil => exact hy
  | cons x xs ih =>
    simp only [List.map_cons, List.mem_cons, not_or] at hk
    refine ih (mem_upsertBy_of_not_find? key hy fun e => hk.1 ?_) hk.2
    simpa using (List.find?_some e).symm

theorem mem_foldl_upsertBy_of_mem_nodup {xs : List α} (l : List α) {y : α} (hy : y ∈ xs)
    (hn : (xs.map key).Nodup) : y ∈ xs.foldl (upsertBy key) l := by
  have h := find?_foldl_upsertBy key xs l (key y)
  rw [find?_reverse_of_nodup key hn, find?_of_mem_nodup key hy hn] at h
  exact List.mem_of_find?_eq_some h

end QV
