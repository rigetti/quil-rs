import QV.Shared.Sched
/-!
Lemmas shared by C22–C25 about the scheduling model in `QV.Shared.Sched`. The centre is `QInv`, the invariant of a map
of dependency queues relative to the log of recorded accesses and to a preorder `R` ("ordered before"): recording an
access (`QInv.step`) or a history (`QInv.run`) preserves it when `R` honours the reported dependencies. `Reported` and
`DepEdgeFrom` name the dependencies a history reports and the edges they become.
-/
namespace QV.Sched

theorem Reach.trans {E : List Edge} {C : Label → Bool} {u v w : Node}
    (h1 : Reach E C u v) (h2 : Reach E C v w) : Reach E C u w := by
  induction h2 with
  | refl => exact h1
  | step _ he hc ih => exact .step ih he hc

theorem Reach.edge {E : List Edge} {C : Label → Bool} {u v : Node} {l : Label}
    (he : ⟨u, v, l⟩ ∈ E) (hc : C l = true) : Reach E C u v :=
  .step (.refl u) he hc

theorem Reach.weaken {E : List Edge} {C C' : Label → Bool} {u v : Node}
    (h : Reach E C u v) (hs : ∀ l, C l = true → C' l = true) : Reach E C' u v := by
  induction h with
  | refl => exact .refl _
  | step _ he hc ih => exact .step ih he (hs _ hc)

theorem Reach.measure_le {E : List Edge} {C : Label → Bool} (μ : Node → Nat)
    (hμ : ∀ e ∈ E, C e.label = true → μ e.src < μ e.dst) {u v : Node} (h : Reach E C u v) :
    u = v ∨ μ u < μ v := by
  induction h with
  | refl => exact .inl rfl
  | step _ he hc ih =>
    have := hμ _ he hc
    rcases ih with rfl | ih
    · exact .inr this
    · exact .inr (Nat.lt_trans ih this)

theorem Reach.head {E : List Edge} {C : Label → Bool} {u v : Node} (h : Reach E C u v) :
    u = v ∨ ∃ x l, ⟨u, x, l⟩ ∈ E ∧ C l = true ∧ Reach E C x v := by
  induction h with
  | refl => exact .inl rfl
  | step hr he hc ih =>
    rcases ih with rfl | ⟨x, l', hx, hcx, hxv⟩
    · exact .inr ⟨_, _, he, hc, .refl _⟩
    · exact .inr ⟨x, l', hx, hcx, .step hxv he hc⟩

theorem reachB_sound {E : List Edge} {C : Label → Bool} :
    ∀ (fuel : Nat) (u v : Node), reachB E C fuel u v = true → Reach E C u v := by
  intro fuel
  induction fuel with
  | zero =>
    intro u v h
    simp [reachB] at h
    subst h; exact .refl _
  | succ k ih =>
    intro u v h
    simp only [reachB, Bool.or_eq_true, decide_eq_true_eq, List.any_eq_true, Bool.and_eq_true] at h
    rcases h with rfl | ⟨e, he, ⟨hsrc, hc⟩, hr⟩
    · exact .refl _
    · have h2 := ih _ _ hr
      have h1 : Reach E C u e.dst := by
        subst hsrc
        exact Reach.edge (l := e.label) he hc
      exact h1.trans h2

theorem reachPass_sound {E : List Edge} {C : Label → Bool} {u : Node} :
    ∀ (es : List Edge) (vis : List Node), (∀ e ∈ es, e ∈ E) → (∀ y ∈ vis, Reach E C u y) →
      ∀ x ∈ reachPass C es vis, Reach E C u x := by
  intro es
  induction es with
  | nil => intro vis _ hv x hx; exact hv x hx
  | cons e rest ih =>
    intro vis hsub hv x hx
    simp only [reachPass] at hx
    refine ih _ (fun e' he' => hsub e' (List.mem_cons_of_mem _ he')) ?_ x hx
    intro y hy
    split at hy
    · rename_i hc
      simp only [Bool.and_eq_true, List.contains_eq_mem, decide_eq_true_eq] at hc
      rcases List.mem_cons.1 hy with rfl | hy
      · exact .step (hv _ hc.1.2) (hsub e List.mem_cons_self) hc.1.1
      · exact hv y hy
    · exact hv y hy

theorem reachFrom_sound {E : List Edge} {C : Label → Bool} {u x : Node}
    (h : (reachFrom E C u).contains x = true) : Reach E C u x := by
  refine reachPass_sound E _ (fun _ h => h) ?_ x (List.contains_iff_mem.1 h)
  intro y hy
  refine reachPass_sound E _ (fun _ h => h) ?_ y hy
  intro z hz
  obtain rfl := List.mem_singleton.1 hz
  exact .refl _

theorem pairwise_of_checkB {α : Type} {R : α → α → Prop} {chk : List α → Bool} {test : α → α → Bool}
    (hcons : ∀ p rest, chk (p :: rest) = (rest.all (test p) && chk rest))
    (hR : ∀ p q, test p q = true → R p q) : ∀ l, chk l = true → l.Pairwise R
  | [], _ => .nil
  | p :: rest, h => by
    rw [hcons, Bool.and_eq_true, List.all_eq_true] at h
    exact List.pairwise_cons.2 ⟨fun q hq => hR p q (h.1 q hq), pairwise_of_checkB hcons hR rest h.2⟩

theorem conflictB_iff {r1 r2 : Nat} {k1 k2 : Kind} :
    (decide (r1 = r2) && (k1.isWrite || k2.isWrite)) = true ↔ r1 = r2 ∧ Conflict k1 k2 := by
  simp [Conflict]

theorem isScheduled_iff {l : Label} : isScheduled l = true ↔ l = .scheduled := by
  cases l <;> simp [isScheduled]

theorem isStable_iff {l : Label} : isStable l = true ↔ l = .stable := by
  cases l <;> simp [isStable]

@[simp] theorem QMap.get_set (m : QMap) (r x : Nat) (q : Queue) :
    (m.set r q).get x = if x = r then q else m.get x := rfl

@[simp] theorem QMap.mem_keys_set (m : QMap) (r x : Nat) (q : Queue) :
    x ∈ (m.set r q).keys ↔ x ∈ m.keys ∨ x = r := by
  unfold QMap.set
  by_cases h : r ∈ m.keys
  · simp only [h, if_true]
    constructor
    · exact .inl
    · rintro (h' | rfl) <;> assumption
  · simp [h]

@[simp] theorem QMap.record_get (m : QMap) (r x : Nat) (n : Node) (k : Kind) :
    (m.record r n k).1.get x = if x = r then ((m.get r).record n k).1 else m.get x := rfl

@[simp] theorem QMap.record_deps (m : QMap) (r : Nat) (n : Node) (k : Kind) :
    (m.record r n k).2 = ((m.get r).record n k).2 := rfl

@[simp] theorem QMap.mem_keys_record (m : QMap) (r x : Nat) (n : Node) (k : Kind) :
    x ∈ (m.record r n k).1.keys ↔ x ∈ m.keys ∨ x = r := by
  simp [QMap.record]

/-- The invariant of a map `m` of dependency queues after the accesses `log` have been recorded in it, one after the
other, starting from queues that all equal `init` (empty for memory; the block start as writer for frames). `R u v`
reads "`u` is ordered before `v`": in the applications, reachability in the graph built from the reported
dependencies. -/
structure QInv (init : Queue) (m : QMap) (R : Node → Node → Prop) (log : List Access) : Prop where
  reaches : ∀ a ∈ log, (a.kind = .read ∧ a.node ∈ (m.get a.res).reads) ∨
    ∃ w, (m.get a.res).write = some w ∧ R a.node w.node
  ordered : log.Pairwise fun a b => a.res = b.res → Conflict a.kind b.kind → R a.node b.node
  writerLogged : ∀ r w, (m.get r).write = some w →
    w.kind.isWrite = true ∧ ((⟨w.node, r, w.kind⟩ : Access) ∈ log ∨ init.write = some w)
  readsLogged : ∀ r n, n ∈ (m.get r).reads → (⟨n, r, .read⟩ : Access) ∈ log
  keysLogged : ∀ r, r ∈ m.keys ↔ ∃ a ∈ log, a.res = r
  afterInit : ∀ w, init.write = some w → ∀ a ∈ log, R w.node a.node
  /-- a queue that starts with a writer never loses it: what makes `afterInit` survive a step, since the first
  access of a resource then reports the initial writer -/
  keep : ∀ w, init.write = some w → ∀ r, ∃ w', (m.get r).write = some w'

theorem QInv.empty (init : Queue) (hi : init.reads = []) (hw : ∀ w, init.write = some w → w.kind.isWrite = true)
    (R : Node → Node → Prop) : QInv init (QMap.empty init) R [] where
  reaches := by simp
  ordered := .nil
  writerLogged := by
    intro r w h
    simp only [QMap.empty] at h
    exact ⟨hw _ h, .inr h⟩
  readsLogged := by
    intro r n h
    simp [QMap.empty, hi] at h
  keysLogged := by simp [QMap.empty]
  afterInit := by simp
  keep := by
    intro w h r
    exact ⟨w, by simpa [QMap.empty] using h⟩

/-- the two initial queues meet the hypotheses of `QInv.empty` -/
theorem memInit_ok : Queue.memInit.reads = [] ∧ ∀ w, Queue.memInit.write = some w → w.kind.isWrite = true :=
  ⟨rfl, fun _ h => nomatch h⟩

theorem frameInit_ok : Queue.frameInit.reads = [] ∧ ∀ w, Queue.frameInit.write = some w → w.kind.isWrite = true :=
  ⟨rfl, fun _ h => by cases h; rfl⟩

theorem Kind.eq_read_of_not_isWrite {k : Kind} (h : ¬ k.isWrite = true) : k = .read := by
  cases k
  · rfl
  all_goals exact absurd rfl h

theorem Dep.mem_map_read {d : Dep} {l : List Node} : d ∈ l.map (Dep.mk .read) ↔ d.kind = .read ∧ d.node ∈ l := by
  rw [List.mem_map]
  exact ⟨fun ⟨x, hx, hd⟩ => hd ▸ ⟨rfl, hx⟩, fun ⟨h1, h2⟩ => ⟨d.node, h2, by rw [← h1]⟩⟩

theorem Queue.mem_record_deps (q : Queue) (n : Node) (k : Kind) (d : Dep) :
    d ∈ (q.record n k).2 ↔ q.write = some d ∨ (k.isWrite = true ∧ d.kind = .read ∧ d.node ∈ q.reads) := by
  cases k
  · simp [Queue.record, Kind.isWrite, Option.mem_toList]
  all_goals simp only [Queue.record, Kind.isWrite, List.mem_append, Option.mem_toList, Dep.mem_map_read, true_and]

theorem Queue.record_write (q : Queue) (n : Node) (k : Kind) :
    (q.record n k).1.write = if k.isWrite = true then some ⟨k, n⟩ else q.write := by
  cases k <;> rfl

theorem Queue.mem_record_reads (q : Queue) (n : Node) (k : Kind) (x : Node) :
    x ∈ (q.record n k).1.reads ↔ k = .read ∧ (x ∈ q.reads ∨ x = n) := by
  cases k
  · simp only [Queue.record, true_and]
    split
    · rename_i hn
      exact ⟨.inl, fun h => h.elim id fun e => e ▸ hn⟩
    · simp
  all_goals simp [Queue.record]

theorem QInv.deps_justified {init : Queue} {m : QMap} {R : Node → Node → Prop} {log : List Access}
    (h : QInv init m R log) (r : Nat) (n : Node) (k : Kind) (d : Dep) (hd : d ∈ (m.record r n k).2) :
    Conflict d.kind k ∧ ((⟨d.node, r, d.kind⟩ : Access) ∈ log ∨ init.write = some d) := by
  rw [QMap.record_deps, Queue.mem_record_deps] at hd
  rcases hd with hw | ⟨hk, hdk, hdr⟩
  · have := h.writerLogged r d hw
    exact ⟨.inl this.1, this.2⟩
  · refine ⟨.inr hk, .inl ?_⟩
    have := h.readsLogged r d.node hdr
    rw [hdk]; exact this

theorem QMap.mem_pendingAll {m : QMap} {d : Dep} : d ∈ m.pendingAll ↔
    ∃ r ∈ m.keys, (d.kind = .read ∧ d.node ∈ (m.get r).reads) ∨ (m.get r).write = some d := by
  simp only [QMap.pendingAll, List.mem_flatMap, Queue.pending, List.mem_append, Dep.mem_map_read, Option.mem_toList]

theorem QInv.pending_logged {init : Queue} {m : QMap} {R : Node → Node → Prop} {log : List Access} {d : Dep}
    (hq : QInv init m R log) (h : d ∈ m.pendingAll) :
    init.write = some d ∨ ∃ r k, (⟨d.node, r, k⟩ : Access) ∈ log := by
  obtain ⟨r, _, ⟨_, h⟩ | h⟩ := QMap.mem_pendingAll.1 h
  · exact .inr ⟨r, .read, hq.readsLogged r _ h⟩
  · exact (hq.writerLogged r d h).2.symm.imp id fun h' => ⟨r, d.kind, h'⟩

theorem QInv.reaches_pending {init : Queue} {m : QMap} {E : List Edge} {C : Label → Bool} {log : List Access}
    (hq : QInv init m (Reach E C) log) {a : Access} (ha : a ∈ log) :
    ∃ d ∈ m.pendingAll, Reach E C a.node d.node := by
  have hkey : a.res ∈ m.keys := (hq.keysLogged a.res).2 ⟨a, ha, rfl⟩
  rcases hq.reaches a ha with ⟨-, hin⟩ | ⟨w, hw, hr⟩
  · exact ⟨⟨.read, a.node⟩, QMap.mem_pendingAll.2 ⟨a.res, hkey, .inl ⟨rfl, hin⟩⟩, .refl _⟩
  · exact ⟨w, QMap.mem_pendingAll.2 ⟨a.res, hkey, .inr hw⟩, hr⟩

theorem QMap.record_write (m : QMap) (r x : Nat) (n : Node) (k : Kind) :
    ((m.record r n k).1.get x).write = if x = r ∧ k.isWrite = true then some ⟨k, n⟩ else (m.get x).write := by
  by_cases hx : x = r
  · simp [hx, Queue.record_write]
  · simp [hx]

theorem QMap.mem_record_reads (m : QMap) (r x : Nat) (n y : Node) (k : Kind) :
    y ∈ ((m.record r n k).1.get x).reads ↔
      (¬ (x = r ∧ k.isWrite = true) ∧ y ∈ (m.get x).reads) ∨ (x = r ∧ k = .read ∧ y = n) := by
  by_cases hx : x = r
  · subst hx
    cases k <;> simp [Queue.mem_record_reads, Kind.isWrite]
  · simp [hx]

theorem QInv.step {init : Queue} {m : QMap} {R : Node → Node → Prop} {log : List Access}
    (h : QInv init m R log) (r : Nat) (n : Node) (k : Kind)
    (hrefl : ∀ u, R u u) (htrans : ∀ u v w, R u v → R v w → R u w)
    (hd : ∀ d ∈ (m.record r n k).2, R d.node n) :
    QInv init (m.record r n k).1 R (log ++ [⟨n, r, k⟩]) := by
  have hdw : ∀ w, (m.get r).write = some w → R w.node n := fun w hw =>
    hd w ((Queue.mem_record_deps _ n k w).2 (.inl hw))
  -- a logged access to `r` that conflicts with the new one is a pending read, reported to a write, or reaches the
  -- writer, reported to every access
  have hreach : ∀ a ∈ log, a.res = r → Conflict a.kind k → R a.node n := by
    intro a ha har hc
    rcases h.reaches a ha with ⟨hkr, hin⟩ | ⟨w, hw, hrw⟩
    · exact hd ⟨.read, a.node⟩ ((Queue.mem_record_deps _ n k _).2
        (.inr ⟨hc.resolve_left (by rw [hkr]; exact Bool.false_ne_true), rfl, har ▸ hin⟩))
    · exact htrans _ _ _ hrw (hdw w (har ▸ hw))
  have hnew : (⟨n, r, k⟩ : Access) ∈ log ++ [⟨n, r, k⟩] := List.mem_append_right _ (List.mem_singleton.2 rfl)
  exact {
    reaches := by
      refine List.forall_mem_append.2 ⟨fun a ha => ?_, List.forall_mem_singleton.2 ?_⟩
      · rw [QMap.mem_record_reads, QMap.record_write]
        by_cases hk : a.res = r ∧ k.isWrite = true
        · exact .inr ⟨_, if_pos hk, hreach a ha hk.1 (.inr hk.2)⟩
        · rw [if_neg hk]
          exact (h.reaches a ha).imp (fun ⟨hkr, hin⟩ => ⟨hkr, .inl ⟨hk, hin⟩⟩) id
      · by_cases hk : k.isWrite = true
        · exact .inr ⟨⟨k, n⟩, (QMap.record_write ..).trans (if_pos ⟨rfl, hk⟩), hrefl n⟩
        · have hkr := Kind.eq_read_of_not_isWrite hk
          exact .inl ⟨hkr, (QMap.mem_record_reads ..).2 (.inr ⟨rfl, hkr, rfl⟩)⟩
    ordered := List.pairwise_append.2 ⟨h.ordered, List.pairwise_singleton _ _, fun a ha b hb => by
      obtain rfl := List.mem_singleton.1 hb
      exact hreach a ha⟩
    writerLogged := by
      intro x w hw
      rw [QMap.record_write] at hw
      split at hw
      · rename_i hk
        obtain ⟨rfl, hk⟩ := hk
        cases hw
        exact ⟨hk, .inl hnew⟩
      · exact (h.writerLogged x w hw).imp id (.imp (List.mem_append_left _) id)
    readsLogged := by
      intro x y hy
      rcases (QMap.mem_record_reads ..).1 hy with ⟨-, hy⟩ | ⟨rfl, rfl, rfl⟩
      · exact List.mem_append_left _ (h.readsLogged _ _ hy)
      · exact hnew
    keysLogged := fun x => by
      simp only [QMap.mem_keys_record, h.keysLogged, List.mem_append, List.mem_singleton, or_and_right, exists_or,
        exists_eq_left, eq_comm]
    -- the initial writer is still the writer of `r`, or a logged access is: either way `n` comes after it
    afterInit := fun w hw => List.forall_mem_append.2 ⟨h.afterInit w hw, List.forall_mem_singleton.2 <| by
      obtain ⟨w', hw'⟩ := h.keep w hw r
      rcases (h.writerLogged r w' hw').2 with hin | hin
      · exact htrans _ _ _ (h.afterInit w hw _ hin) (hdw w' hw')
      · obtain rfl : w' = w := Option.some.inj (hin.symm.trans hw)
        exact hdw w' hw'⟩
    keep := by
      intro w hw x
      rw [QMap.record_write]
      split
      · exact ⟨_, rfl⟩
      · exact h.keep w hw x }

theorem runHistory_fst_nil (m : QMap) : (runHistory m []).1 = m := rfl

theorem runHistory_fst_append (h1 h2 : List Access) : ∀ m : QMap,
    (runHistory m (h1 ++ h2)).1 = (runHistory (runHistory m h1).1 h2).1 := by
  induction h1 with
  | nil => intro m; rfl
  | cons a rest ih => intro m; exact ih _

def Reported (m : QMap) (h : List Access) (a : Access) (d : Dep) : Prop :=
  ∃ pre post, h = pre ++ a :: post ∧ d ∈ ((runHistory m pre).1.record a.res a.node a.kind).2

theorem Reported.mem {m : QMap} {h : List Access} {a : Access} {d : Dep} (hr : Reported m h a d) : a ∈ h := by
  obtain ⟨pre, post, rfl, -⟩ := hr
  simp

theorem reported_append {m : QMap} {h1 h2 : List Access} {a : Access} {d : Dep} :
    Reported m (h1 ++ h2) a d ↔ Reported m h1 a d ∨ Reported (runHistory m h1).1 h2 a d := by
  constructor
  · rintro ⟨pre, post, heq, hd⟩
    rcases List.append_eq_append_iff.1 heq with ⟨c, rfl, hc⟩ | ⟨c, rfl, hc⟩
    · rw [runHistory_fst_append] at hd
      exact .inr ⟨c, post, hc, hd⟩
    · cases c with
      | nil => exact .inr ⟨[], post, hc.symm, by rw [List.append_nil]; exact hd⟩
      | cons x c =>
        obtain ⟨rfl, rfl⟩ := List.cons.inj hc
        exact .inl ⟨pre, c, rfl, hd⟩
  · rintro (⟨pre, post, rfl, hd⟩ | ⟨pre, post, rfl, hd⟩)
    · exact ⟨pre, post ++ h2, by simp, hd⟩
    · exact ⟨h1 ++ pre, post, by simp, by rwa [runHistory_fst_append]⟩

theorem QInv.run {init : Queue} {R : Node → Node → Prop} (hrefl : ∀ u, R u u)
    (htrans : ∀ u v w, R u v → R v w → R u w) : ∀ (h : List Access) {m : QMap} {log : List Access},
    QInv init m R log → (∀ a d, Reported m h a d → R d.node a.node) → QInv init (runHistory m h).1 R (log ++ h) := by
  intro h
  induction h with
  | nil => intro m log hq _; simpa [runHistory] using hq
  | cons x rest ih =>
    intro m log hq hR
    have h1 := hq.step x.res x.node x.kind hrefl htrans fun d hd => hR x d ⟨[], rest, rfl, hd⟩
    have := ih h1 fun a d hr => hR a d ((reported_append (h1 := [x])).2 (.inr hr))
    simpa [runHistory, List.append_assoc] using this

theorem QInv.reported_justified {init : Queue} {m : QMap} {log h : List Access}
    (hq : QInv init m (fun _ _ => True) log) {a : Access} {d : Dep} (hr : Reported m h a d) :
    ∃ pre post, h = pre ++ a :: post ∧ Conflict d.kind a.kind ∧
      ((⟨d.node, a.res, d.kind⟩ : Access) ∈ log ++ pre ∨ init.write = some d) := by
  obtain ⟨pre, post, rfl, hd⟩ := hr
  have := hq.run (fun _ => trivial) (fun _ _ _ _ _ => trivial) pre fun _ _ _ => trivial
  exact ⟨pre, post, rfl, this.deps_justified a.res a.node a.kind d hd⟩

def DepEdgeFrom (m : QMap) (h : List Access) (keep : Node → Dep → Prop) (lab : Dep → Label) (e : Edge) : Prop :=
  ∃ a d, Reported m h a d ∧ keep a.node d ∧ ⟨d.node, a.node, lab d⟩ = e

theorem depEdgeFrom_append {m : QMap} {h1 h2 : List Access} {keep : Node → Dep → Prop} {lab : Dep → Label} {e : Edge} :
    DepEdgeFrom m (h1 ++ h2) keep lab e ↔
      DepEdgeFrom m h1 keep lab e ∨ DepEdgeFrom (runHistory m h1).1 h2 keep lab e := by
  simp only [DepEdgeFrom, reported_append, or_and_right, exists_or]

theorem depEdgeFrom_nil {m : QMap} {keep : Node → Dep → Prop} {lab : Dep → Label} {e : Edge} :
    ¬ DepEdgeFrom m [] keep lab e := fun ⟨_, _, hr, _⟩ => nomatch hr.mem

theorem depEdgeFrom_single {m : QMap} {a : Access} {keep : Node → Dep → Prop} {lab : Dep → Label} {e : Edge} :
    DepEdgeFrom m [a] keep lab e ↔
      ∃ d ∈ (m.record a.res a.node a.kind).2, keep a.node d ∧ ⟨d.node, a.node, lab d⟩ = e := by
  constructor
  · rintro ⟨a', d, ⟨pre, post, heq, hd⟩, hk, rfl⟩
    cases pre with
    | nil => cases heq; exact ⟨d, hd, hk, rfl⟩
    | cons y pre => cases pre <;> simp at heq
  · rintro ⟨d, hd, hk, rfl⟩
    exact ⟨a, d, ⟨[], [], rfl, hd⟩, hk, rfl⟩

/-- memory edges: a node never depends on itself (graph.rs:251-257), the label carries the dependency's kind -/
abbrev memKeep : Node → Dep → Prop := fun n d => d.node ≠ n
abbrev memLab : Dep → Label := fun d => .await d.kind
/-- frame edges: every reported dependency becomes an edge -/
abbrev noKeep : Node → Dep → Prop := fun _ _ => True

theorem mem_historyEdges {e : Edge} : ∀ {h : List Access} {m : QMap},
    e ∈ historyEdges m h ↔ DepEdgeFrom m h memKeep memLab e := by
  intro h
  induction h with
  | nil => intro m; exact iff_of_false (fun h => nomatch h) depEdgeFrom_nil
  | cons a rest ih =>
    intro m
    rw [show a :: rest = [a] ++ rest from rfl, depEdgeFrom_append, depEdgeFrom_single]
    simp only [List.singleton_append, historyEdges, List.mem_append, ih, List.mem_map, List.mem_filter,
      decide_eq_true_eq, and_assoc]
    rfl

theorem history_qinv {init : Queue} (hi : init.reads = []) (hw : ∀ w, init.write = some w → w.kind.isWrite = true)
    {h : List Access} {keep : Node → Dep → Prop} {lab : Dep → Label} {C : Label → Bool} {E : List Edge}
    (hC : ∀ d, C (lab d) = true) (hkeep : ∀ n d, d.node ≠ n → keep n d)
    (hE : ∀ e, DepEdgeFrom (QMap.empty init) h keep lab e → e ∈ E) :
    QInv init (runHistory (QMap.empty init) h).1 (Reach E C) h := by
  have hR : ∀ a d, Reported (QMap.empty init) h a d → Reach E C d.node a.node := fun a d hr => by
    by_cases hn : d.node = a.node
    · rw [hn]; exact .refl _
    · exact Reach.edge (hE _ ⟨a, d, hr, hkeep _ _ hn, rfl⟩) (hC d)
  simpa using (QInv.empty init hi hw (Reach E C)).run Reach.refl (fun _ _ _ => Reach.trans) h hR

def accLog (f : Instr → List (Nat × Kind)) (P : List (Node × Instr)) : List Access :=
  P.flatMap fun p => (f p.2).map fun a => ⟨p.1, a.1, a.2⟩

theorem mem_accLog {f : Instr → List (Nat × Kind)} {P : List (Node × Instr)} {x : Node} {r : Nat} {k : Kind} :
    (⟨x, r, k⟩ : Access) ∈ accLog f P ↔ ∃ ins, (x, ins) ∈ P ∧ (r, k) ∈ f ins := by
  simp only [accLog, List.mem_flatMap, List.mem_map]
  constructor
  · rintro ⟨p, hp, c, hc, he⟩
    cases he
    exact ⟨p.2, hp, hc⟩
  · rintro ⟨ins, hp, h2⟩
    exact ⟨_, hp, _, h2, rfl⟩

theorem pairwise_of_accLog {f : Instr → List (Nat × Kind)} {P : List (Node × Instr)} {R : Access → Access → Prop}
    (h : (accLog f P).Pairwise R) :
    P.Pairwise fun p q => ∀ a ∈ f p.2, ∀ c ∈ f q.2, R ⟨p.1, a.1, a.2⟩ ⟨q.1, c.1, c.2⟩ :=
  (List.pairwise_flatMap.1 h).2.imp fun hpq a ha c hc =>
    hpq _ (List.mem_map.2 ⟨a, ha, rfl⟩) _ (List.mem_map.2 ⟨c, hc, rfl⟩)

theorem accLog_snoc (f : Instr → List (Nat × Kind)) (P : List (Node × Instr)) (n : Node) (ins : Instr) :
    accLog f (P ++ [(n, ins)]) = accLog f P ++ (f ins).map fun a => ⟨n, a.1, a.2⟩ := by
  simp [accLog]

/-- `Q` is what is known of two accesses of one item: nothing for memory, distinct frames for frames -/
theorem accLog_pairwise {μ : Node → Nat} {f : Instr → List (Nat × Kind)} {P : List (Node × Instr)}
    {Q : Nat × Kind → Nat × Kind → Prop} (hs : P.Pairwise fun p q => μ p.1 < μ q.1)
    (hQ : ∀ p ∈ P, (f p.2).Pairwise Q) :
    (accLog f P).Pairwise fun c a => (c.node = a.node ∧ Q (c.res, c.kind) (a.res, a.kind)) ∨ μ c.node < μ a.node := by
  refine List.pairwise_flatMap.2 ⟨fun p hp => ?_, hs.imp fun hpq c hc a ha => ?_⟩
  · exact List.pairwise_map.2 ((hQ p hp).imp fun h => .inl ⟨rfl, h⟩)
  · obtain ⟨_, _, rfl⟩ := List.mem_map.1 hc
    obtain ⟨_, _, rfl⟩ := List.mem_map.1 ha
    exact .inr hpq

theorem DepEdgeFrom.earlier {μ : Node → Nat} {f : Instr → List (Nat × Kind)} {P : List (Node × Instr)}
    {Q : Nat × Kind → Nat × Kind → Prop} {init : Queue} (hi : init.reads = [])
    (hw : ∀ w, init.write = some w → w.kind.isWrite = true) (hs : P.Pairwise fun p q => μ p.1 < μ q.1)
    (hQ : ∀ p ∈ P, (f p.2).Pairwise Q) {keep : Node → Dep → Prop} {lab : Dep → Label} {e : Edge}
    (he : DepEdgeFrom (QMap.empty init) (accLog f P) keep lab e) :
    ∃ a d, a ∈ accLog f P ∧ keep a.node d ∧ ⟨d.node, a.node, lab d⟩ = e ∧ Conflict d.kind a.kind ∧
      (((⟨d.node, a.res, d.kind⟩ : Access) ∈ accLog f P ∧
          ((d.node = a.node ∧ Q (a.res, d.kind) (a.res, a.kind)) ∨ μ d.node < μ a.node)) ∨ init.write = some d) := by
  obtain ⟨a, d, hr, hk, rfl⟩ := he
  obtain ⟨pre, post, heq, hc, hin⟩ := (QInv.empty init hi hw fun _ _ => True).reported_justified hr
  have hsorted := heq ▸ accLog_pairwise hs hQ
  refine ⟨a, d, hr.mem, hk, rfl, hc, hin.imp (fun hin => ?_) id⟩
  rw [List.nil_append] at hin
  exact ⟨heq ▸ List.mem_append_left _ hin, (List.pairwise_append.1 hsorted).2.2 _ hin a List.mem_cons_self⟩

theorem runItems_induction {Inv : St → List (Node × Instr) → Prop} {P : List (Node × Instr)} {st st' : St}
    (h : runItems P st = .ok st') (h0 : Inv st [])
    (hstep : ∀ done n ins rest s s', P = done ++ (n, ins) :: rest → stepInstr n ins s = .ok s' →
      Inv s done → Inv s' (done ++ [(n, ins)])) : Inv st' P := by
  have key : ∀ (rest done : List (Node × Instr)) (s : St), P = done ++ rest → runItems rest s = .ok st' →
      Inv s done → Inv st' P := by
    intro rest
    induction rest with
    | nil =>
      intro done s hP h hi
      cases h
      rw [hP, List.append_nil]; exact hi
    | cons q rest ih =>
      intro done s hP h hi
      obtain ⟨n, ins⟩ := q
      simp only [runItems] at h
      split at h
      · rename_i s1 hs1
        exact ih (done ++ [(n, ins)]) s1 (by rw [hP, List.append_assoc]; rfl) h (hstep done n ins rest s s1 hP hs1 hi)
      · cases h
  exact key P [] st rfl h h0

theorem buildBlock_eq_ok {b : Block} {es : List Edge} (h : buildBlock b = .ok es) :
    ∃ st, runItems b.items St.init = .ok st ∧ es = finish b st := by
  unfold buildBlock at h
  split at h
  · rename_i st hst
    cases h
    exact ⟨st, hst, rfl⟩
  · cases h

theorem enumFrom_getElem? : ∀ (is : List Instr) (k i : Nat),
    (enumFrom k is)[i]? = is[i]?.map fun x => (Node.instr (k + i), x) := by
  intro is
  induction is with
  | nil => intro k i; rfl
  | cons x xs ih =>
    intro k i
    cases i with
    | zero => rfl
    | succ j => rw [enumFrom, List.getElem?_cons_succ, List.getElem?_cons_succ, ih, Nat.add_right_comm k 1 j]; rfl

theorem enumFrom_getElem?_eq_some {is : List Instr} {k i : Nat} {p : Node × Instr} :
    (enumFrom k is)[i]? = some p ↔ is[i]? = some p.2 ∧ p.1 = .instr (k + i) := by
  rw [enumFrom_getElem?, Option.map_eq_some_iff]
  exact ⟨fun ⟨x, hx, e⟩ => e ▸ ⟨hx, rfl⟩, fun ⟨hx, e⟩ => ⟨p.2, hx, by rw [← e]⟩⟩

theorem mem_enumFrom {is : List Instr} {k : Nat} {p : Node × Instr} :
    p ∈ enumFrom k is ↔ ∃ i, is[i]? = some p.2 ∧ p.1 = .instr (k + i) := by
  simp only [List.mem_iff_getElem?, enumFrom_getElem?_eq_some]

theorem enumFrom_sorted (L : Nat) (is : List Instr) (k : Nat) :
    (enumFrom k is).Pairwise fun p q => p.1.pos L < q.1.pos L := by
  refine List.pairwise_iff_getElem.2 fun i j hi hj hij => ?_
  rw [(enumFrom_getElem?_eq_some.1 (List.getElem?_eq_getElem hi)).2,
    (enumFrom_getElem?_eq_some.1 (List.getElem?_eq_getElem hj)).2]
  exact Nat.succ_lt_succ (Nat.add_lt_add_left hij k)

theorem pairwise_enumFrom_index {R : Node × Instr → Node × Instr → Prop} {is : List Instr} {k : Nat}
    (hp : (enumFrom k is).Pairwise R) {i j : Nat} (hij : i < j) {x y : Instr} (hx : is[i]? = some x)
    (hy : is[j]? = some y) : R (.instr (k + i), x) (.instr (k + j), y) := by
  obtain ⟨hi, e1⟩ := List.getElem?_eq_some_iff.1
    (enumFrom_getElem?_eq_some (k := k) (p := (.instr (k + i), x)) |>.2 ⟨hx, rfl⟩)
  obtain ⟨hj, e2⟩ := List.getElem?_eq_some_iff.1
    (enumFrom_getElem?_eq_some (k := k) (p := (.instr (k + j), y)) |>.2 ⟨hy, rfl⟩)
  exact e1 ▸ e2 ▸ List.pairwise_iff_getElem.1 hp i j hi hj hij

theorem items_sorted (b : Block) :
    b.items.Pairwise fun p q => p.1.pos b.instrs.length < q.1.pos b.instrs.length := by
  unfold Block.items
  rw [List.pairwise_append]
  refine ⟨enumFrom_sorted _ _ _, ?_, ?_⟩
  · cases b.term <;> simp
  · intro p hp q hq
    obtain ⟨i, h3, h1⟩ := mem_enumFrom.1 hp
    have h3 := (List.getElem?_eq_some_iff.1 h3).1
    cases ht : b.term with
    | none => simp [ht] at hq
    | some t =>
      simp only [ht, List.mem_singleton] at hq
      subst hq
      rw [h1]; simp only [Node.pos]; omega

theorem item_cases (b : Block) (p : Node × Instr) (hp : p ∈ b.items) :
    (∃ i, p.1 = .instr i ∧ i < b.instrs.length ∧ b.instrs[i]? = some p.2) ∨ (p.1 = .stop ∧ b.term = some p.2) := by
  unfold Block.items at hp
  rcases List.mem_append.1 hp with hp | hp
  · obtain ⟨i, h4, h1⟩ := mem_enumFrom.1 hp
    rw [Nat.zero_add] at h1
    exact .inl ⟨i, h1, (List.getElem?_eq_some_iff.1 h4).1, h4⟩
  · cases ht : b.term with
    | none => simp [ht] at hp
    | some t =>
      obtain rfl := List.mem_singleton.1 (ht ▸ hp)
      exact .inr ⟨rfl, rfl⟩

theorem body_of_role {b : Block} (hterm : ∀ t, b.term = some t → t.role = .controlFlow)
    {p : Node × Instr} (hp : p ∈ b.items) (h : p.2.role ≠ .controlFlow) :
    ∃ i, p.1 = .instr i ∧ i < b.instrs.length ∧ b.instrs[i]? = some p.2 := by
  rcases item_cases b p hp with h1 | ⟨_, h2⟩
  · exact h1
  · exact absurd (hterm _ h2) h

theorem items_pos (b : Block) : ∀ p ∈ b.items, 0 < p.1.pos b.instrs.length := by
  intro p hp
  rcases item_cases b p hp with ⟨i, h1, -⟩ | ⟨h1, -⟩ <;> rw [h1] <;> exact Nat.succ_pos _

theorem mem_items_of_getElem {b : Block} {i : Nat} {x : Instr} (h : b.instrs[i]? = some x) :
    ((Node.instr i, x) : Node × Instr) ∈ b.items :=
  List.mem_append_left _ (mem_enumFrom.2 ⟨i, h, by rw [Nat.zero_add]⟩)

theorem items_pairwise_index {b : Block} {R : Node × Instr → Node × Instr → Prop} (h : b.items.Pairwise R)
    {i j : Nat} (hij : i < j) {x y : Instr} (hx : b.instrs[i]? = some x) (hy : b.instrs[j]? = some y) :
    R (.instr i, x) (.instr j, y) := by
  have := pairwise_enumFrom_index (List.pairwise_append.1 h).1 hij hx hy
  rwa [Nat.zero_add, Nat.zero_add] at this

theorem mem_finish {b : Block} {st : St} {e : Edge} : e ∈ finish b st ↔
    e ∈ st.edges ∨ (∃ t ∈ st.trailing, ⟨t, .stop, .stable⟩ = e) ∨
    (∃ d ∈ st.timed.pendingAll, ⟨d.node, .stop, .scheduled⟩ = e) ∨
    (∃ d ∈ st.ord.pendingAll, ⟨d.node, .stop, .stable⟩ = e) ∨
    (b.instrs = [] ∧ e = ⟨.start, .stop, .stable⟩) := by
  have hlast : e ∈ (if b.instrs.isEmpty then [(⟨.start, .stop, .stable⟩ : Edge)] else []) ↔
      b.instrs = [] ∧ e = ⟨.start, .stop, .stable⟩ := by
    cases b.instrs <;> simp
  simp only [finish, List.mem_append, List.mem_map, hlast, or_assoc]

theorem sub_finish (b : Block) (st : St) : ∀ e ∈ st.edges, e ∈ finish b st :=
  fun _ he => mem_finish.2 (.inl he)

theorem finish_of_trailing {b : Block} {st : St} {t : Node} (h : t ∈ st.trailing) :
    (⟨t, .stop, .stable⟩ : Edge) ∈ finish b st :=
  mem_finish.2 (.inr (.inl ⟨t, h, rfl⟩))

theorem finish_of_pending {b : Block} {st : St} {d : Dep} (h : d ∈ st.ord.pendingAll) :
    (⟨d.node, .stop, .stable⟩ : Edge) ∈ finish b st :=
  mem_finish.2 (.inr (.inr (.inr (.inl ⟨d, h, rfl⟩))))

theorem finish_await {b : Block} {st : St} {e : Edge} {k : Kind} (he : e ∈ finish b st) (hl : e.label = .await k) :
    e ∈ st.edges := by
  rcases mem_finish.1 he with h | ⟨_, _, rfl⟩ | ⟨_, _, rfl⟩ | ⟨_, _, rfl⟩ | ⟨_, rfl⟩
  · exact h
  all_goals cases hl

theorem finish_scheduled {b : Block} {st : St} {e : Edge} (he : e ∈ finish b st) (hl : e.label = .scheduled) :
    e ∈ st.edges ∨ ∃ d ∈ st.timed.pendingAll, ⟨d.node, .stop, .scheduled⟩ = e := by
  rcases mem_finish.1 he with h | ⟨_, _, rfl⟩ | h | ⟨_, _, rfl⟩ | ⟨_, rfl⟩
  · exact .inl h
  · cases hl
  · exact .inr h
  all_goals cases hl

theorem finish_stable {b : Block} {st : St} {e : Edge} (he : e ∈ finish b st) (hl : e.label = .stable) :
    e ∈ st.edges ∨ (∃ t ∈ st.trailing, ⟨t, .stop, .stable⟩ = e) ∨
    (∃ d ∈ st.ord.pendingAll, ⟨d.node, .stop, .stable⟩ = e) ∨ (b.instrs = [] ∧ e = ⟨.start, .stop, .stable⟩) := by
  rcases mem_finish.1 he with h | h | ⟨_, _, rfl⟩ | h | h
  · exact .inl h
  · exact .inr (.inl h)
  · cases hl
  · exact .inr (.inr (.inl h))
  · exact .inr (.inr (.inr h))

theorem maxFrom_cons (z t : Int) (xs : List Int) :
    maxFrom z (t :: xs) = maxFrom (if t > z then t else z) xs := rfl

theorem maxFrom_isGreatest (z : Int) (xs : List Int) : z ≤ maxFrom z xs ∧ (∀ t ∈ xs, t ≤ maxFrom z xs) ∧
    (maxFrom z xs = z ∨ maxFrom z xs ∈ xs) := by
  induction xs generalizing z with
  | nil => simp [maxFrom]
  | cons x xs ih =>
    rw [maxFrom_cons]
    have := ih (if x > z then x else z)
    revert this
    split <;> rintro ⟨h1, h2, h3⟩ <;>
      refine ⟨by omega, fun t ht => (List.mem_cons.1 ht).elim (fun e => by omega) (h2 t), ?_⟩ <;>
      rcases h3 with h3 | h3 <;> simp [h3]

theorem maxFrom_nonneg (z : Int) (hz : 0 ≤ z) (xs : List Int) : 0 ≤ maxFrom z xs :=
  Int.le_trans hz (maxFrom_isGreatest z xs).1

end QV.Sched
