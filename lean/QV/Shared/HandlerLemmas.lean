import QV.Shared.HandlerFromAst
import QV.Shared.SchedFrames
import QV.C26.Props
import QV.C27.Props
/-!
Composition of C26/C27 (what the default handler answers, PROVED against their specifications) with the
scheduling model: facts about `HandlerFromAst.answersOf` that let C22–C25 state their theorems with the access
and frame sets given by the C27 / C26 SPECIFICATIONS of the AST instruction instead of opaque handler answers.
-/
namespace QV.HandlerFromAst
open QV QV.Ast QV.Sched

theorem indexIn_inj {α : Type} [DecidableEq α] : ∀ (l : List α) (a b : α), a ∈ l → b ∈ l →
    indexIn l a = indexIn l b → a = b := by
  intro l
  induction l with
  | nil => intro a b ha; simp at ha
  | cons x xs ih =>
    intro a b ha hb h
    simp only [indexIn] at h
    by_cases h1 : x = a
    · by_cases h2 : x = b
      · rw [← h1, ← h2]
      · simp [h1] at h
        exact h
    · by_cases h2 : x = b
      · simp [h2] at h
        exact h.symm
      · simp only [h1, h2, if_false, Nat.add_right_cancel_iff] at h
        rcases List.mem_cons.1 ha with rfl | ha
        · exact absurd rfl h1
        · rcases List.mem_cons.1 hb with rfl | hb
          · exact absurd rfl h2
          · exact ih a b ha hb h

theorem nodup_map_indexIn {α : Type} [DecidableEq α] (u : List α) : ∀ l : List α, l.Nodup → (∀ a ∈ l, a ∈ u) →
    (l.map (indexIn u)).Nodup := by
  intro l
  induction l with
  | nil => intro _ _; exact .nil
  | cons a as ih =>
    intro hl hd
    rw [List.nodup_cons] at hl
    refine List.nodup_cons.2 ⟨fun hin => ?_, ih hl.2 fun f hf => hd f (List.mem_cons_of_mem _ hf)⟩
    obtain ⟨b, hb, hab⟩ := List.mem_map.1 hin
    exact hl.1 (indexIn_inj u b a (hd b (List.mem_cons_of_mem _ hb)) (hd a List.mem_cons_self) hab ▸ hb)

/-- the signature map the handler is given; empty when the conversion failed (`build` then fails with `Extern`
before any instruction is looked at, so the choice plays no part) -/
def sigsOf (p : AProgram) : C27.Sigs := p.sigs.getD []

/-- "instruction `i` performs an access of kind `k` to the region NAMED `r`", by C27's specification -/
def AccessesA (p : AProgram) (i : Ast.Instruction) (r : String) : Kind → Prop
  | .read => C27.Reads (sigsOf p) (toC27 i) r
  | .write => C27.Writes (sigsOf p) (toC27 i) r
  | .capture => C27.Captures (toC27 i) r

theorem accessNames_none (p : AProgram) (i : Ast.Instruction) :
    accessNames p i = none ↔ ¬ C27.Resolvable (sigsOf p) (toC27 i) := by
  have h := C27.C27_memoryAccesses_correct (sigsOf p) (toC27 i)
  unfold accessNames
  unfold sigsOf at h ⊢
  cases hm : C27.memoryAccesses (p.sigs.getD []) (toC27 i) with
  | error e => simpa [hm, C27.Correct] using h
  | ok a =>
    rw [hm] at h
    simp [h.1]

theorem accessNames_some (p : AProgram) (i : Ast.Instruction) (rs ws cs : List String)
    (h : accessNames p i = some (rs, ws, cs)) :
    ∀ r k, AccessesA p i r k ↔ r ∈ (match k with | .read => rs | .write => ws | .capture => cs) := by
  have hc := C27.C27_memoryAccesses_correct (sigsOf p) (toC27 i)
  unfold accessNames at h
  unfold sigsOf at hc
  cases hm : C27.memoryAccesses (p.sigs.getD []) (toC27 i) with
  | error e => simp [hm] at h
  | ok a =>
    rw [hm] at hc
    simp only [hm, Option.some.injEq, Prod.mk.injEq] at h
    obtain ⟨rfl, rfl, rfl⟩ := h
    intro r k
    cases k
    · simp only [AccessesA, sigsOf, C26.mem_dedup]; exact (hc.2.1 r).symm
    · simp only [AccessesA, sigsOf, C26.mem_dedup]; exact (hc.2.2.1 r).symm
    · simp only [AccessesA, C26.mem_dedup]; exact (hc.2.2.2 r).symm

theorem mem_memAccesses_answers (p : AProgram) (i : Ast.Instruction) (x : Nat × Kind)
    (hok : (answersOf p i).memErr = false) :
    x ∈ memAccesses (answersOf p i) ↔ ∃ r, x.1 = regionId p r ∧ AccessesA p i r x.2 := by
  obtain ⟨n, k⟩ := x
  obtain ⟨⟨rs, ws, cs⟩, hn⟩ := Option.isSome_iff_exists.1 (Option.isNone_eq_false_iff.1 hok)
  have hlists : (answersOf p i).reads = rs.map (regionId p) ∧ (answersOf p i).writes = ws.map (regionId p) ∧
      (answersOf p i).captures = cs.map (regionId p) := by
    simp [answersOf, answersWith, hn]
  simp only [accessNames_some p i rs ws cs hn]
  cases k
  all_goals
    simp [memAccesses, hlists]
    exact ⟨fun ⟨r, hr, e⟩ => ⟨r, e.symm, hr⟩, fun ⟨r, e, hr⟩ => ⟨r, hr, e.symm⟩⟩

theorem memAccesses_answers_of_memErr (p : AProgram) (i : Ast.Instruction) (h : (answersOf p i).memErr = true) :
    memAccesses (answersOf p i) = [] := by
  have hn : accessNames p i = none := Option.isNone_iff_eq_none.1 h
  simp [memAccesses, answersOf, answersWith, hn]

theorem mem_universe (p : AProgram) (ab : ABlock) (hab : ab ∈ astBlocks p) (i : Ast.Instruction)
    (hi : i ∈ ab.all) (hok : (answersOf p i).memErr = false) (r : String) (k : Kind) (hr : AccessesA p i r k) :
    r ∈ regionUniverse p := by
  obtain ⟨⟨rs, ws, cs⟩, hn⟩ := Option.isSome_iff_exists.1 (Option.isNone_eq_false_iff.1 hok)
  have hr := (accessNames_some p i rs ws cs hn r k).1 hr
  simp only [regionUniverse, List.mem_flatMap]
  refine ⟨ab, hab, i, hi, ?_⟩
  rw [hn]
  simp only [List.mem_append]
  cases k
  · exact .inl (.inl hr)
  · exact .inl (.inr hr)
  · exact .inr hr

/-- "`i` uses the DEFINED frame `f`" / "`i` blocks the defined frame `f`", by C26's specification -/
def FrameAccessA (p : AProgram) (i : Ast.Instruction) (f : C26.Frame) : Kind → Prop
  | .write => f ∈ definedFrames p ∧ C26.UsedBy (C26.usedQubits (c26Prog p)) (toC26 i) f
  | .read => f ∈ definedFrames p ∧ C26.BlockedBy (C26.usedQubits (c26Prog p)) (toC26 i) f
  | .capture => False

theorem role_rf_iff (i : Ast.Instruction) : role i = .rf ↔ C26.IsFrameInstr (toC26 i) := by
  cases i <;> simp only [role, toC26, C26.IsFrameInstr, reduceCtorEq]

theorem isFrameInstr_of_touches {avail : List C26.Qubit} {j : C26.Instr} {g : C26.Frame}
    (h : C26.UsedBy avail j g ∨ C26.BlockedBy avail j g) : C26.IsFrameInstr j := by
  cases j <;> first | exact trivial | exact h.elim False.elim False.elim

theorem mem_frameAccesses_answersWith (rid : String → Nat) (p : AProgram) (i : Ast.Instruction) (x : Nat × Kind) :
    x ∈ frameAccesses (answersWith rid p i) ↔ ∃ f, x.1 = frameId p f ∧ FrameAccessA p i f x.2 := by
  have hc := C26.C26_matchingFrames_correct (c26Prog p) (toC26 i)
  obtain ⟨n, k⟩ := x
  by_cases hr : role i = .rf
  · have hsome : (matchedFrames p i).isSome := hc.some_iff.2 ((role_rf_iff i).1 hr)
    obtain ⟨m, hm⟩ := Option.isSome_iff_exists.1 hsome
    have hu := hc.used m hm
    have hb := hc.blocked m hm
    simp only [frameAccesses, answersWith, hr, hm, Option.map_some, List.mem_append, List.mem_map, Prod.mk.injEq]
    constructor
    · rintro (⟨a, ⟨f, hf, rfl⟩, rfl, rfl⟩ | ⟨a, ⟨f, hf, rfl⟩, rfl, rfl⟩)
      · exact ⟨f, rfl, (hu f).1 hf⟩
      · exact ⟨f, rfl, (hb f).1 hf⟩
    · rintro ⟨f, hn, hf⟩
      subst hn
      cases k
      · exact .inr ⟨_, ⟨f, (hb f).2 hf, rfl⟩, rfl, rfl⟩
      · exact .inl ⟨_, ⟨f, (hu f).2 hf, rfl⟩, rfl, rfl⟩
      · exact hf.elim
  · refine iff_of_false (fun h => hr (role_of_mem_frameAccesses h)) ?_
    rintro ⟨f, -, hf⟩
    refine hr ((role_rf_iff i).2 (isFrameInstr_of_touches (avail := C26.usedQubits (c26Prog p)) (g := f) ?_))
    cases k
    · exact .inr hf.2
    · exact .inl hf.2
    · exact hf.elim

theorem mem_frameAccesses_answers (p : AProgram) (i : Ast.Instruction) (x : Nat × Kind) :
    x ∈ frameAccesses (answersOf p i) ↔ ∃ f, x.1 = frameId p f ∧ FrameAccessA p i f x.2 :=
  mem_frameAccesses_answersWith _ p i x

/-- the first clause of `C22.Hyp` / `C24.Hyp` is a theorem for the default handler -/
theorem answersWith_framesNodup (rid : String → Nat) (p : AProgram) (i : Ast.Instruction) :
    FramesNodup (answersWith rid p i) := by
  unfold FramesNodup frameAccesses
  split
  · rename_i fr _ hfr
    obtain ⟨m, hm, rfl⟩ := Option.map_eq_some_iff.1 (show (matchedFrames p i).map _ = some fr from hfr)
    obtain ⟨hnu, hnb⟩ := C26.C26_reported_nodup (c26Prog p) (toC26 i) m (C26.nodup_dedup _) hm
    have hdis := C26.C26_used_blocked_disjoint (c26Prog p) (toC26 i) m hm
    -- used and blocked frames together: a duplicate-free list of defined frames, numbered injectively
    have hlist : ((m.used.map (frameId p)).map (·, Kind.write) ++ (m.blocked.map (frameId p)).map (·, Kind.read)).map
        (·.1) = (m.used ++ m.blocked).map (indexIn (definedFrames p)) := by
      simp [Function.comp_def, frameId]
    rw [hlist]
    exact nodup_map_indexIn _ _ (List.nodup_append.2 ⟨hnu, hnb, fun a ha b hb e => hdis a ⟨ha, e ▸ hb⟩⟩)
      fun f hf => C26.C26_reported_frames_defined (c26Prog p) (toC26 i) m hm f (List.mem_append.1 hf)
  · exact .nil

theorem term_role (p : AProgram) (ab : ABlock) (hab : ab ∈ astBlocks p) (t : Ast.Instruction)
    (ht : ab.term = some t) : role t = .controlFlow := by
  simp only [astBlocks, List.mem_map] at hab
  obtain ⟨b, _, rfl⟩ := hab
  simp only at ht
  cases hb : b.term with
  | «continue» => simp [hb, termInstr] at ht
  | jump l => simp only [hb, termInstr, Option.some.injEq] at ht; subst ht; rfl
  | cond l c z => cases z <;> (simp only [hb, termInstr, Option.some.injEq] at ht; subst ht; rfl)
  | halt => simp only [hb, termInstr, Option.some.injEq] at ht; subst ht; rfl

def enumFromA (k : Nat) : List Ast.Instruction → List (Node × Ast.Instruction)
  | [] => []
  | i :: is => (.instr k, i) :: enumFromA (k + 1) is

def ABlock.items (b : ABlock) : List (Node × Ast.Instruction) :=
  enumFromA 0 b.instrs ++ (match b.term with | some t => [(.stop, t)] | none => [])

theorem enumFrom_map (p : AProgram) : ∀ (is : List Ast.Instruction) (k : Nat),
    enumFrom k (is.map (answersOf p)) = (enumFromA k is).map fun x => (x.1, answersOf p x.2) := by
  intro is
  induction is with
  | nil => intro k; rfl
  | cons i is ih => intro k; simp [enumFrom, enumFromA, ih]

theorem schedBlock_items (p : AProgram) (ab : ABlock) :
    (schedBlock p ab).items = ab.items.map fun x => (x.1, answersOf p x.2) := by
  unfold Block.items ABlock.items schedBlock
  simp only [enumFrom_map, List.map_append]
  cases ab.term <;> simp

theorem schedBlock_length (p : AProgram) (ab : ABlock) : (schedBlock p ab).instrs.length = ab.instrs.length :=
  List.length_map _

theorem mem_schedBlock_items {p : AProgram} {ab : ABlock} {x : Node} {ins : Instr} :
    (x, ins) ∈ (schedBlock p ab).items ↔ ∃ i, (x, i) ∈ ab.items ∧ ins = answersOf p i := by
  rw [schedBlock_items, List.mem_map]
  constructor
  · rintro ⟨y, hy, e⟩
    cases e
    exact ⟨y.2, hy, rfl⟩
  · rintro ⟨i, hi, rfl⟩
    exact ⟨(x, i), hi, rfl⟩

theorem enumFromA_snd : ∀ (is : List Ast.Instruction) (k : Nat), (enumFromA k is).map (·.2) = is
  | [], _ => rfl
  | i :: is, k => congrArg (i :: ·) (enumFromA_snd is (k + 1))

theorem mem_items_all {ab : ABlock} {x : Node × Ast.Instruction} (h : x ∈ ab.items) : x.2 ∈ ab.all := by
  unfold ABlock.items at h
  unfold ABlock.all
  rcases List.mem_append.1 h with h | h
  · exact List.mem_append_left _ (enumFromA_snd ab.instrs 0 ▸ List.mem_map_of_mem h)
  · apply List.mem_append_right
    cases ht : ab.term with
    | none => simp [ht] at h
    | some t => simp only [ht, List.mem_singleton] at h; subst h; simp

/-- the hypotheses of C22 and C24 (`C22.Hyp`, `C24.Hyp`, which unfold to this conjunction) hold of every block of
handler answers about AST instructions, however the regions are numbered, when the terminator is a control-flow
instruction -/
theorem answersBlock_hyp (rid : String → Nat) (p : AProgram) (is : List Ast.Instruction)
    (term : Option Ast.Instruction) (hterm : ∀ t, term = some t → role t = .controlFlow) :
    (∀ q ∈ (Block.mk (is.map (answersWith rid p)) (term.map (answersWith rid p))).items, FramesNodup q.2) ∧
    (∀ t, term.map (answersWith rid p) = some t → t.role = .controlFlow) := by
  constructor
  · intro q hq
    rcases item_cases _ q hq with ⟨i, -, -, hget⟩ | ⟨-, ht⟩
    · obtain ⟨a, -, ha⟩ := List.mem_map.1 (List.mem_of_getElem? hget)
      exact ha ▸ answersWith_framesNodup rid p a
    · obtain ⟨t, -, ht⟩ := Option.map_eq_some_iff.1 ht
      exact ht ▸ answersWith_framesNodup rid p t
  · intro t ht
    obtain ⟨t0, ht0, rfl⟩ := Option.map_eq_some_iff.1 ht
    exact hterm t0 ht0

theorem schedBlock_hyp (p : AProgram) (ab : ABlock) (hab : ab ∈ astBlocks p) :
    (∀ q ∈ (schedBlock p ab).items, FramesNodup q.2) ∧
    (∀ t, (schedBlock p ab).term = some t → t.role = .controlFlow) :=
  answersBlock_hyp (regionId p) p ab.instrs ab.term (term_role p ab hab)

end QV.HandlerFromAst
