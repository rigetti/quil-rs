import QV.Shared.Parse
/-!
Facts about the parser combinators of `QV.Parse` that more than one area uses (C01, C02, `Shared/ExprRoundTrip`).
-/
namespace QV.Parse
open QV QV.Tok

variable {α β : Type}

theorem bind_err {p : Parser α} {f : α → Parser β} {i : List Token} (h : p i = .err) :
    Parser.bind p f i = .err := by simp only [Parser.bind, h]

theorem ok_of_map_eq_ok {f : α → β} {o : Outcome α} {b : β} {r : List Token} (h : o.map f = .ok b r) :
    ∃ a, o = .ok a r ∧ f a = b := by
  cases o with
  | ok a r' => simp only [Outcome.map, Outcome.ok.injEq] at h; exact ⟨a, by rw [h.2], h.1⟩
  | _ => simp [Outcome.map] at h

theorem opt_ok {p : Parser α} {i r : List Token} {v : α} (h : p i = .ok v r) : opt p i = .ok (some v) r := by
  simp only [opt, h]

theorem opt_err {p : Parser α} {i : List Token} (h : p i = .err) : opt p i = .ok none i := by simp only [opt, h]

/-- a `Bool`, so that on a concrete head `headNe t i = true` is proved by `rfl` -/
def headNe (t : Token) : List Token → Bool
  | [] => true
  | t' :: _ => decide (t' ≠ t)

theorem tok_of_headNe {t : Token} {i : List Token} (h : headNe t i = true) : tok t i = .err := by
  cases i with
  | nil => rfl
  | cons t' r => simp [tok, of_decide_eq_true h]

theorem many0_err {p : Parser α} {i : List Token} (h : p i = .err) : many0 p i = .ok [] i := by
  simp only [many0, many0Fuel, h]

theorem many1_eq (p : Parser α) : many1 p = Parser.bind p fun v => pmap (v :: ·) (many0 p) := by
  funext i; unfold many1 Parser.bind; cases p i <;> rfl

theorem separatedList1_eq (sep : Parser β) (p : Parser α) : separatedList1 sep p =
    Parser.bind p fun v => pmap (v :: ·) fun r => sepLoopFuel sep p (r.length + 1) r := by
  funext i; unfold separatedList1 Parser.bind; cases p i <;> rfl

theorem str_toList_eq (s : String) : str s.toList = s := by simp [str]

end QV.Parse

namespace QV.Tok

theorem keywordOrIdentifier_eq_identifier (s : List Char) (h : isReservedWord s = false) :
    keywordOrIdentifier s = .identifier s := by
  simp only [isReservedWord, Bool.or_eq_false_iff, Option.isSome_eq_false_iff, Option.isNone_iff_eq_none] at h
  obtain ⟨⟨⟨h1, h2⟩, h3⟩, h4⟩ := h
  simp [keywordOrIdentifier, h1, h2, h3, h4]

end QV.Tok
