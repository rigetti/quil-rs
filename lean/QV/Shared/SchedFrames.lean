import QV.Shared.SchedLemmas
/-! `ScheduledBasicBlock::build` as three access histories. `Steps` says that a state comes from another by recording
a history in each of the three queue maps and emitting an edge for every reported dependency (memory: other than on the
node itself); it is closed under composition and every piece of `build` is an instance. So at the end of a block the
maps are `runHistory` of what the items access (`runItems_steps`), and `QInv` holds of them relative to the built graph
(`build_facts`). The trailing classical instructions are followed separately (`HasIn`, `HasOut`).
To prove a fact about the edges of a built block: `obtain ⟨st, rfl, inv⟩ := build_facts h`; bring the edge from
`finish b st` into `st.edges` by its label (`finish_await`, `finish_scheduled`, `finish_stable`); `rcases inv.origin …`;
for a surviving `DepEdgeFrom`, `DepEdgeFrom.earlier` names the two accesses and their positions, `mem_accLog` their
items. -/

namespace QV.Sched

theorem frameLoop_leaves_mem_trailing (s : Bool) (n : Node) (k : Kind) :
    ∀ (fs : List Nat) (st : St), (frameLoop s n k fs st).mem = st.mem ∧
      (frameLoop s n k fs st).trailing = st.trailing := by
  intro fs
  induction fs with
  | nil => intro st; exact ⟨rfl, rfl⟩
  | cons f fs ih =>
    intro st
    simp only [frameLoop]
    rw [(ih _).1, (ih _).2]
    cases s <;> simp

structure Steps (st st' : St) (hm ho ht : List Access) (extra : List Edge) : Prop where
  mem : st'.mem = (runHistory st.mem hm).1
  ord : st'.ord = (runHistory st.ord ho).1
  timed : st'.timed = (runHistory st.timed ht).1
  edges : ∀ e, e ∈ st'.edges ↔ e ∈ st.edges ∨ DepEdgeFrom st.mem hm memKeep memLab e ∨
    DepEdgeFrom st.ord ho noKeep (fun _ => .stable) e ∨ DepEdgeFrom st.timed ht noKeep (fun _ => .scheduled) e ∨ e ∈ extra

theorem Steps.refl (st : St) : Steps st st [] [] [] [] :=
  ⟨rfl, rfl, rfl, fun e => by simp [depEdgeFrom_nil]⟩

private theorem or_interleave {a m o t x m' o' t' x' : Prop} :
    ((a ∨ m ∨ o ∨ t ∨ x) ∨ m' ∨ o' ∨ t' ∨ x') ↔ (a ∨ (m ∨ m') ∨ (o ∨ o') ∨ (t ∨ t') ∨ (x ∨ x')) := by
  simp only [or_assoc, or_left_comm]

theorem Steps.trans {a b c : St} {hm ho ht hm' ho' ht' : List Access} {x x' : List Edge}
    (h1 : Steps a b hm ho ht x) (h2 : Steps b c hm' ho' ht' x') :
    Steps a c (hm ++ hm') (ho ++ ho') (ht ++ ht') (x ++ x') where
  mem := by rw [h2.mem, h1.mem, runHistory_fst_append]
  ord := by rw [h2.ord, h1.ord, runHistory_fst_append]
  timed := by rw [h2.timed, h1.timed, runHistory_fst_append]
  edges := fun e => by
    rw [h2.edges, h1.edges, h1.mem, h1.ord, h1.timed, depEdgeFrom_append, depEdgeFrom_append, depEdgeFrom_append,
      List.mem_append]
    exact or_interleave

theorem Steps.ordRecord (st : St) (f : Nat) (n : Node) (k : Kind) :
    Steps st { st with ord := (st.ord.record f n k).1,
                       edges := st.edges ++ (st.ord.record f n k).2.map fun d => ⟨d.node, n, .stable⟩ }
      [] [⟨n, f, k⟩] [] [] :=
  ⟨rfl, rfl, rfl, fun e => by simp [depEdgeFrom_nil, depEdgeFrom_single]⟩

theorem Steps.timedRecord (st : St) (f : Nat) (n : Node) (k : Kind) :
    Steps st { st with timed := (st.timed.record f n k).1,
                       edges := st.edges ++ (st.timed.record f n k).2.map fun d => ⟨d.node, n, .scheduled⟩ }
      [] [] [⟨n, f, k⟩] [] :=
  ⟨rfl, rfl, rfl, fun e => by simp [depEdgeFrom_nil, depEdgeFrom_single]⟩

theorem frameLoop_steps (s : Bool) (n : Node) (k : Kind) : ∀ (fs : List Nat) (st : St),
    Steps st (frameLoop s n k fs st) [] (fs.map (⟨n, ·, k⟩)) (if s then fs.map (⟨n, ·, k⟩) else []) [] := by
  intro fs
  induction fs with
  | nil => intro st; cases s <;> exact Steps.refl st
  | cons f fs ih =>
    intro st
    cases s
    · simpa [frameLoop] using (Steps.ordRecord st f n k).trans (ih _)
    · simpa [frameLoop] using ((Steps.timedRecord st f n k).trans (Steps.ordRecord _ f n k)).trans (ih _)

abbrev toLog (n : Node) (accs : List (Nat × Kind)) : List Access := accs.map fun a => ⟨n, a.1, a.2⟩

theorem recordAll_hist (n : Node) : ∀ (accs : List (Nat × Kind)) (m : QMap),
    (recordAll m n accs).1 = (runHistory m (toLog n accs)).1 ∧
    ∀ keep lab e, DepEdgeFrom m (toLog n accs) keep lab e ↔
      ∃ d ∈ (recordAll m n accs).2, keep n d ∧ ⟨d.node, n, lab d⟩ = e := by
  intro accs
  induction accs with
  | nil => intro m; exact ⟨rfl, fun _ _ _ => iff_of_false depEdgeFrom_nil fun ⟨_, h, _⟩ => nomatch h⟩
  | cons x rest ih =>
    intro m
    obtain ⟨ih1, ih2⟩ := ih (m.record x.1 n x.2).1
    refine ⟨ih1, fun keep lab e => ?_⟩
    rw [show toLog n (x :: rest) = [⟨n, x.1, x.2⟩] ++ toLog n rest from rfl, depEdgeFrom_append, depEdgeFrom_single]
    simp only [recordAll, List.mem_append, or_and_right, exists_or]
    exact or_congr_right (ih2 keep lab e)

theorem memStep_steps (n : Node) (ins : Instr) (st : St) :
    Steps st (memStep n ins st).1 (toLog n (memAccesses ins)) [] [] [] := by
  obtain ⟨h1, h2⟩ := recordAll_hist n (memAccesses ins) st.mem
  refine ⟨h1, rfl, rfl, fun e => ?_⟩
  simp [memStep, h2, depEdgeFrom_nil, and_assoc]

/-- the memory edges emitted for one instruction (graph.rs:251-267) -/
def memEdgesOf (n : Node) (ins : Instr) (st : St) : List Edge :=
  ((recordAll st.mem n (memAccesses ins)).2.filter fun d => d.node ≠ n).map
    fun d => ⟨d.node, n, .await d.kind⟩

/-- what reaches the timed frame queues: the frame accesses of a timed instruction -/
def timedAccesses (ins : Instr) : List (Nat × Kind) := if ins.scheduled then frameAccesses ins else []

/-- the `StableOrdering` edge from the block start to a classical instruction that is still `leading_instruction`
(graph.rs:274-278) -/
def classicalEdgeOf (n : Node) (ins : Instr) (st : St) : List Edge :=
  if ins.role = .classical ∧ (memStep n ins st).2 = true then [⟨.start, n, .stable⟩] else []

theorem mem_memEdgesOf {n : Node} {ins : Instr} {st : St} {e : Edge} : e ∈ memEdgesOf n ins st ↔
    ∃ d ∈ (recordAll st.mem n (memAccesses ins)).2, d.node ≠ n ∧ ⟨d.node, n, .await d.kind⟩ = e := by
  simp [memEdgesOf, and_assoc]

theorem mem_classicalEdgeOf_imp {n : Node} {ins : Instr} {st : St} {e : Edge} (h : e ∈ classicalEdgeOf n ins st) :
    ins.role = .classical ∧ e = ⟨.start, n, .stable⟩ := by
  unfold classicalEdgeOf at h
  split at h
  · rename_i hc
    exact ⟨hc.1, List.mem_singleton.1 h⟩
  · cases h

theorem memStep_leading (n : Node) (ins : Instr) (st : St) :
    (memStep n ins st).2 = (memEdgesOf n ins st).isEmpty := by
  simp [memStep, memEdgesOf]

theorem mem_memStep_trailing {n : Node} {ins : Instr} {st : St} {t : Node} :
    t ∈ (memStep n ins st).1.trailing ↔ t ∈ st.trailing ∧ ¬ ∃ e ∈ memEdgesOf n ins st, e.src = t := by
  simp only [memStep, List.mem_filter, Bool.not_eq_true', List.any_eq_false, beq_iff_eq, decide_eq_true_eq,
    not_exists, not_and]
  refine and_congr_right fun _ => ⟨fun h e he hsrc => ?_, fun h d hd hdt => ?_⟩
  · obtain ⟨d, hd, hdn, rfl⟩ := mem_memEdgesOf.1 he
    exact h d ⟨hd, hdn⟩ hsrc
  · exact h _ (mem_memEdgesOf.2 ⟨d, hd.1, hd.2, rfl⟩) hdt

theorem mem_memEdgesOf_iff_depEdgeFrom {n : Node} {ins : Instr} {st : St} {e : Edge} :
    e ∈ memEdgesOf n ins st ↔ DepEdgeFrom st.mem (toLog n (memAccesses ins)) memKeep memLab e := by
  rw [mem_memEdgesOf, (recordAll_hist n (memAccesses ins) st.mem).2]

theorem frameAccesses_rf {ins : Instr} {fr : List Nat × List Nat} (hr : ins.role = .rf) (hf : ins.frames = some fr) :
    frameAccesses ins = fr.1.map (·, Kind.write) ++ fr.2.map (·, Kind.read) := by
  simp [frameAccesses, hr, hf]

theorem stepInstr_steps {n : Node} {ins : Instr} {st st' : St} (h : stepInstr n ins st = .ok st') :
    Steps st st' (toLog n (memAccesses ins)) (toLog n (frameAccesses ins)) (toLog n (timedAccesses ins))
      (classicalEdgeOf n ins st) ∧
    ∀ t, t ∈ st'.trailing ↔ t ∈ (memStep n ins st).1.trailing ∨ (ins.role = .classical ∧ t = n) := by
  have hm := memStep_steps n ins st
  -- everything but the RF case with frames: no frame accesses, and after `memStep` only `extra` is added
  have noFrames : frameAccesses ins = [] → ∀ extra, (∀ e, e ∈ st'.edges ↔ e ∈ (memStep n ins st).1.edges ∨ e ∈ extra) →
      st'.mem = (memStep n ins st).1.mem → st'.ord = (memStep n ins st).1.ord →
      st'.timed = (memStep n ins st).1.timed →
      Steps st st' (toLog n (memAccesses ins)) (toLog n (frameAccesses ins)) (toLog n (timedAccesses ins)) extra := by
    intro h0 extra hE h1 h2 h3
    have : Steps (memStep n ins st).1 st' [] [] [] extra :=
      ⟨h1, h2, h3, fun e => by simp [hE, depEdgeFrom_nil]⟩
    simpa [timedAccesses, h0] using hm.trans this
  unfold stepInstr at h
  split at h
  · cases h
  · simp only at h
    split at h
    · rename_i hrole
      cases h
      refine ⟨noFrames (by simp [frameAccesses, hrole]) _ (fun e => by simp [classicalEdgeOf, hrole]) rfl rfl rfl,
        fun t => ?_⟩
      by_cases hin : n ∈ (memStep n ins st).1.trailing <;> simp +contextual [hin, hrole]
    · rename_i hrole
      split at h
      · rename_i hfr
        cases h
        refine ⟨?_, by simp [hrole]⟩
        simpa [classicalEdgeOf, hrole] using
          noFrames (by simp [frameAccesses, hrole, hfr]) [] (fun e => by simp) rfl rfl rfl
      · rename_i fr hfr
        cases h
        have := (hm.trans (frameLoop_steps ins.scheduled n .write fr.1 _)).trans
          (frameLoop_steps ins.scheduled n .read fr.2 _)
        refine ⟨?_, fun t => ?_⟩
        · -- `this` records the used frames as writes and then the blocked ones as reads, which is the log of
          -- `frameAccesses ins = used.map (·, write) ++ blocked.map (·, read)` (`frameAccesses_rf`): `toLog` is a `map`
          -- and goes through `++`; the timed log is the same for a timed instruction and empty otherwise
          cases hs : ins.scheduled <;> simpa [classicalEdgeOf, hrole, timedAccesses, frameAccesses_rf hrole hfr, hs,
            toLog, Function.comp_def] using this
        · rw [(frameLoop_leaves_mem_trailing _ _ _ _ _).2, (frameLoop_leaves_mem_trailing _ _ _ _ _).2]
          simp [hrole]
    · rename_i hrole
      split at h
      · cases h
        refine ⟨?_, by simp [hrole]⟩
        simpa [classicalEdgeOf, hrole] using
          noFrames (by simp [frameAccesses, hrole]) [] (fun e => by simp) rfl rfl rfl
      · cases h
    · cases h

theorem stepInstr_edges_sub {n : Node} {ins : Instr} {st st' : St} (h : stepInstr n ins st = .ok st') :
    (∀ e ∈ st.edges, e ∈ st'.edges) ∧ (∀ e ∈ memEdgesOf n ins st, e ∈ st'.edges) ∧
    (∀ e ∈ classicalEdgeOf n ins st, e ∈ st'.edges) := by
  have hE := (stepInstr_steps h).1.edges
  exact ⟨fun e he => (hE e).2 (.inl he), fun e he => (hE e).2 (.inr (.inl (mem_memEdgesOf_iff_depEdgeFrom.1 he))),
    fun e he => (hE e).2 (.inr (.inr (.inr (.inr he))))⟩

theorem stepInstr_noMemErr_role {n : Node} {ins : Instr} {st st' : St} (h : stepInstr n ins st = .ok st') :
    ins.memErr = false ∧
    (ins.role = .classical ∨ ins.role = .rf ∨ (ins.role = .controlFlow ∧ n = .stop)) := by
  unfold stepInstr at h
  split at h
  · cases h
  · rename_i hne
    refine ⟨by simpa using hne, ?_⟩
    simp only at h
    split at h
    · rename_i hr; exact .inl hr
    · rename_i hr; exact .inr (.inl hr)
    · rename_i hr
      split at h
      · rename_i hn; exact .inr (.inr ⟨hr, hn⟩)
      · cases h
    · cases h

abbrev memLog (P : List (Node × Instr)) : List Access := accLog memAccesses P

abbrev ordLog (P : List (Node × Instr)) : List Access := accLog frameAccesses P

abbrev timedLog (P : List (Node × Instr)) : List Access := accLog timedAccesses P

/-- the frames an instruction touches are pairwise distinct (`used`, `blocked` are disjoint sets); needed where the
edges of a frame queue are shown to go forward: a frame touched twice by one instruction would make it depend on
itself -/
def FramesNodup (ins : Instr) : Prop := ((frameAccesses ins).map (·.1)).Nodup

theorem mem_timedAccesses {ins : Instr} {a : Nat × Kind} :
    a ∈ timedAccesses ins ↔ ins.scheduled = true ∧ a ∈ frameAccesses ins := by
  unfold timedAccesses
  split <;> simp [*]

theorem role_of_mem_frameAccesses {ins : Instr} {a : Nat × Kind} (h : a ∈ frameAccesses ins) : ins.role = .rf := by
  unfold frameAccesses at h
  split at h
  · assumption
  · cases h

theorem timedAccesses_nodup {ins : Instr} (h : FramesNodup ins) : ((timedAccesses ins).map (·.1)).Nodup := by
  unfold timedAccesses
  split
  · exact h
  · exact .nil

def classicalNodes (P : List (Node × Instr)) : List Node :=
  P.flatMap fun p => if p.2.role = .classical then [p.1] else []

theorem mem_classicalNodes {P : List (Node × Instr)} {x : Node} :
    x ∈ classicalNodes P ↔ ∃ ins, (x, ins) ∈ P ∧ ins.role = .classical := by
  simp only [classicalNodes, List.mem_flatMap]
  constructor
  · rintro ⟨p, hp, hin⟩
    split at hin
    · rename_i hr
      obtain rfl := List.mem_singleton.1 hin
      exact ⟨p.2, hp, hr⟩
    · cases hin
  · rintro ⟨ins, hp, hr⟩
    exact ⟨(x, ins), hp, by simp [hr]⟩

theorem classicalNodes_snoc (P : List (Node × Instr)) (n : Node) (ins : Instr) :
    classicalNodes (P ++ [(n, ins)]) = classicalNodes P ++ if ins.role = .classical then [n] else [] := by
  simp [classicalNodes]

theorem runItems_steps {P : List (Node × Instr)} {st0 st : St} (h : runItems P st0 = .ok st) :
    ∃ extra, Steps st0 st (memLog P) (ordLog P) (timedLog P) extra ∧
      ∀ e ∈ extra, ∃ n ∈ classicalNodes P, e = ⟨.start, n, .stable⟩ := by
  refine runItems_induction (Inv := fun s done => ∃ extra, Steps st0 s (memLog done) (ordLog done) (timedLog done)
    extra ∧ ∀ e ∈ extra, ∃ n ∈ classicalNodes done, e = ⟨.start, n, .stable⟩) h
    ⟨[], Steps.refl _, fun _ he => nomatch he⟩ ?_
  rintro done n ins rest s s' - hstep ⟨extra, hs, hx⟩
  refine ⟨extra ++ classicalEdgeOf n ins s, ?_, ?_⟩
  · rw [memLog, ordLog, timedLog, accLog_snoc, accLog_snoc, accLog_snoc]
    exact hs.trans (stepInstr_steps hstep).1
  · rw [classicalNodes_snoc]
    refine List.forall_mem_append.2 ⟨fun e he => ?_, fun e he => ?_⟩
    · obtain ⟨x, hx, rfl⟩ := hx e he
      exact ⟨x, List.mem_append_left _ hx, rfl⟩
    · obtain ⟨hc, rfl⟩ := mem_classicalEdgeOf_imp he
      exact ⟨n, by simp [hc], rfl⟩

theorem stepInstr_trailing {n : Node} {ins : Instr} {st st' : St} (h : stepInstr n ins st = .ok st') :
    (∀ t ∈ st'.trailing, t ∈ st.trailing ∨ (ins.role = .classical ∧ t = n)) ∧
    (ins.role = .classical → n ∈ st'.trailing) ∧
    (∀ t ∈ st.trailing, t ∈ st'.trailing ∨ ∃ e ∈ memEdgesOf n ins st, e.src = t) := by
  have htr := (stepInstr_steps h).2
  refine ⟨fun t ht => ((htr t).1 ht).imp (fun h => (mem_memStep_trailing.1 h).1) id,
    fun hc => (htr n).2 (.inr ⟨hc, rfl⟩), fun t ht => ?_⟩
  by_cases hex : ∃ e ∈ memEdgesOf n ins st, e.src = t
  · exact .inr hex
  · exact .inl ((htr t).2 (.inl (mem_memStep_trailing.2 ⟨ht, hex⟩)))

def HasIn (E : List Edge) (x : Node) : Prop :=
  ∃ e ∈ E, e.dst = x ∧ ((e.src = .start ∧ e.label = .stable) ∨ isAwait e.label = true)

def HasOut (st : St) (x : Node) : Prop :=
  x ∈ st.trailing ∨ ∃ e ∈ st.edges, e.src = x ∧ isAwait e.label = true

theorem memEdgesOf_dst_label {n : Node} {ins : Instr} {st : St} : ∀ e ∈ memEdgesOf n ins st,
    e.dst = n ∧ isAwait e.label = true := by
  intro e he
  obtain ⟨d, -, -, rfl⟩ := mem_memEdgesOf.1 he
  exact ⟨rfl, rfl⟩

theorem stepInstr_classical {n : Node} {ins : Instr} {st st' : St} (h : stepInstr n ins st = .ok st')
    (hc : ins.role = .classical) : HasIn st'.edges n ∧ HasOut st' n := by
  obtain ⟨-, hmemE, hclE⟩ := stepInstr_edges_sub h
  refine ⟨?_, .inl ((stepInstr_trailing h).2.1 hc)⟩
  cases hl : (memStep n ins st).2
  · -- not leading: some memory edge was emitted
    have hne : memEdgesOf n ins st ≠ [] := fun hnil => by
      rw [memStep_leading, hnil] at hl
      cases hl
    obtain ⟨e, he⟩ := List.exists_mem_of_ne_nil _ hne
    obtain ⟨h1, h2⟩ := memEdgesOf_dst_label e he
    exact ⟨e, hmemE e he, h1, .inr h2⟩
  · refine ⟨⟨.start, n, .stable⟩, hclE _ ?_, rfl, .inl ⟨rfl, rfl⟩⟩
    simp [classicalEdgeOf, hc, hl]

theorem stepInstr_keeps {n : Node} {ins : Instr} {st st' : St} (h : stepInstr n ins st = .ok st') (x : Node) :
    (HasIn st.edges x → HasIn st'.edges x) ∧ (HasOut st x → HasOut st' x) := by
  obtain ⟨hsub, hmemE, -⟩ := stepInstr_edges_sub h
  constructor
  · rintro ⟨e, he, h1, h2⟩
    exact ⟨e, hsub e he, h1, h2⟩
  · rintro (hx | ⟨e, he, h1, h2⟩)
    · rcases (stepInstr_trailing h).2.2 x hx with h1 | ⟨e, he, h1⟩
      · exact .inl h1
      · exact .inr ⟨e, hmemE e he, h1, (memEdgesOf_dst_label e he).2⟩
    · exact .inr ⟨e, hsub e he, h1, h2⟩

/-- from any start state whose trailing nodes are among `cl`, each of which has its incoming and outgoing edge: the
trailing nodes at the end are among `cl` and the classical instructions, and all of these have both edges -/
theorem runItems_classicalInv {P : List (Node × Instr)} {st0 st : St} {cl : List Node} (h : runItems P st0 = .ok st)
    (h0 : (∀ t ∈ st0.trailing, t ∈ cl) ∧ ∀ x ∈ cl, HasIn st0.edges x ∧ HasOut st0 x) :
    (∀ t ∈ st.trailing, t ∈ cl ++ classicalNodes P) ∧
      ∀ x ∈ cl ++ classicalNodes P, HasIn st.edges x ∧ HasOut st x := by
  refine runItems_induction (Inv := fun s done => (∀ t ∈ s.trailing, t ∈ cl ++ classicalNodes done) ∧
    ∀ x ∈ cl ++ classicalNodes done, HasIn s.edges x ∧ HasOut s x) h (by simpa [classicalNodes] using h0) ?_
  intro done n ins rest s s' _ hstep ⟨hi1, hi2⟩
  rw [classicalNodes_snoc, ← List.append_assoc]
  refine ⟨fun t ht => ?_, fun x hx => ?_⟩
  · rcases (stepInstr_trailing hstep).1 t ht with h1 | ⟨h1, h2⟩
    · exact List.mem_append_left _ (hi1 t h1)
    · simp [h1, h2]
  · rcases List.mem_append.1 hx with hx | hx
    · exact ⟨(stepInstr_keeps hstep x).1 (hi2 x hx).1, (stepInstr_keeps hstep x).2 (hi2 x hx).2⟩
    · split at hx
      · rename_i hc
        obtain rfl := List.mem_singleton.1 hx
        exact stepInstr_classical hstep hc
      · cases hx

theorem runItems_noMemErr_role {P : List (Node × Instr)} {st st' : St} (h : runItems P st = .ok st') :
    ∀ p ∈ P, p.2.memErr = false ∧
      (p.2.role = .classical ∨ p.2.role = .rf ∨ (p.2.role = .controlFlow ∧ p.1 = .stop)) := by
  refine runItems_induction (Inv := fun _ done => ∀ p ∈ done, p.2.memErr = false ∧
    (p.2.role = .classical ∨ p.2.role = .rf ∨ (p.2.role = .controlFlow ∧ p.1 = .stop))) h
    (fun _ hp => nomatch hp) ?_
  intro done n ins rest s s' _ hstep hi p hp
  rcases List.mem_append.1 hp with hp | hp
  · exact hi p hp
  · obtain rfl := List.mem_singleton.1 hp
    exact stepInstr_noMemErr_role hstep

structure BuildFacts (b : Block) (st : St) : Prop where
  mem : QInv Queue.memInit st.mem (Reach (finish b st) isAwait) (memLog b.items)
  ord : QInv Queue.frameInit st.ord (Reach (finish b st) isStable) (ordLog b.items)
  timed : QInv Queue.frameInit st.timed (Reach (finish b st) isScheduled) (timedLog b.items)
  origin : ∀ e ∈ st.edges, DepEdgeFrom (QMap.empty Queue.memInit) (memLog b.items) memKeep memLab e ∨
    DepEdgeFrom (QMap.empty Queue.frameInit) (ordLog b.items) noKeep (fun _ => .stable) e ∨
    DepEdgeFrom (QMap.empty Queue.frameInit) (timedLog b.items) noKeep (fun _ => .scheduled) e ∨
    ∃ n ∈ classicalNodes b.items, e = ⟨.start, n, .stable⟩
  trailing : ∀ t ∈ st.trailing, t ∈ classicalNodes b.items
  classical : ∀ x ∈ classicalNodes b.items, HasIn st.edges x ∧ HasOut st x
  roles : ∀ p ∈ b.items, p.2.memErr = false ∧
    (p.2.role = .classical ∨ p.2.role = .rf ∨ (p.2.role = .controlFlow ∧ p.1 = .stop))

theorem build_facts {b : Block} {es : List Edge} (h : buildBlock b = .ok es) :
    ∃ st, es = finish b st ∧ BuildFacts b st := by
  obtain ⟨st, hst, rfl⟩ := buildBlock_eq_ok h
  obtain ⟨extra, hs, hx⟩ := runItems_steps hst
  have sub : ∀ {e}, e ∈ st.edges → e ∈ finish b st := sub_finish b st _
  have hcl := runItems_classicalInv (cl := []) hst ⟨fun _ h => (nomatch h), fun _ h => (nomatch h)⟩
  refine ⟨st, rfl, ?_, ?_, ?_, fun e he => ?_, hcl.1, hcl.2, runItems_noMemErr_role hst⟩
  · exact hs.mem ▸ history_qinv memInit_ok.1 memInit_ok.2 (fun _ => rfl) (fun _ _ h => h)
      fun e he => sub ((hs.edges e).2 (.inr (.inl he)))
  · exact hs.ord ▸ history_qinv frameInit_ok.1 frameInit_ok.2 (fun _ => rfl) (fun _ _ _ => trivial)
      fun e he => sub ((hs.edges e).2 (.inr (.inr (.inl he))))
  · exact hs.timed ▸ history_qinv frameInit_ok.1 frameInit_ok.2 (fun _ => rfl) (fun _ _ _ => trivial)
      fun e he => sub ((hs.edges e).2 (.inr (.inr (.inr (.inl he)))))
  · rcases (hs.edges e).1 he with h0 | h1 | h1 | h1 | h1
    · cases h0
    · exact .inl h1
    · exact .inr (.inl h1)
    · exact .inr (.inr (.inl h1))
    · exact .inr (.inr (.inr (hx e h1)))

end QV.Sched
