import QV.Shared.ExprPrint
/-
What the bit-pattern tests of `QV.ExprPrint` (`plainBits`, `fSign`, `fZero`, `fGtZero`, `fLtZero`, `fAbs`) say about
a pattern, as ranges of naturals: a plain pattern lies in `[0, +∞) ∪ (-0.0, -∞)`.
-/
namespace QV.ExprPrint

theorem fZero_zero : fZero 0 = true := rfl

theorem plain_zero : plainBits 0 = true := by decide

theorem fAbs_of_sign {b : Nat} (h : fSign b = true) : b - two63 = fAbs b := by
  have : two63 ≤ b := by simpa [fSign] using h
  simp [fAbs, this]

theorem fAbs_of_not_sign {b : Nat} (h : fSign b = false) : b = fAbs b := by
  have : ¬ two63 ≤ b := by simpa [fSign] using h
  simp [fAbs, this]

/-- finite and not `-0.0`: below `+∞`, or strictly between `-0.0` and `-∞` -/
theorem plainBits_iff (b : Nat) : plainBits b = true ↔
    b < 0x7FF0000000000000 ∨ (0x8000000000000000 < b ∧ b < 0xFFF0000000000000) := by
  have h63 : two63 = 9223372036854775808 := rfl
  have h64 : two64 = 18446744073709551616 := rfl
  have hi : infBits = 9218868437227405312 := rfl
  simp only [plainBits, Bool.and_eq_true, decide_eq_true_eq, bne_iff_ne, ne_eq, h63, h64, hi]
  omega

/-- for a plain double other than `+0.0`, the sign bit answers every test that `format_complex` and
`starts_with_minus` make -/
theorem plain_nonzero {b : Nat} (h : plainBits b = true) (h0 : b ≠ 0) :
    fZero b = false ∧ fGtZero b = !fSign b ∧ fLtZero b = fSign b := by
  rw [plainBits_iff] at h
  have h63 : two63 = 9223372036854775808 := rfl
  have hi : infBits = 9218868437227405312 := rfl
  have hn : negInfBits = 18442240474082181120 := rfl
  by_cases hs : 9223372036854775808 ≤ b <;> simp [fSign, fZero, fGtZero, fLtZero, h63, hi, hn, hs] <;> omega

/-- the same case distinction with the bounds the `LitLaws` ask for -/
theorem plain_pos_or_neg (b : Nat) (h : plainBits b = true) (h0 : b ≠ 0) :
    (0 < b ∧ b < two63 ∧ fSign b = false) ∨ (two63 < b ∧ fSign b = true) := by
  rw [plainBits_iff] at h
  have h63 : two63 = 9223372036854775808 := rfl
  simp only [fSign, h63, decide_eq_true_eq, decide_eq_false_iff_not]; omega

theorem fAbs_lt {b : Nat} (h : plainBits b = true) : fAbs b < two63 := by
  rw [plainBits_iff] at h; unfold fAbs two63; split <;> omega

end QV.ExprPrint
