import QV.Shared.Render
import QV.C05.PropsReal
import QV.C06.Props
import QV.C07.Props
/-!
The theorems of the char-level bridge (`QV/Shared/Render.lean`): lexing a rendered token list gives the token
list back.  `lex_renderForms` (general layout) goes by induction with `lex` taken item by item; the explicit-gap,
pair-policy and canonical layouts are instances of it.  Per token the work is done by C05 (numbers), C06
(identifiers, targets, variables) and C07 (strings).  docs/Render.md lists the excluded adjacencies.
-/
namespace QV.Render
open QV.Tok QV.Lex

theorem digitChar_spec : ∀ d, d < 10 → QV.C05.Spec.digitVal (digitChar d) = d ∧ digitChar d ≠ '_' := by
  decide

theorem natToDecAux_spec (f : Nat) : ∀ n, n ≤ f →
    (∀ c ∈ natToDecAux f n, QV.C05.Spec.digitVal c < 10) ∧ natToDecAux f n ≠ [] ∧
    QV.C05.Spec.posValue 10 (QV.C05.Spec.digitsOf (natToDecAux f n)) = n := by
  induction f with
  | zero =>
    intro n hn
    have : n = 0 := by omega
    subst this
    have ⟨h1, h2⟩ := digitChar_spec 0 (by omega)
    refine ⟨by intro c hc; simp [natToDecAux] at hc; subst hc; omega, by simp [natToDecAux], ?_⟩
    simp [natToDecAux, QV.C05.Spec.digitsOf, h2, h1, QV.C05.Spec.posValue]
  | succ f ih =>
    intro n hn
    simp only [natToDecAux]
    split
    · rename_i h
      have ⟨h1, h2⟩ := digitChar_spec n h
      refine ⟨by intro c hc; simp at hc; subst hc; omega, by simp, ?_⟩
      simp [QV.C05.Spec.digitsOf, h2, h1, QV.C05.Spec.posValue]
    · rename_i h
      obtain ⟨i1, i2, i3⟩ := ih (n / 10) (by omega)
      have hm : n % 10 < 10 := by omega
      have ⟨h1, h2⟩ := digitChar_spec (n % 10) hm
      refine ⟨?_, by simp, ?_⟩
      · intro c hc
        simp only [List.mem_append, List.mem_singleton] at hc
        rcases hc with hc | hc
        · exact i1 c hc
        · subst hc; omega
      · rw [QV.C05.digitsOf_snoc _ _ h2, QV.C05.posValue_snoc, i3, h1]; omega

theorem natToDec_spec (n : Nat) :
    (∀ c ∈ natToDec n, QV.C05.Spec.digitVal c < 10) ∧ natToDec n ≠ [] ∧
    QV.C05.Spec.posValue 10 (QV.C05.Spec.digitsOf (natToDec n)) = n :=
  natToDecAux_spec n n (Nat.le_refl n)

theorem natToDec_digitString (n : Nat) : QV.C05.Spec.isDigitString 10 (natToDec n) = true := by
  obtain ⟨h1, h2, _⟩ := natToDec_spec n
  cases h : natToDec n with
  | nil => exact absurd h h2
  | cons c cs =>
    rw [h] at h1
    exact (QV.C05.isDigitString_cons 10 c cs).2 ⟨h1 c (by simp), fun d hd => Or.inr (h1 d hd)⟩

-- each `all` lists the constructors in declaration order, so a constructor sits at index `ctorIdx`
theorem mem_keywordAll (k : KeywordToken) : k ∈ KeywordToken.all :=
  List.mem_of_getElem? (i := k.ctorIdx) (by cases k <;> rfl)
theorem mem_commandAll (c : Command) : c ∈ Command.all :=
  List.mem_of_getElem? (i := c.ctorIdx) (by cases c <;> rfl)
theorem mem_dataTypeAll (d : DataType) : d ∈ DataType.all :=
  List.mem_of_getElem? (i := d.ctorIdx) (by cases d <;> rfl)
theorem mem_modifierAll (m : Modifier) : m ∈ Modifier.all :=
  List.mem_of_getElem? (i := m.ctorIdx) (by cases m <;> rfl)

theorem wordSpelling_spec (t : Token) (s : List Char) (h : wordSpelling t = some s) :
    QV.C06.Spec.validIdent s = true ∧ keywordOrIdentifier s = t := by
  -- the four finite tables go through the kernel in one run (not one `decide` per constructor of `Token`),
  -- so that every spelling is decoded once
  have ⟨hk, hc, hd, hm⟩ :
      (∀ k ∈ KeywordToken.all, QV.C06.Spec.validIdent k.spelling.toList = true ∧
        keywordOrIdentifier k.spelling.toList = k.toToken) ∧
      (∀ c ∈ Command.all, QV.C06.Spec.validIdent c.spelling.toList = true ∧
        keywordOrIdentifier c.spelling.toList = .command c) ∧
      (∀ d ∈ DataType.all, QV.C06.Spec.validIdent d.spelling.toList = true ∧
        keywordOrIdentifier d.spelling.toList = .dataType d) ∧
      (∀ m ∈ Modifier.all, QV.C06.Spec.validIdent m.spelling.toList = true ∧
        keywordOrIdentifier m.spelling.toList = .modifier m) := by decide +kernel
  cases t with
  | command c => cases h; exact hc c (mem_commandAll c)
  | dataType d => cases h; exact hd d (mem_dataTypeAll d)
  | modifier m => cases h; exact hm m (mem_modifierAll m)
  | as | matrix | mutable | nonBlocking | offset | pauliSum | permutation | sequence | sharing =>
    cases h; exact hk _ (mem_keywordAll _)
  | _ => cases h

theorem isWordLike_of_wordSpelling {t : Token} {s : List Char} (h : wordSpelling t = some s) :
    isWordLike t = true := by
  unfold isWordLike; split <;> simp [h]

theorem startsWordOrNumber_of_wordSpelling {t : Token} {s : List Char} (h : wordSpelling t = some s) :
    startsWordOrNumber t = true := by
  unfold startsWordOrNumber; split <;> simp [h]

def isNumTok : Token → Bool
  | .integer _ | .float _ => true
  | _ => false

theorem stopOk_eq (t : Token) (rest : List Char) :
    stopOk t rest =
      if isWordLike t then QV.C06.Spec.stopsIdent rest
      else if isNumTok t then numStopB rest
      else if t = .newLine then rest.head? != some '\n' else true := by
  cases t <;> rfl

theorem numStopB_eq (rest : List Char) : numStopB rest = QV.C05.numStop rest := by
  cases rest <;> simp [numStopB, QV.C05.numStop]

theorem stopOk_cons (t : Token) (c : Char) (r : List Char)
    (hw : isWordLike t = true → isEnd c = false ∧ c ≠ '-')
    (hn : isNumTok t = true → isEnd c = false ∧ c ≠ '.')
    (hl : t = .newLine → c ≠ '\n') : stopOk t (c :: r) = true := by
  rw [stopOk_eq]
  split
  · obtain ⟨h1, h2⟩ := hw ‹_›
    rw [QV.C06.stopsIdent_cons h2, h1]; rfl
  · split
    · obtain ⟨h1, h2⟩ := hn ‹_›
      rw [numStopB_eq]
      exact QV.C05.delim_numStop _ (by simp [QV.C05.delim, h1, h2])
    · split
      · simpa using hl ‹_›
      · rfl

theorem stopOk_nil (t : Token) : stopOk t [] = true := by
  rw [stopOk_eq]
  split
  · rfl
  · split
    · rfl
    · split <;> rfl

theorem stopOk_space (t : Token) (r : List Char) : stopOk t (' ' :: r) = true :=
  stopOk_cons t ' ' r (fun _ => by decide) (fun _ => by decide) (fun _ => by decide)

theorem stopOk_tab (t : Token) (r : List Char) : stopOk t ('\t' :: r) = true :=
  stopOk_cons t '\t' r (fun _ => by decide) (fun _ => by decide) (fun _ => by decide)

theorem not_mustSep_wordLike {t u : Token} (ht : isWordLike t = true) (hu : u ≠ .indentation)
    (h : mustSep t u = false) : startsWordOrNumber u = false ∧ u ≠ .operator .minus := by
  unfold mustSep at h
  split at h
  · exact absurd rfl hu
  · cases ht
  · cases ht
  · cases ht
  · cases ht
  · rw [ht] at h; cases h
  · rename_i hm _
    rw [ht, Bool.true_and] at h
    exact ⟨h, hm⟩

theorem not_mustSep_num {t u : Token} (ht : isNumTok t = true) (hu : u ≠ .indentation)
    (h : mustSep t u = false) : startsWordOrNumber u = false := by
  cases t with
  | integer _ | float _ =>
    cases u with
    | indentation => exact absurd rfl hu
    | _ => exact h
  | _ => cases ht

theorem renderTokenV_other (st : Style) (a : Nat) (t : Token) (h1 : t ≠ .newLine) (h2 : t ≠ .indentation) :
    renderTokenV st a t = renderToken st t := by
  cases t <;> first | rfl | exact absurd rfl h1 | exact absurd rfl h2

theorem renderTokenV_zero (st : Style) (t : Token) : renderTokenV st 0 t = renderToken st t := by
  obtain ⟨_, tab⟩ := st
  cases t with
  | indentation => cases tab <;> rfl
  | _ => rfl

theorem renderTokenV_word {t : Token} {s : List Char} (st : Style) (a : Nat) (h : wordSpelling t = some s) :
    renderTokenV st a t = s := by
  rw [renderTokenV_other st a t (by rintro rfl; cases h) (by rintro rfl; cases h)]
  simp only [renderToken, h]

theorem dropWhile_replicate_nl (k : Nat) (rest : List Char) (h : rest.head? ≠ some '\n') :
    (List.replicate k '\n' ++ rest).dropWhile (· == '\n') = rest := by
  induction k with
  | zero =>
    cases rest with
    | nil => rfl
    | cons c r =>
      have : c ≠ '\n' := by simpa using h
      have hb : (c == '\n') = false := by simp [this]
      simp [List.dropWhile, hb]
  | succ k ih => simp [List.replicate_succ, List.dropWhile, ih]

theorem lexToken_renderV (st : Style) (a : Nat) (t : Token) (rest : List Char) (hok : tokOk t = true)
    (hf : ∀ b, t = .float b → FmtOk st.fmt b) (hstop : stopOk t rest = true) :
    lexToken (renderTokenV st a t ++ rest) = .ok t rest := by
  cases hw : wordSpelling t with
  | some s =>
    obtain ⟨hv, hk⟩ := wordSpelling_spec t s hw
    rw [stopOk_eq, if_pos (isWordLike_of_wordSpelling hw)] at hstop
    rw [renderTokenV_word st a hw, QV.C06.lexToken_word s rest hv hstop, hk]
  | none =>
    cases t with
    | identifier s =>
      simp only [tokOk, Bool.and_eq_true, Bool.not_eq_true'] at hok
      exact QV.C06.C06_lexToken_identifier s rest hok.1 hok.2 hstop
    | target s => exact QV.C06.C06_lexToken_target s rest hok hstop
    | «variable» s => exact QV.C06.C06_lexToken_variable s rest hok hstop
    | integer n =>
      have hn : n < 2 ^ 64 := of_decide_eq_true hok
      have hd : QV.C05.numStop rest = true := by rw [← numStopB_eq]; exact hstop
      show lexToken (natToDec n ++ rest) = _
      rw [QV.C05.C05_lexToken_decimal _ rest (natToDec_digitString n) hd, (natToDec_spec n).2.2, if_pos hn]
    | float b => exact (hf b rfl).lex rest hstop
    | string s =>
      have h := QV.C07.C07_lex_quote s rest
      have e1 : lexComment (QV.C07.quote s ++ rest) = .error := rfl
      have e2 : lexPunctuation (QV.C07.quote s ++ rest) = .error := rfl
      have e3 : lexTarget (QV.C07.quote s ++ rest) = .error := rfl
      show lexToken (QV.C07.quote s ++ rest) = _
      simp [lexToken, Res.orElse, e1, e2, e3, lexString, h]
    | newLine =>
      have hh : rest.head? ≠ some '\n' := by simpa [stopOk] using hstop
      have e1 : lexComment ('\n' :: (List.replicate a '\n' ++ rest)) = .error := rfl
      have e2 : lexPunctuation ('\n' :: (List.replicate a '\n' ++ rest)) =
          .ok .newLine ((List.replicate a '\n' ++ rest).dropWhile (· == '\n')) := rfl
      simp [renderTokenV, List.replicate_succ, lexToken, Res.orElse, e1, e2, dropWhile_replicate_nl a rest hh]
    | indentation => simp only [renderTokenV]; split <;> rfl
    | operator o => cases o <;> rfl
    | comment s => cases hok
    | bang | colon | comma | lBracket | lParenthesis | rBracket | rParenthesis | semicolon => rfl
    | _ => cases hw

/-- what the layout theorems need of the first character `c` of `u`'s spelling: it is visible, it is a
newline only for `NewLine`, and unless `u` starts with a word character or a number it can be absorbed by
no word or number before it (`-` only as the operator itself) -/
structure FirstOk (u : Token) (c : Char) : Prop where
  notWs : c ≠ ' ' ∧ c ≠ '\t'
  notNl : u ≠ .newLine → c ≠ '\n'
  notWord : startsWordOrNumber u = false → isEnd c = false ∧ c ≠ '.'
  notDash : startsWordOrNumber u = false → u ≠ .operator .minus → c ≠ '-'

theorem FirstOk.punct {u : Token} {c : Char} (h : c ∈ "!:,@%[(]);\"^+/*".toList) : FirstOk u c := by
  have : ∀ d ∈ "!:,@%[(]);\"^+/*".toList,
      d ≠ ' ' ∧ d ≠ '\t' ∧ d ≠ '\n' ∧ isEnd d = false ∧ d ≠ '.' ∧ d ≠ '-' := by decide
  obtain ⟨h1, h2, h3, h4, h5, h6⟩ := this c h
  exact ⟨⟨h1, h2⟩, fun _ => h3, fun _ => ⟨h4, h5⟩, fun _ _ => h6⟩

theorem FirstOk.leading {u : Token} {c : Char} (hc : isLeading c = true)
    (hu : startsWordOrNumber u = true) : FirstOk u c := by
  have hne : ∀ k, isLeading k = false → c ≠ k := fun k hk e => by subst e; simp [hk] at hc
  exact ⟨⟨hne _ (by decide), hne _ (by decide)⟩, fun _ => hne _ (by decide), by simp [hu], by simp [hu]⟩

theorem FirstOk.digit {u : Token} {c : Char} (hc : QV.C05.Spec.digitVal c < 10)
    (hu : startsWordOrNumber u = true) : FirstOk u c := by
  have hne : ∀ k, QV.C05.Spec.digitVal k = 36 → c ≠ k := fun k hk e => by subst e; omega
  exact ⟨⟨hne _ (by decide), hne _ (by decide)⟩, fun _ => hne _ (by decide), by simp [hu], by simp [hu]⟩

theorem renderTokenV_first (st : Style) (a : Nat) (u : Token) (hok : tokOk u = true)
    (hf : ∀ b, u = .float b → FmtOk st.fmt b) (hni : u ≠ .indentation) :
    ∃ c r, renderTokenV st a u = c :: r ∧ FirstOk u c := by
  cases hw : wordSpelling u with
  | some s =>
    obtain ⟨c, cs, rfl, hc, _⟩ := (QV.C06.validIdent_iff s).1 (wordSpelling_spec u _ hw).1
    exact ⟨c, cs, renderTokenV_word st a hw, .leading hc (startsWordOrNumber_of_wordSpelling hw)⟩
  | none =>
    cases u with
    | identifier s =>
      simp only [tokOk, Bool.and_eq_true] at hok
      obtain ⟨c, cs, rfl, hc, _⟩ := (QV.C06.validIdent_iff s).1 hok.1
      exact ⟨c, cs, rfl, .leading hc rfl⟩
    | integer n =>
      obtain ⟨h1, h2, _⟩ := natToDec_spec n
      cases h : natToDec n with
      | nil => exact absurd h h2
      | cons c cs => exact ⟨c, cs, h, .digit (h1 c (by simp [h])) rfl⟩
    | float b =>
      obtain ⟨c, r, h, h1, h2⟩ := (hf b rfl).head
      refine ⟨c, r, h, ⟨h1, h2⟩, ?_, by simp [startsWordOrNumber], by simp [startsWordOrNumber]⟩
      -- a spelling that starts with a newline would lex to `NewLine`, not to the float
      intro _ e
      subst e
      have hl := (hf b rfl).lex [] rfl
      rw [h] at hl
      have e1 : lexComment ('\n' :: r) = .error := rfl
      have e2 : lexPunctuation ('\n' :: r) = .ok .newLine (r.dropWhile (· == '\n')) := rfl
      simp [lexToken, Res.orElse, e1, e2] at hl
    | newLine =>
      exact ⟨'\n', List.replicate a '\n', rfl, by decide, fun h => absurd rfl h, fun _ => by decide,
        fun _ _ => by decide⟩
    | operator o =>
      cases o with
      | minus => exact ⟨'-', [], rfl, by decide, fun _ => by decide, fun _ => by decide, fun _ h => absurd rfl h⟩
      | caret | plus | slash | star => exact ⟨_, [], rfl, .punct (by decide)⟩
    | target s | «variable» s | string s => exact ⟨_, _, rfl, .punct (by decide)⟩
    | bang | colon | comma | lBracket | lParenthesis | rBracket | rParenthesis | semicolon =>
      exact ⟨_, [], rfl, .punct (by decide)⟩
    | indentation => exact absurd rfl hni
    | comment s => cases hok
    | _ => cases hw

theorem lexItem_indentationV (st : Style) (a : Nat) (rest : List Char) :
    lexItem (renderTokenV st a .indentation ++ rest) = .ok .indentation rest := by
  simp only [renderTokenV]
  split <;> rfl

theorem renderTokenV_ne_nil (st : Style) (a : Nat) (t : Token) (hok : tokOk t = true)
    (hf : ∀ b, t = .float b → FmtOk st.fmt b) : renderTokenV st a t ≠ [] := by
  by_cases hi : t = .indentation
  · subst hi; simp only [renderTokenV]; split <;> simp
  · obtain ⟨c, r, hh, _⟩ := renderTokenV_first st a t hok hf hi
    rw [hh]; simp

theorem lexItem_renderV (st : Style) (a : Nat) (t : Token) (pre : Bool) (rest : List Char)
    (hok : tokOk t = true) (hf : ∀ b, t = .float b → FmtOk st.fmt b) (hstop : stopOk t rest = true)
    (hpre : pre = true → t ≠ .indentation) :
    lexItem (gapText pre ++ (renderTokenV st a t ++ rest)) = .ok t rest := by
  by_cases hi : t = .indentation
  · subst hi
    have : pre = false := by cases pre <;> simp_all
    subst this
    simpa [gapText] using lexItem_indentationV st a rest
  · obtain ⟨c, r, hh, ⟨h1, h2⟩, _⟩ := renderTokenV_first st a t hok hf hi
    have hl := lexToken_renderV st a t rest hok hf hstop
    rw [hh] at hl ⊢
    obtain ⟨e1, e2⟩ := lexItem_of_head c (r ++ rest) h1 h2
    cases pre
    · simpa [gapText, e1] using hl
    · simpa [gapText, e2] using hl

/-- **general layout**: a space or not before each token, and the spelling variants the Rust writers use
(blank lines, tab or four-space indentation). -/
theorem lex_renderForms (st : Style) (ts : List Token) (fs : List Form)
    (hren : renderableF st ts fs = true) (hfl : ∀ b, Token.float b ∈ ts → FmtOk st.fmt b) :
    lex (renderForms st ts fs) = some ts := by
  induction ts generalizing fs with
  | nil => rfl
  | cons t ts ih =>
    have hft : ∀ b, t = .float b → FmtOk st.fmt b := fun b e => hfl b (by simp [e])
    simp only [renderableF, Bool.and_eq_true] at hren
    obtain ⟨⟨⟨hok, hgap⟩, hstop⟩, hrest⟩ := hren
    have hitem := lexItem_renderV st (headForm fs).alt t (headForm fs).gap (renderForms st ts fs.tail)
      hok hft hstop (fun hg => by simpa [hg] using hgap)
    have hlen : (renderForms st ts fs.tail).length <
        (gapText (headForm fs).gap ++
          (renderTokenV st (headForm fs).alt t ++ renderForms st ts fs.tail)).length := by
      cases hr : renderTokenV st (headForm fs).alt t with
      | nil => exact absurd hr (renderTokenV_ne_nil st _ t hok hft)
      | cons c r => simp; omega
    rw [renderForms, lex_cons hitem hlen, ih fs.tail hrest fun b hb => hfl b (by simp [hb])]
    rfl

def headGap (gs : List Bool) : Bool := gs.head?.getD false

theorem renderGaps_cons2 (st : Style) (t u : Token) (ts : List Token) (gs : List Bool) :
    renderGaps st (t :: u :: ts) gs =
      renderToken st t ++ (gapText (headGap gs) ++ renderGaps st (u :: ts) gs.tail) := by
  cases gs with
  | nil => simp [renderGaps, headGap, gapText]
  | cons g gs => cases g <;> simp [renderGaps, headGap, gapText]

theorem renderable_cons2 (st : Style) (t u : Token) (ts : List Token) (gs : List Bool) :
    renderable st (t :: u :: ts) gs =
      (tokOk t && gapAllowed t u (headGap gs) &&
        stopOk t (gapText (headGap gs) ++ renderGaps st (u :: ts) gs.tail) &&
        renderable st (u :: ts) gs.tail) := by
  cases gs with
  | nil => simp [renderable, headGap, gapText, gapAllowed]
  | cons g gs => cases g <;> simp [renderable, headGap, gapText, gapAllowed]

/-- the forms of an explicit-gap layout; the first entry belongs to the first token -/
def gapForms (gs : List Bool) : List Form := gs.map (⟨·, 0⟩)

theorem headForm_gapForms (gs : List Bool) : headForm (gapForms gs) = ⟨headGap gs, 0⟩ := by
  cases gs <;> rfl

theorem tail_gapForms (gs : List Bool) : (gapForms gs).tail = gapForms gs.tail := by
  cases gs <;> rfl

theorem renderForms_gapForms (st : Style) : ∀ (ts : List Token) (u : Token) (gs : List Bool),
    renderForms st (u :: ts) (gapForms gs) = gapText (headGap gs) ++ renderGaps st (u :: ts) gs.tail := by
  intro ts
  induction ts with
  | nil =>
    intro u gs
    simp only [renderForms, headForm_gapForms, renderTokenV_zero, renderGaps, List.append_nil]
  | cons v ts ih =>
    intro u gs
    rw [renderGaps_cons2, ← ih v gs.tail, renderForms, headForm_gapForms, renderTokenV_zero, tail_gapForms]

theorem renderableF_gapForms (st : Style) : ∀ (ts : List Token) (u : Token) (gs : List Bool),
    renderable st (u :: ts) gs.tail = true → (!(headGap gs) || decide (u ≠ .indentation)) = true →
    renderableF st (u :: ts) (gapForms gs) = true := by
  intro ts
  induction ts with
  | nil =>
    intro u gs hren hpre
    have hok : tokOk u = true := by simpa [renderable] using hren
    simp only [renderableF, headForm_gapForms, renderForms, hok, hpre, stopOk_nil, Bool.and_self]
  | cons v ts ih =>
    intro u gs hren hpre
    rw [renderable_cons2] at hren
    simp only [Bool.and_eq_true] at hren
    obtain ⟨⟨⟨hok, hgap⟩, hstop⟩, hrest⟩ := hren
    -- `gapAllowed` also keeps a gap from following an `Indentation`; `renderableF` only asks about the token
    -- after the gap
    have hv : (!(headGap gs.tail) || decide (v ≠ .indentation)) = true := by
      cases hg : headGap gs.tail
      · rfl
      · have : u ≠ .indentation ∧ v ≠ .indentation := by simpa [gapAllowed, hg] using hgap
        simpa using this.2
    rw [renderableF, headForm_gapForms, tail_gapForms, renderForms_gapForms, hok, hpre, hstop,
      ih v gs.tail hrest hv]
    rfl

/-- **explicit gaps**: the general layout at default spellings. -/
theorem lex_renderGaps (st : Style) (ts : List Token) (gs : List Bool)
    (hren : renderable st ts gs = true) (hfl : ∀ b, Token.float b ∈ ts → FmtOk st.fmt b) :
    lex (renderGaps st ts gs) = some ts := by
  cases ts with
  | nil => rfl
  | cons t ts =>
    -- a form carries the gap BEFORE its token, a gap list the gaps AFTER: the forms are the gaps shifted by one `false`
    have hlay := renderForms_gapForms st ts t (false :: gs)
    simp only [headGap, List.head?_cons, Option.getD_some, gapText, Bool.false_eq_true, if_false,
      List.nil_append, List.tail_cons] at hlay
    rw [← hlay]
    exact lex_renderForms st _ _ (renderableF_gapForms st ts t (false :: gs) hren rfl) hfl

theorem stopOk_of_not_mustSep (st : Style) (t u : Token) (more : List Char)
    (hoku : tokOk u = true) (hfu : ∀ b, u = .float b → FmtOk st.fmt b)
    (hms : mustSep t u = false) : stopOk t (renderToken st u ++ more) = true := by
  by_cases hi : u = .indentation
  · subst hi
    show stopOk t ((if st.tabIndent then _ else _) ++ more) = true
    cases st.tabIndent
    · exact stopOk_space t _
    · exact stopOk_tab t _
  · obtain ⟨c, r, hh, hc⟩ := renderTokenV_zero st u ▸ renderTokenV_first st 0 u hoku hfu hi
    rw [hh]
    refine stopOk_cons t c _ (fun ht => ?_) (fun ht => hc.notWord (not_mustSep_num ht hi hms)) ?_
    · obtain ⟨hs, hm⟩ := not_mustSep_wordLike ht hi hms
      exact ⟨(hc.notWord hs).1, hc.notDash hs hm⟩
    · rintro rfl
      exact hc.notNl fun e => by subst e; cases hms

def SafePolicy (sp : Token → Token → Bool) : Prop :=
  (∀ a b, mustSep a b = true → sp a b = true) ∧
  (∀ a b, (a = .indentation ∨ b = .indentation) → sp a b = false)

theorem renderable_of_policy (st : Style) (sp : Token → Token → Bool) (hsp : SafePolicy sp) :
    ∀ ts : List Token, allTokOk ts = true → (∀ b, Token.float b ∈ ts → FmtOk st.fmt b) →
      renderable st ts (gapsOf sp ts) = true := by
  intro ts
  induction ts with
  | nil => intro _ _; rfl
  | cons t ts ih =>
    intro hall hfl
    simp only [allTokOk, List.all_cons, Bool.and_eq_true] at hall
    cases ts with
    | nil => simpa [renderable] using hall.1
    | cons u ts' =>
      have hall' : allTokOk (u :: ts') = true := hall.2
      have hoku : tokOk u = true := by
        simp only [allTokOk, List.all_cons, Bool.and_eq_true] at hall'; exact hall'.1
      have hfu : ∀ b, u = .float b → FmtOk st.fmt b := fun b e => hfl b (by simp [e])
      have ihr := ih hall' (fun b hb => hfl b (by simp [hb]))
      rw [renderable_cons2]
      simp only [gapsOf, headGap, List.head?_cons, Option.getD_some, List.tail_cons, Bool.and_eq_true]
      refine ⟨⟨⟨hall.1, ?_⟩, ?_⟩, ihr⟩
      · cases hg : sp t u with
        | false => simp [gapAllowed]
        | true =>
          have h1 : t ≠ .indentation := fun e => by simp [hsp.2 t u (Or.inl e)] at hg
          have h2 : u ≠ .indentation := fun e => by simp [hsp.2 t u (Or.inr e)] at hg
          simp [gapAllowed, h1, h2]
      -- a gap is a space, and a space stops every token; no gap means `mustSep t u` is false, and then the first
      -- character of `u`'s spelling stops `t`
      · cases hg : sp t u with
        | true => simpa [gapText] using stopOk_space t _
        | false =>
          have hms : mustSep t u = false := by
            cases h : mustSep t u with
            | false => rfl
            | true => simp [hsp.1 t u h] at hg
          cases ts' with
          | nil => simpa [gapText, renderGaps] using stopOk_of_not_mustSep st t u [] hoku hfu hms
          | cons v ts'' =>
            rw [renderGaps_cons2]
            simpa [gapText] using stopOk_of_not_mustSep st t u _ hoku hfu hms

/-- **adjacent-pair policy**: any spacing policy that separates at least the `mustSep` pairs and puts no space
next to an `Indentation`. -/
theorem lex_renderWith (st : Style) (sp : Token → Token → Bool) (hsp : SafePolicy sp) (ts : List Token)
    (hall : allTokOk ts = true) (hfl : ∀ b, Token.float b ∈ ts → FmtOk st.fmt b) :
    lex (renderWith st sp ts) = some ts :=
  lex_renderGaps st ts (gapsOf sp ts) (renderable_of_policy st sp hsp ts hall hfl) hfl

theorem mustSep_safe : SafePolicy mustSep := by
  refine ⟨fun _ _ h => h, ?_⟩
  intro a b h
  rcases h with h | h
  · subst h; cases b <;> rfl
  · subst h; cases a <;> rfl

/-- **canonical layout** (Rust mirror: `render_tokens`, harness/src/lexwire.rs). -/
theorem lex_render (st : Style) (ts : List Token) (hall : allTokOk ts = true)
    (hfl : ∀ b, Token.float b ∈ ts → FmtOk st.fmt b) : lex (render st ts) = some ts :=
  lex_renderWith st mustSep mustSep_safe ts hall hfl

/-- the NumTok hypothesis is satisfiable: `1.5` is a spelling of the double 0x3FF8000000000000 -/
example : FmtOk (fun _ => "1.5".toList) 0x3FF8000000000000 := by
  refine ⟨⟨'1', ".5".toList, rfl, by decide, by decide⟩, ?_⟩
  intro rest hr
  have hd : QV.C05.numStop rest = true := by rw [← numStopB_eq]; exact hr
  have h := QV.C05.C05_real_literal "1".toList "5".toList true none rest (by decide) (by decide) (by simp)
    (by decide) (by simp) (Or.inl rfl) hd
  have e : QV.C05.realSpelling "1".toList true "5".toList none = "1.5".toList := by decide
  have hv : ¬ (2 ^ 64 ≤ QV.C05.Spec.posValue 10 (QV.C05.Spec.digitsOf "1".toList)) := by decide
  have hb : QV.DecF64.roundDec (QV.C05.realMantissa "1".toList "5".toList)
      (QV.C05.realExponent "5".toList none) = some 0x3FF8000000000000 := by decide
  rw [e] at h
  simp only [hv, if_false, hb] at h
  exact h

example : render ⟨fun _ => [], true⟩
    [.command .declare, .identifier "ro".toList, .dataType .bit, .lBracket, .integer 1, .rBracket, .newLine,
     .identifier "RX".toList, .lParenthesis, .operator .minus, .identifier "pi".toList, .operator .slash,
     .integer 2, .rParenthesis, .integer 0, .newLine, .indentation, .identifier "a".toList, .operator .minus,
     .variable "b".toList, .string "x\"y".toList] =
    "DECLARE ro BIT[1]\nRX(-pi/2)0\n\ta -%b\"x\\\"y\"".toList := by decide +kernel

end QV.Render
