import QV.Shared.ParseLemmas
import QV.Shared.FloatBits
/-
The token-level round trip "print an expression (`QV.ExprPrint`), parse it back (`QV.Parse`)", for every tree.  What
`parse` reads is first stated about tokens alone (`Primary`, `Operand`, `ReadsAt p`; their closure lemmas are the
grammar of what the printer writes); the induction on `e` then only assembles these along `printTop`, with `Prims` and
`Top` as its invariant.  The tree read back is `norm e`, not `e`: `eval_norm` says it has the same value.
A rule of one of these relations carries its name with a dot, whether it establishes the relation from what is
written (`Primary.address`, `Prims.call`, `Top.bin`) or draws from it (`Primary.operand`, `Operand.infix`, `Prims.top`);
a lemma in lower case (`primary_call`, `parseLoop_one`, `optPrefix_other`) is an equation of the parser FUNCTION of
that name on a form of input.
-/
namespace QV.ExprRoundTrip
open QV QV.Tok QV.Ast QV.Parse QV.ExprPrint

/-- what may follow a printed OPERAND: anything but the identifier `i` (a real literal would swallow it:
`parse_immediate_value` runs `opt(parse_i)`) and `[` (`pi` followed by `[` would be tried as a memory
reference). -/
def tailOk : List Token → Bool
  | [] => true
  | .identifier s :: _ => s != ['i']
  | .lBracket :: _ => false
  | _ => true

/-- the `while get_precedence(input) > precedence` loop of `parse` stops at `rest` -/
def stopsAt (p : Prec) : List Token → Bool
  | .operator o :: _ => decide (precOfOperator o ≤ p)
  | _ => true

/-- what may follow a printed EXPRESSION parsed by `parse_expression`: `tailOk` and not an operator -/
def endOk : List Token → Bool
  | [] => true
  | .operator _ :: _ => false
  | .identifier s :: _ => s != ['i']
  | .lBracket :: _ => false
  | _ => true

theorem endOk_tailOk {rest : List Token} (h : endOk rest = true) : tailOk rest = true := by
  unfold endOk at h; unfold tailOk; split at h <;> simp_all

theorem endOk_stopsAt {rest : List Token} (p : Prec) (h : endOk rest = true) : stopsAt p rest = true := by
  unfold endOk at h; unfold stopsAt; split at h <;> simp_all

theorem stopsAt_mono {p q : Prec} (hpq : p ≤ q) {rest : List Token} (h : stopsAt p rest = true) :
    stopsAt q rest = true := by
  cases rest with
  | nil => rfl
  | cons t r =>
    cases t <;> first | rfl | exact decide_eq_true (Nat.le_trans (of_decide_eq_true h) hpq)

/-- what may follow a real literal: `parse_immediate_value` would take an `i` (`opt(parse_i)`) to make it imaginary -/
def notI : List Token → Bool
  | .identifier s :: _ => s != ['i']
  | _ => true

theorem notI_of_tailOk {r : List Token} (h : tailOk r = true) : notI r = true := by
  unfold tailOk at h; unfold notI; split at h <;> simp_all

/-- the part of `parse` (expression.rs:80-96) between `opt(parse_prefix)` and the operator loop, before the prefix
operator is applied: `opt(parse_immediate_value)` and `parseOperand` in one (`parseBody_eq`) -/
def primary (rec : ExprRec) (input : List Token) : Outcome PExpr :=
  match opt parseImmediateValue input with
  | .ok imm input =>
    match imm with
    | some n => .ok (.number n) input
    | none =>
      match input with
      | [] => .err
      | .variable name :: remainder => .ok (.var (str name)) remainder
      | .identifier _ :: _ => parseExpressionIdentifier rec input
      | .lParenthesis :: remainder => parseGroupedExpression rec remainder
      | _ :: _ => .err
  | .err => .err | .fail => .fail | .crash w => .crash w

theorem parseBody_eq (rec : ExprRec) (input : List Token) (prec : Prec) :
    parseBody rec input prec =
      match opt parsePrefix input with
      | .ok pfx input =>
        match primary rec input with
        | .ok left input =>
          parseLoop rec prec (input.length + 1) input (match pfx with | some op => .pre op left | none => left)
        | .err => .err | .fail => .fail | .crash w => .crash w
      | .err => .err | .fail => .fail | .crash w => .crash w := by
  unfold parseBody primary
  cases opt parsePrefix input with
  | ok pfx i1 =>
    simp only
    cases opt parseImmediateValue i1 with
    | ok imm i2 => cases imm <;> rfl
    | err => rfl
    | fail => rfl
    | crash w => rfl
  | err => rfl
  | fail => rfl
  | crash w => rfl

theorem optPrefix_minus (r : List Token) :
    opt parsePrefix (.operator .minus :: r) = .ok (some .minus) r := rfl

theorem optPrefix_other (t : Token) (r : List Token) (h : t ≠ .operator .minus) :
    opt parsePrefix (t :: r) = .ok none (t :: r) := by
  apply opt_err
  cases t <;> first | rfl | (rename_i o; cases o <;> first | rfl | exact absurd rfl h)

theorem optParseI_of_notI {r : List Token} (h : notI r = true) : opt parseI r = .ok none r := by
  apply opt_err
  cases r with
  | nil => rfl
  | cons t r => cases t <;> simp_all [parseI, notI]

theorem tokBits_ne_minus {t : Token} {m : Nat} (h : tokBits t = some m) : t ≠ .operator .minus := by
  intro ht; subst ht; simp [tokBits] at h

theorem tokBits_not_num {t : Token} {m : Nat} (h : tokBits t = some m) :
    (∃ n, t = .integer n) ∨ (∃ b, t = .float b) := by
  cases t <;> simp [tokBits] at h <;> simp

theorem immediate_of_tokBits {t : Token} {m : Nat} (r : List Token) (ht : tokBits t = some m) :
    parseImmediateValue (t :: r) =
      match opt parseI r with
      | .ok none r' => .ok (CBits.real m) r'
      | .ok (some _) r' => .ok (CBits.imag m) r'
      | .err => .err | .fail => .fail | .crash w => .crash w := by
  cases t <;> simp [tokBits] at ht <;> subst ht <;> rfl

theorem imm_real {t : Token} {m : Nat} {r : List Token} (ht : tokBits t = some m) (hn : notI r = true) :
    parseImmediateValue (t :: r) = .ok (CBits.real m) r := by
  rw [immediate_of_tokBits r ht, optParseI_of_notI hn]

theorem imm_imag {t : Token} {m : Nat} (r : List Token) (ht : tokBits t = some m) :
    parseImmediateValue (t :: tokI :: r) = .ok (CBits.imag m) r := by
  rw [immediate_of_tokBits _ ht]; rfl

theorem imm_err {t : Token} (r : List Token) (ht : tokBits t = none) : parseImmediateValue (t :: r) = .err := by
  cases t <;> first | rfl | cases ht

theorem optImmediate_real {t : Token} {m : Nat} {r : List Token} (ht : tokBits t = some m)
    (hr : tailOk r = true) : opt parseImmediateValue (t :: r) = .ok (some (CBits.real m)) r :=
  opt_ok (imm_real ht (notI_of_tailOk hr))

theorem optImmediate_imag {t : Token} {m : Nat} {r : List Token} (ht : tokBits t = some m) :
    opt parseImmediateValue (t :: tokI :: r) = .ok (some (CBits.imag m)) r :=
  opt_ok (imm_imag r ht)

theorem optImmediate_real_op {t : Token} {m : Nat} (o : Operator) {r : List Token} (ht : tokBits t = some m) :
    opt parseImmediateValue (t :: .operator o :: r) = .ok (some (CBits.real m)) (.operator o :: r) :=
  optImmediate_real ht rfl

theorem parseLoop_stop {rec : ExprRec} {p : Prec} {k : Nat} {rest : List Token} {left : PExpr}
    (h : stopsAt p rest = true) : parseLoop rec p (k + 1) rest left = .ok left rest := by
  unfold parseLoop
  split
  · -- `get_precedence rest > p`: by `h` the head is not an operator, and on every other head the loop returns
    rename_i hgt
    cases rest with
    | nil => rfl
    | cons t r =>
      cases t <;> first
        | rfl
        | exact absurd hgt (Nat.not_lt.mpr (of_decide_eq_true h))
  · rfl

theorem parseLoop_one {rec : ExprRec} {p : Prec} {k : Nat} {o : Operator} {ts rest : List Token}
    {left right : PExpr} (hp : p < precOfOperator o)
    (h : rec ts (precOfOperator o) = .ok right rest) (hs : stopsAt p rest = true) :
    parseLoop rec p (k + 2) (.operator o :: ts) left = .ok (.bin left (infixOfOperator o) right) rest := by
  conv => lhs; unfold parseLoop
  simp [getPrecedence, precOfToken, hp, parseInfix, h, parseLoop_stop hs]

theorem infixOfOperator_opOf (o : InfixOp) : infixOfOperator (opOf o) = o := by cases o <;> rfl

theorem lowest_lt_prec (o : Operator) : Prec.lowest < precOfOperator o := by
  cases o <;> decide

theorem memRefBrackets_err (name : List Char) (rest : List Token)
    (h : ∀ r, rest ≠ .lBracket :: r) :
    parseMemoryReferenceWithBrackets (.identifier name :: rest) = .err := by
  cases rest with
  | nil => rfl
  | cons t r =>
    cases t <;> first | rfl | exact absurd rfl (h r)

theorem exprIdent_fn (rec : ExprRec) (f : ExprFn) (ts : List Token) :
    parseExpressionIdentifier rec (.identifier (fnName f) :: .lParenthesis :: ts) =
      parseFunctionCall rec f (.lParenthesis :: ts) := by
  cases f <;> rfl

theorem primary_call {rec : ExprRec} (f : ExprFn) {ts r : List Token} {e : PExpr}
    (h : rec ts Prec.lowest = .ok e (.rParenthesis :: r)) :
    primary rec (.identifier (fnName f) :: .lParenthesis :: ts) = .ok (.call f e) r := by
  show parseExpressionIdentifier rec (.identifier (fnName f) :: .lParenthesis :: ts) = _
  rw [exprIdent_fn]
  simp [parseFunctionCall, bind, Parser.bind, tok, h, pure, Parser.pure]

theorem primary_grouped {rec : ExprRec} {ts r : List Token} {e : PExpr}
    (h : rec ts Prec.lowest = .ok e (.rParenthesis :: r)) :
    primary rec (.lParenthesis :: ts) = .ok e r := by
  show parseGroupedExpression rec ts = _
  simp [parseGroupedExpression, h]

/-! ## what `parse` reads, as relations between tokens and trees

Three relations, none of which mentions the printer: `ts` is read as `e` by the part of `parse` between the prefix
operator and the operator loop (`Primary`), as the whole first operand (`Operand`), at precedence `p` (`ReadsAt`);
each whatever `tailOk` tokens follow and at every depth budget `≥ ts.length` (`parse` recurses only after consuming
a token).  The lemmas below are the grammar of what the printer writes: one infix operator per nesting level (the
printer parenthesises every nested infix node, so the operator loop runs at most once; `a - b - c` is outside it).
An instance at a literal token list comes as `[t] ++ rest`: `exact` sees through it, `rw` needs
`List.cons_append, List.nil_append` first. -/

def Primary (ts : List Token) (e : PExpr) : Prop :=
  ∀ d rest, ts.length ≤ d → tailOk rest = true → primary (parse d) (ts ++ rest) = .ok e rest

/-- `parse` then enters its operator loop on what follows, with `e` on the left -/
def Operand (ts : List Token) (e : PExpr) : Prop :=
  ∀ d rest p, ts.length ≤ d → tailOk rest = true →
    parse (d + 1) (ts ++ rest) p = parseLoop (parse d) p (rest.length + 1) rest e

def ReadsAt (p : Prec) (ts : List Token) (e : PExpr) : Prop :=
  ∀ d rest, ts.length ≤ d → tailOk rest = true → stopsAt p rest = true →
    parse (d + 1) (ts ++ rest) p = .ok e rest

theorem Primary.real {t : Token} {m : Nat} (ht : tokBits t = some m) : Primary [t] (.number (CBits.real m)) :=
  fun _ rest _ hr => by show primary _ (t :: rest) = _; unfold primary; rw [optImmediate_real ht hr]

theorem Primary.imag {t : Token} {m : Nat} (ht : tokBits t = some m) :
    Primary [t, tokI] (.number (CBits.imag m)) :=
  fun _ rest _ _ => by show primary _ (t :: tokI :: rest) = _; unfold primary; rw [optImmediate_imag ht]

/-- The token carries the characters, the tree the `String` the parser makes of them (`str`); for a name `x : String`
of a tree take `x.toList` and rewrite with `str_toList_eq` (as `Prims.var` does).  The same for `Primary.address`. -/
theorem Primary.var (x : List Char) : Primary [.variable x] (.var (str x)) :=
  fun _ _ _ _ => rfl

theorem Primary.address (name : List Char) (idx : Nat) :
    Primary [.identifier name, .lBracket, .integer idx, .rBracket] (.address ⟨str name, idx⟩) :=
  fun _ _ _ _ => rfl

theorem Primary.pi : Primary [tokPi] .pi := by
  intro d rest _ h
  have hb : ∀ r, rest ≠ .lBracket :: r := by
    intro r hr; subst hr; simp [tailOk] at h
  show parseExpressionIdentifier _ (.identifier ['p', 'i'] :: rest) = _
  unfold parseExpressionIdentifier
  rw [opt_err (memRefBrackets_err _ _ hb)]
  rfl

/-- `( ts )`.  This is one of the three places where the depth budget is spent: `parse` recurses only after
consuming a token (`(` here, a function name and `(` in `ReadsAt.call`, the operator in `Operand.infix`), which pays
for the call on `ts`. -/
theorem ReadsAt.group {ts : List Token} {e : PExpr} (h : ReadsAt Prec.lowest ts e) :
    Primary (.lParenthesis :: (ts ++ [.rParenthesis])) e := by
  intro d rest hd _
  simp only [List.length_cons, List.length_append, List.length_nil] at hd
  obtain ⟨d', rfl⟩ : ∃ d', d = d' + 1 := ⟨d - 1, by omega⟩
  simp only [List.cons_append, List.append_assoc, List.nil_append]
  exact primary_grouped (h d' _ (by omega) rfl rfl)

theorem ReadsAt.call (f : ExprFn) {ts : List Token} {e : PExpr} (h : ReadsAt Prec.lowest ts e) :
    Primary (.identifier (fnName f) :: .lParenthesis :: (ts ++ [.rParenthesis])) (.call f e) := by
  intro d rest hd _
  simp only [List.length_cons, List.length_append, List.length_nil] at hd
  obtain ⟨d', rfl⟩ : ∃ d', d = d' + 1 := ⟨d - 1, by omega⟩
  simp only [List.cons_append, List.append_assoc, List.nil_append]
  exact primary_call f (h d' _ (by omega) rfl rfl)

theorem parse_of_primary {d : Nat} {t : Token} {ts rest : List Token} {e : PExpr} (p : Prec)
    (hne : t ≠ .operator .minus) (h : primary (parse d) (t :: ts ++ rest) = .ok e rest) :
    parse (d + 1) (t :: ts ++ rest) p = parseLoop (parse d) p (rest.length + 1) rest e := by
  show parseBody (parse d) _ p = _
  rw [parseBody_eq, List.cons_append, optPrefix_other _ _ hne]
  simp only
  rw [← List.cons_append, h]

theorem parse_of_minus_primary {d : Nat} {ts rest : List Token} {e : PExpr} (p : Prec)
    (h : primary (parse d) (ts ++ rest) = .ok e rest) :
    parse (d + 1) (.operator .minus :: ts ++ rest) p =
      parseLoop (parse d) p (rest.length + 1) rest (.pre .minus e) := by
  show parseBody (parse d) _ p = _
  rw [parseBody_eq, List.cons_append, optPrefix_minus]
  simp only
  rw [h]

theorem Primary.operand {t : Token} {ts : List Token} {e : PExpr} (h : Primary (t :: ts) e)
    (hne : t ≠ .operator .minus) : Operand (t :: ts) e :=
  fun d rest p hd ht => parse_of_primary p hne (h d rest hd ht)

theorem Primary.neg {ts : List Token} {e : PExpr} (h : Primary ts e) :
    Operand (.operator .minus :: ts) (.pre .minus e) :=
  fun d rest p hd ht => parse_of_minus_primary p (h d rest (Nat.le_of_succ_le hd) ht)

theorem Operand.readsAt {ts : List Token} {e : PExpr} (h : Operand ts e) (p : Prec) : ReadsAt p ts e :=
  fun d rest hd ht hs => by rw [h d rest p hd ht, parseLoop_stop hs]

/-- Stated for the `Operator` of the token, as the parser sees it; for an `InfixOp` `o` of a tree instantiate at `opOf o`
and rewrite with `infixOfOperator_opOf` (as `Top.bin` does). -/
theorem Operand.infix {p : Prec} {l r : List Token} {a b : PExpr} {o : Operator} (hl : Operand l a)
    (hp : p < precOfOperator o) (hr : ReadsAt (precOfOperator o) r b) :
    ReadsAt p (l ++ .operator o :: r) (.bin a (infixOfOperator o) b) := by
  intro d rest hd ht hs
  simp only [List.length_cons, List.length_append] at hd
  simp only [List.append_assoc, List.cons_append]
  rw [hl d _ _ (by omega) rfl]
  obtain ⟨d', rfl⟩ : ∃ d', d = d' + 1 := ⟨d - 1, by omega⟩
  exact parseLoop_one hp (hr d' rest (by omega) ht (stopsAt_mono (Nat.le_of_lt hp) hs)) hs

/-- from the relation to the entry point `parse_expression`, at its own depth budget (`QV.Parse.budget`: one more than
the number of tokens it is given, the tail included) -/
theorem ReadsAt.parseExpression {ts : List Token} {e : PExpr} (h : ReadsAt Prec.lowest ts e) {rest : List Token}
    (he : endOk rest = true) : parseExpression (ts ++ rest) = .ok e rest :=
  h (ts ++ rest).length rest (by simp) (endOk_tailOk he) (endOk_stopsAt _ he)

/-! ## what the printer writes is read back

`Prims` and `Top` are proved together because each constructor needs the other of its parts: a call and a pair of
parentheses read their inside with `parse_expression` (`Top`), an infix operator and a prefix minus read their
operands as operands (`Prims`); `Prims.top` and `Top.prims` pass from one to the other according to `needsParens`. -/

/-- the operand (as written by `format_inner_expression`) read by the part of `parse` between the prefix
operator and the operator loop: either it does not begin with a minus sign and is read as `norm e`, or it
is a minus sign followed by something read as `e0` with `norm e = -e0`.  (The readings are `Primary (inner F e)
(norm e)` and `Primary body e0` written out; the second with the budget of the whole operand, one more than `body`
needs.) -/
structure Prims (F : NumFmt) (e : PExpr) : Prop where
  unsigned : startsWithMinus e = false →
    (∃ t ts, inner F e = t :: ts ∧ t ≠ .operator .minus) ∧
    ∀ d rest, (inner F e).length ≤ d → tailOk rest = true →
      primary (parse d) (inner F e ++ rest) = .ok (norm e) rest
  signed : startsWithMinus e = true →
    ∃ body e0, inner F e = .operator .minus :: body ∧ norm e = .pre .minus e0 ∧
      ∀ d rest, (inner F e).length ≤ d → tailOk rest = true →
        primary (parse d) (body ++ rest) = .ok e0 rest

/-- the expression as written by `Expression::write`, read by `parse_expression` -/
abbrev Top (F : NumFmt) (e : PExpr) : Prop := ReadsAt Prec.lowest (printTop F e) (norm e)

/-- `Operand (inner F e) (norm e)`, unfolded -/
theorem Prims.operand {F : NumFmt} {e : PExpr} (h : Prims F e) (d : Nat) (rest : List Token) (p : Prec)
    (hd : (inner F e).length ≤ d) (ht : tailOk rest = true) :
    parse (d + 1) (inner F e ++ rest) p = parseLoop (parse d) p (rest.length + 1) rest (norm e) := by
  cases hs : startsWithMinus e with
  | false =>
    obtain ⟨⟨t, ts, hts, hne⟩, hp⟩ := h.unsigned hs
    have h2 := hp d rest hd ht
    rw [hts] at h2 ⊢
    exact parse_of_primary p hne h2
  | true =>
    obtain ⟨body, e0, hb, hn, hp⟩ := h.signed hs
    rw [hb, hn]
    exact parse_of_minus_primary p (hp d rest hd ht)

theorem Prims.parse_inner {F : NumFmt} {e : PExpr} (h : Prims F e) : ∀ p, ReadsAt p (inner F e) (norm e) :=
  Operand.readsAt h.operand

def minusToks (s : Bool) : List Token := if s then [.operator .minus] else []

def negIf (s : Bool) (e : PExpr) : PExpr := if s then .pre .minus e else e

theorem Prims.of_signed {F : NumFmt} {e : PExpr} (s : Bool) {t : Token} {ts : List Token} {e0 : PExpr}
    (hin : inner F e = minusToks s ++ t :: ts) (hno : norm e = negIf s e0)
    (hsw : startsWithMinus e = s) (hne : t ≠ .operator .minus) (hp : Primary (t :: ts) e0) : Prims F e := by
  have hp' : ∀ d rest, (inner F e).length ≤ d → tailOk rest = true →
      primary (parse d) (t :: ts ++ rest) = .ok e0 rest := fun d rest hd ht =>
    hp d rest (by rw [hin, List.length_append] at hd; omega) ht
  cases s
  · refine ⟨fun _ => ⟨⟨t, ts, hin, hne⟩, fun d rest hd ht => ?_⟩, fun h => ?_⟩
    · rw [hno, hin]; exact hp' d rest hd ht
    · rw [hsw] at h; cases h
  · refine ⟨fun h => ?_, fun _ => ⟨_, e0, hin, hno, hp'⟩⟩
    rw [hsw] at h; cases h

theorem wrapIf_true (ts : List Token) : wrapIf true ts = .lParenthesis :: (ts ++ [.rParenthesis]) := rfl
theorem wrapIf_false (ts : List Token) : wrapIf false ts = ts := rfl

theorem inner_of_not_needsParens (F : NumFmt) {e : PExpr} (h : needsParens e = false) :
    inner F e = printTop F e := by
  simp [inner, wrapIf, h]

theorem inner_of_needsParens (F : NumFmt) {e : PExpr} (h : needsParens e = true) :
    inner F e = .lParenthesis :: (printTop F e ++ [.rParenthesis]) := by
  simp [inner, wrapIf, h]

theorem Prims.top {F : NumFmt} {e : PExpr} (h : Prims F e) (hn : needsParens e = false) : Top F e := by
  rw [Top, ← inner_of_not_needsParens F hn]; exact h.parse_inner _

theorem Top.prims {F : NumFmt} {e : PExpr} (h : Top F e) (hn : needsParens e = true)
    (hs : startsWithMinus e = false) : Prims F e :=
  .of_signed false (inner_of_needsParens F hn) rfl hs (by simp) h.group

theorem Prims.address (F : NumFmt) (r : MemRef) : Prims F (.address r) :=
  .of_signed false rfl (by rw [str_toList_eq]; rfl) rfl (by simp) (Primary.address r.name.toList r.index)

theorem Prims.pi (F : NumFmt) : Prims F .pi :=
  .of_signed false rfl rfl rfl (by simp [tokPi]) Primary.pi

theorem Prims.var (F : NumFmt) (x : String) : Prims F (.var x) :=
  .of_signed false rfl (by rw [str_toList_eq]; rfl) rfl (by simp) (Primary.var x.toList)

theorem Prims.call (F : NumFmt) (f : ExprFn) (x : PExpr) (hx : Top F x) : Prims F (.call f x) :=
  .of_signed false rfl rfl rfl (by simp) (hx.call f)

theorem Top.bin (F : NumFmt) (l : PExpr) (o : InfixOp) (r : PExpr) (hl : Prims F l) (hr : Prims F r) :
    Top F (.bin l o r) := by
  have h := Operand.infix hl.operand (lowest_lt_prec (opOf o)) (hr.parse_inner _)
  rwa [infixOfOperator_opOf] at h

theorem inner_prePlus (F : NumFmt) (x : PExpr) : inner F (.pre .plus x) = inner F x := by
  simp [inner, needsParens, printTop, prefixToks, wrapIf]

theorem inner_preMinus (F : NumFmt) (x : PExpr) :
    inner F (.pre .minus x) = .operator .minus :: wrapIf (startsWithMinus x) (inner F x) := by
  simp [inner, needsParens, printTop, prefixToks, wrapIf]

theorem Prims.prePlus (F : NumFmt) (x : PExpr) (hx : Prims F x) : Prims F (.pre .plus x) := by
  have hn : norm (.pre .plus x) = norm x := by simp [norm]
  have hs' : startsWithMinus (.pre .plus x) = startsWithMinus x := by simp [startsWithMinus]
  constructor
  · intro hs
    rw [hs'] at hs
    rw [inner_prePlus, hn]
    exact hx.unsigned hs
  · intro hs
    rw [hs'] at hs
    rw [inner_prePlus, hn]
    exact hx.signed hs

theorem Prims.preMinus (F : NumFmt) (x : PExpr) (hx : Prims F x) : Prims F (.pre .minus x) := by
  constructor
  · intro hs; simp [startsWithMinus] at hs
  · intro _
    refine ⟨_, norm x, inner_preMinus F x, by simp [norm], ?_⟩
    intro d rest hd ht
    rw [inner_preMinus] at hd
    cases hs : startsWithMinus x with
    | false =>
      simp only [hs, wrapIf_false, List.length_cons] at hd ⊢
      exact (hx.unsigned hs).2 d rest (by omega) ht
    | true =>
      simp only [hs, wrapIf_true, List.length_cons] at hd ⊢
      exact (hx.parse_inner Prec.lowest).group d rest (Nat.le_of_succ_le hd) ht

/-! ## numbers: sign and magnitude

`format_complex` writes a component as an optional minus sign and the text of its magnitude, and the parser reads
the minus sign as a prefix operator.  Literals are therefore described by the sign bit and `fAbs` of their
components; the shapes (zero, real only, imaginary only, both) are those of `format_complex`. -/

theorem signedToks_eq (f : Nat → Token) (b : Nat) :
    signedToks f b = minusToks (fSign b) ++ [f (fAbs b)] := by
  cases h : fSign b
  · simp [signedToks, minusToks, h, ← fAbs_of_not_sign h]
  · simp [signedToks, minusToks, h, ← fAbs_of_sign h]

@[elab_as_elim]
theorem plainLit_cases {motive : CBits → Prop} (zero : motive ⟨0, 0⟩)
    (real : ∀ re, plainBits re = true → re ≠ 0 → motive ⟨re, 0⟩)
    (imag : ∀ im, plainBits im = true → im ≠ 0 → motive ⟨0, im⟩)
    (sum : ∀ re im, plainBits re = true → re ≠ 0 → plainBits im = true → im ≠ 0 → motive ⟨re, im⟩)
    (z : CBits) (hre : plainBits z.re = true) (him : plainBits z.im = true) : motive z := by
  obtain ⟨re, im⟩ := z
  by_cases hr0 : re = 0 <;> by_cases hi0 : im = 0
  · subst hr0 hi0; exact zero
  · subst hr0; exact imag im him hi0
  · subst hi0; exact real re hre hr0
  · exact sum re im hre hr0 him hi0

theorem complexToks_real (F : NumFmt) {re : Nat} (hr : fZero re = false) :
    complexToks F ⟨re, 0⟩ = minusToks (fSign re) ++ [F.real (fAbs re)] := by
  simp [complexToks, hr, fZero_zero, signedToks_eq]

theorem complexToks_imag (F : NumFmt) {im : Nat} (hi : fZero im = false) :
    complexToks F ⟨0, im⟩ = minusToks (fSign im) ++ [F.imag (fAbs im), tokI] := by
  simp [complexToks, hi, fZero_zero, signedToks_eq]

theorem complexToks_sum (F : NumFmt) {re im : Nat} (hr : fZero re = false) (hi : fZero im = false)
    (hg : fGtZero im = !fSign im) :
    complexToks F ⟨re, im⟩ = complexToks F ⟨re, 0⟩ ++
      [.operator (if fSign im then .minus else .plus), F.imag (fAbs im), tokI] := by
  cases hs : fSign im <;> simp [complexToks, hr, hi, hg, hs, fZero_zero, signedToks_eq, minusToks]

/-- the two branches `numTree` takes on the sign of a component `mk b`, as sign and magnitude -/
theorem negIf_of_sign (mk : Nat → CBits) (b : Nat) :
    (if fSign b then .pre .minus (.number (mk (b - two63))) else .number (mk b) : PExpr) =
      negIf (fSign b) (.number (mk (fAbs b))) := by
  cases hs : fSign b
  · simp [negIf, ← fAbs_of_not_sign hs]
  · simp [negIf, ← fAbs_of_sign hs]

theorem numTree_real {re : Nat} (hr : fZero re = false) :
    numTree ⟨re, 0⟩ = negIf (fSign re) (.number ⟨fAbs re, 0⟩) := by
  simp [numTree, hr, fZero_zero, negIf_of_sign (⟨·, 0⟩)]

theorem numTree_imag {im : Nat} (hi : fZero im = false) :
    numTree ⟨0, im⟩ = negIf (fSign im) (.number ⟨0, fAbs im⟩) := by
  simp [numTree, hi, fZero_zero, negIf_of_sign (⟨0, ·⟩)]

theorem numTree_sum {re im : Nat} (hr : fZero re = false) (hi : fZero im = false)
    (hg : fGtZero im = !fSign im) :
    numTree ⟨re, im⟩ =
      .bin (numTree ⟨re, 0⟩) (if fSign im then .minus else .plus) (.number ⟨0, fAbs im⟩) := by
  cases hs : fSign im
  · simp [numTree, hr, hi, hg, hs, fZero_zero, ← fAbs_of_not_sign hs]
  · simp [numTree, hr, hi, hg, hs, fZero_zero]

theorem inner_real (F : NumFmt) (re : Nat) : inner F (.number ⟨re, 0⟩) = complexToks F ⟨re, 0⟩ := by
  simp [inner, needsParens, isPrintedAsInfix, printTop, wrapIf, fZero_zero]

theorem Prims.real (F : NumFmt) {re : Nat} (hre : plainBits re = true) (hr0 : re ≠ 0)
    (hR : tokBits (F.real (fAbs re)) = some (fAbs re)) : Prims F (.number ⟨re, 0⟩) := by
  obtain ⟨hz, _, hl⟩ := plain_nonzero hre hr0
  exact .of_signed (fSign re) (by rw [inner_real, complexToks_real F hz]) (numTree_real hz)
    (by simp [startsWithMinus, isPrintedAsInfix, fZero_zero, hz, hl]) (tokBits_ne_minus hR) (.real hR)

theorem roundtrip_number (F : NumFmt) (z : CBits) (hre : plainBits z.re = true) (him : plainBits z.im = true)
    (hn : numTokOkAt F z = true) : Prims F (.number z) ∧ Top F (.number z) := by
  have simple : ∀ {z}, isPrintedAsInfix z = false → Prims F (.number z) → Prims F (.number z) ∧ Top F (.number z) :=
    fun hs hp => ⟨hp, hp.top (by simp [needsParens, hs])⟩
  simp only [numTokOkAt, Bool.and_eq_true, beq_iff_eq] at hn
  revert hn
  refine plainLit_cases (fun _ => ?_) (fun re hre hr0 hn => ?_) (fun im him hi0 hn => ?_)
    (fun re im hre hr0 him hi0 hn => ?_) z hre him
  · exact simple rfl (.of_signed false rfl rfl rfl (by simp) (.real (show tokBits (.integer 0) = some 0 by decide)))
  · exact simple (by simp [isPrintedAsInfix, fZero_zero]) (Prims.real F hre hr0 hn.1)
  · obtain ⟨hz, _, hl⟩ := plain_nonzero him hi0
    exact simple (by simp [isPrintedAsInfix, fZero_zero]) (.of_signed (fSign im)
      (by simp [inner, needsParens, isPrintedAsInfix, printTop, wrapIf, fZero_zero, complexToks_imag, hz])
      (numTree_imag hz) (by simp [startsWithMinus, isPrintedAsInfix, fZero_zero, hl])
      (tokBits_ne_minus hn.2) (.imag hn.2))
  · -- printed as a sum or difference: the real part is the left operand, the imaginary part the right one
    obtain ⟨hzr, -, -⟩ := plain_nonzero hre hr0
    obtain ⟨hzi, hg, -⟩ := plain_nonzero him hi0
    have hs : isPrintedAsInfix ⟨re, im⟩ = true := by simp [isPrintedAsInfix, hzr, hzi]
    have h := Operand.infix (Prims.real F hre hr0 hn.1).operand
      (lowest_lt_prec (if fSign im then .minus else .plus))
      (((Primary.imag hn.2).operand (tokBits_ne_minus hn.2)).readsAt _)
    have ht : Top F (.number ⟨re, im⟩) := by
      show ReadsAt _ (complexToks F ⟨re, im⟩) (numTree ⟨re, im⟩)
      rw [complexToks_sum F hzr hzi hg, numTree_sum hzr hzi hg, ← inner_real]
      cases hsi : fSign im <;> rw [hsi] at h <;> exact h
    exact ⟨ht.prims (by simp [needsParens, hs]) (by simp [startsWithMinus, hs]), ht⟩

theorem roundtrip (F : NumFmt) : ∀ e : PExpr, finiteLits e = true → numTokOk F e = true →
    Prims F e ∧ Top F e := by
  intro e hf hn
  induction e with
  | address r => exact ⟨Prims.address F r, (Prims.address F r).top rfl⟩
  | call f x ih =>
    have hp := Prims.call F f x (ih hf hn).2
    exact ⟨hp, hp.top rfl⟩
  | bin l o r ihl ihr =>
    have hf := Bool.and_eq_true_iff.mp hf
    have hn := Bool.and_eq_true_iff.mp hn
    have ht := Top.bin F l o r (ihl hf.1 hn.1).1 (ihr hf.2 hn.2).1
    exact ⟨ht.prims rfl rfl, ht⟩
  | number z =>
    have hf := Bool.and_eq_true_iff.mp hf
    exact roundtrip_number F z hf.1 hf.2 hn
  | pi => exact ⟨Prims.pi F, (Prims.pi F).top rfl⟩
  | pre op x ih =>
    cases op with
    | plus => have hp := Prims.prePlus F x (ih hf hn).1; exact ⟨hp, hp.top rfl⟩
    | minus => have hp := Prims.preMinus F x (ih hf hn).1; exact ⟨hp, hp.top rfl⟩
  | var x => exact ⟨Prims.var F x, (Prims.var F x).top rfl⟩

/-- What `Expression::write` produces for `e` is read back by `parse(input, Precedence::Lowest)` (the body of
`parse_expression`) as `norm e`, whatever `endOk` tokens follow: the tail is what the round trips of instructions
need. -/
theorem parse_printTop (F : NumFmt) (e : PExpr) (hf : finiteLits e = true) (hn : numTokOk F e = true)
    (d : Nat) (rest : List Token) (hd : (printTop F e).length ≤ d) (he : endOk rest = true) :
    parse (d + 1) (printTop F e ++ rest) Prec.lowest = .ok (norm e) rest :=
  (roundtrip F e hf hn).2 d rest hd (endOk_tailOk he) (endOk_stopsAt _ he)

theorem parseExpressionAt_printTop (F : NumFmt) (e : PExpr) (hf : finiteLits e = true)
    (hn : numTokOk F e = true) (d : Nat) (rest : List Token) (hd : (printTop F e).length < d)
    (he : endOk rest = true) :
    parseExpressionAt d (printTop F e ++ rest) = .ok (norm e) rest := by
  obtain ⟨d', rfl⟩ : ∃ d', d = d' + 1 := ⟨d - 1, by omega⟩
  exact parse_printTop F e hf hn d' rest (by omega) he

/-- What `format_inner_expression` writes is read back at ANY precedence; the top-level form only at the lowest
(`a+b` read at product precedence stops after `a`). -/
theorem parse_inner (F : NumFmt) (e : PExpr) (hf : finiteLits e = true) (hn : numTokOk F e = true)
    (d : Nat) (rest : List Token) (p : Prec) (hd : (inner F e).length ≤ d) (ht : tailOk rest = true)
    (hs : stopsAt p rest = true) :
    parse (d + 1) (inner F e ++ rest) p = .ok (norm e) rest :=
  (roundtrip F e hf hn).1.parse_inner p d rest hd ht hs

theorem parseExpression_printTop (F : NumFmt) (e : PExpr) (hf : finiteLits e = true) (hn : numTokOk F e = true)
    (rest : List Token) (he : endOk rest = true) :
    parseExpression (printTop F e ++ rest) = .ok (norm e) rest :=
  (roundtrip F e hf hn).2.parseExpression he

/-- `Expression::from_str` after lexing: no left-over tokens, so `disallow_leftover` passes -/
theorem parseExpressionStr_printTop (F : NumFmt) (e : PExpr) (hf : finiteLits e = true)
    (hn : numTokOk F e = true) : parseExpressionStr (printTop F e) = .ok (norm e) [] := by
  have h := parseExpression_printTop F e hf hn [] rfl
  rw [List.append_nil] at h
  simp [parseExpressionStr, h, disallowLeftover]

/-! ## values: the re-parsed tree denotes what the original denotes

Expressions carry bit patterns; their value in a scalar type `K` is given through a denotation
`den : CBits → K` of literals.  The only places where `norm e` differs from `e` in a way that matters for
evaluation are literals (`numTree`); the few facts relating the denotation of a literal to the denotations
of its parts are the `LitLaws`.  They hold in exact arithmetic (`QV.C03`: an instance over the Gaussian
integers) and, bit for bit, for IEEE doubles with `negate(x) = 0 - x` (checked by the C03 driver on every
literal of every generated case). -/

def evalP {K : Type} [Scalar K] (den : CBits → K) (ρ : VarEnv K) (μ : MemEnv K) (e : PExpr) :
    Except EvalError K :=
  eval ρ μ (e.mapNum den)

/-- how the denotation of a literal relates to the denotations of its parts (`x`, `y` range over plain
doubles: finite, not `-0.0`) -/
structure LitLaws (K : Type) [Scalar K] (den : CBits → K) : Prop where
  /-- `-x` is `negate(x)`: a negative real literal -/
  negRe : ∀ b, plainBits b = true → two63 < b → den ⟨b, 0⟩ = Scalar.neg (den ⟨b - two63, 0⟩)
  /-- a negative imaginary literal -/
  negIm : ∀ b, plainBits b = true → two63 < b → den ⟨0, b⟩ = Scalar.neg (den ⟨0, b - two63⟩)
  /-- `x+yi` is `x + (yi)` -/
  addIm : ∀ re im, plainBits re = true → plainBits im = true → re ≠ 0 → 0 < im → im < two63 →
    den ⟨re, im⟩ = Scalar.add (den ⟨re, 0⟩) (den ⟨0, im⟩)
  /-- `x-yi` is `x - (yi)` -/
  subIm : ∀ re im, plainBits re = true → plainBits im = true → re ≠ 0 → two63 < im →
    den ⟨re, im⟩ = Scalar.sub (den ⟨re, 0⟩) (den ⟨0, im - two63⟩)

section Values
variable {K : Type} [Scalar K] {den : CBits → K}

theorem evalP_bin (ρ : VarEnv K) (μ : MemEnv K) (a b : PExpr) (o : InfixOp) {x y : K}
    (ha : evalP den ρ μ a = .ok x) (hb : evalP den ρ μ b = .ok y) :
    evalP den ρ μ (.bin a o b) = .ok (calcInfix x o y) := by
  simp only [evalP, Expr.mapNum, eval] at ha hb ⊢
  rw [ha, hb]

/-- `mk` is `⟨·, 0⟩` or `⟨0, ·⟩`, `hneg` the law for that component (`negRe` resp. `negIm`) -/
theorem evalP_signed (ρ : VarEnv K) (μ : MemEnv K) (mk : Nat → CBits) {b : Nat} (hb : plainBits b = true)
    (h0 : b ≠ 0) (hneg : two63 < b → den (mk b) = Scalar.neg (den (mk (b - two63)))) :
    evalP den ρ μ (negIf (fSign b) (.number (mk (fAbs b)))) = .ok (den (mk b)) := by
  rcases plain_pos_or_neg b hb h0 with ⟨_, _, hs⟩ | ⟨hlt, hs⟩
  · rw [hs, ← fAbs_of_not_sign hs]; rfl
  · rw [hs, ← fAbs_of_sign hs, hneg hlt]; rfl

theorem eval_numTree (L : LitLaws K den) (ρ : VarEnv K) (μ : MemEnv K) (z : CBits)
    (hre : plainBits z.re = true) (him : plainBits z.im = true) :
    evalP den ρ μ (numTree z) = .ok (den z) := by
  refine plainLit_cases rfl (fun re hre hr0 => ?_) (fun im him hi0 => ?_) (fun re im hre hr0 him hi0 => ?_)
    z hre him
  · rw [numTree_real (plain_nonzero hre hr0).1]; exact evalP_signed ρ μ (⟨·, 0⟩) hre hr0 (L.negRe re hre)
  · rw [numTree_imag (plain_nonzero him hi0).1]; exact evalP_signed ρ μ (⟨0, ·⟩) him hi0 (L.negIm im him)
  · obtain ⟨hzi, hg, -⟩ := plain_nonzero him hi0
    rw [numTree_sum (plain_nonzero hre hr0).1 hzi hg, numTree_real (plain_nonzero hre hr0).1,
      evalP_bin ρ μ _ _ _ (evalP_signed ρ μ (⟨·, 0⟩) hre hr0 (L.negRe re hre))
        (y := den ⟨0, fAbs im⟩) rfl]
    rcases plain_pos_or_neg im him hi0 with ⟨hp, hlt, hs⟩ | ⟨hlt, hs⟩
    · rw [hs, ← fAbs_of_not_sign hs, L.addIm re im hre him hr0 hp hlt]; rfl
    · rw [hs, ← fAbs_of_sign hs, L.subIm re im hre him hr0 hlt]; rfl

/-- **The re-parsed tree denotes the same value** under every assignment of variables and memory. -/
theorem eval_norm (L : LitLaws K den) (ρ : VarEnv K) (μ : MemEnv K) :
    ∀ e : PExpr, finiteLits e = true → evalP den ρ μ (norm e) = evalP den ρ μ e := by
  intro e hf
  induction e with
  | number z =>
    have hf := Bool.and_eq_true_iff.mp hf
    exact eval_numTree L ρ μ z hf.1 hf.2
  | call f x ih =>
    have hx := ih hf
    simp only [evalP, norm, Expr.mapNum, eval] at hx ⊢
    rw [hx]
  | bin l o r ihl ihr =>
    have hf := Bool.and_eq_true_iff.mp hf
    have hl := ihl hf.1
    have hr := ihr hf.2
    simp only [evalP, norm, Expr.mapNum, eval] at hl hr ⊢
    rw [hl, hr]
  | pre op x ih =>
    have hx := ih hf
    simp only [evalP] at hx
    cases op with
    | plus =>
      simp only [evalP, norm, Expr.mapNum, eval, hx]
      cases eval ρ μ (Expr.mapNum den x) <;> rfl
    | minus => simp only [evalP, norm, Expr.mapNum, eval, hx]
  | _ => rfl

end Values

/-! ## the normal form: trees of the parser's shape are fixed points of `norm` -/

/-- the shape of the trees `parse_expression` produces from printed text: no prefix plus; every literal is
a non-negative real `⟨x, +0⟩` or a non-negative imaginary `⟨+0, y⟩`.  (Only the sign bit is asked of a magnitude,
`< two63`: that is all `norm_eq_self` needs.) -/
def parserShaped : PExpr → Bool
  | .call _ e => parserShaped e
  | .bin l _ r => parserShaped l && parserShaped r
  | .number z => (z.im == 0 && decide (z.re < two63)) || (z.re == 0 && decide (z.im < two63))
  | .pre .plus _ => false
  | .pre .minus e => parserShaped e
  | _ => true

theorem numTree_eq_self (z : CBits)
    (h : ((z.im == 0 && decide (z.re < two63)) || (z.re == 0 && decide (z.im < two63))) = true) :
    numTree z = .number z := by
  obtain ⟨re, im⟩ := z
  simp only [Bool.or_eq_true, Bool.and_eq_true, beq_iff_eq, decide_eq_true_eq] at h
  have pos : ∀ b, b < two63 → b ≠ 0 → fZero b = false ∧ fSign b = false := fun b hlt h0 => by
    have h63 : two63 = 9223372036854775808 := rfl
    simp [fZero, fSign, h63] at hlt ⊢; omega
  rcases h with ⟨rfl, hlt⟩ | ⟨rfl, hlt⟩
  · by_cases h0 : re = 0
    · subst h0; rfl
    · obtain ⟨hz, hs⟩ := pos re hlt h0
      rw [numTree_real hz, hs, ← fAbs_of_not_sign hs]; rfl
  · by_cases h0 : im = 0
    · subst h0; rfl
    · obtain ⟨hz, hs⟩ := pos im hlt h0
      rw [numTree_imag hz, hs, ← fAbs_of_not_sign hs]; rfl

theorem norm_eq_self : ∀ e : PExpr, parserShaped e = true → norm e = e := by
  intro e h
  induction e with
  | call f x ih => exact congrArg (Expr.call f) (ih h)
  | bin l o r ihl ihr =>
    have h := Bool.and_eq_true_iff.mp h
    show Expr.bin (norm l) o (norm r) = _
    rw [ihl h.1, ihr h.2]
  | number z => exact numTree_eq_self z h
  | pre op x ih =>
    cases op with
    | plus => cases h
    | minus => exact congrArg (Expr.pre .minus) (ih h)
  | _ => rfl

theorem parserShaped_negIf (s : Bool) (e : PExpr) : parserShaped (negIf s e) = parserShaped e := by
  cases s <;> rfl

theorem numTree_parserShaped (z : CBits) (hre : plainBits z.re = true) (him : plainBits z.im = true) :
    parserShaped (numTree z) = true := by
  refine plainLit_cases (by decide) (fun re hre hr0 => ?_) (fun im him hi0 => ?_)
    (fun re im hre hr0 him hi0 => ?_) z hre him
  · rw [numTree_real (plain_nonzero hre hr0).1, parserShaped_negIf]; simp [parserShaped, fAbs_lt hre]
  · rw [numTree_imag (plain_nonzero him hi0).1, parserShaped_negIf]; simp [parserShaped, fAbs_lt him]
  · obtain ⟨hzi, hg, -⟩ := plain_nonzero him hi0
    rw [numTree_sum (plain_nonzero hre hr0).1 hzi hg, numTree_real (plain_nonzero hre hr0).1]
    simp [parserShaped, parserShaped_negIf, fAbs_lt hre, fAbs_lt him]

theorem norm_parserShaped : ∀ e : PExpr, finiteLits e = true → parserShaped (norm e) = true := by
  intro e h
  induction e with
  | call f x ih => exact ih h
  | bin l o r ihl ihr =>
    have h := Bool.and_eq_true_iff.mp h
    exact Bool.and_eq_true_iff.mpr ⟨ihl h.1, ihr h.2⟩
  | number z =>
    have h := Bool.and_eq_true_iff.mp h
    exact numTree_parserShaped z h.1 h.2
  | pre op x ih => cases op <;> exact ih h
  | _ => rfl

/-- a second print → parse round changes nothing -/
theorem norm_norm (e : PExpr) (h : finiteLits e = true) : norm (norm e) = norm e :=
  norm_eq_self _ (norm_parserShaped e h)

/-! ## names: the lexer's classification changes nothing unless a region is named like a reserved word -/

theorem relex_operator (o : Operator) : relex (.operator o) = .operator o := rfl
theorem relex_integer (n : Nat) : relex (.integer n) = .integer n := rfl
theorem relex_float (b : Nat) : relex (.float b) = .float b := rfl
theorem relex_variable (x : List Char) : relex (.variable x) = .variable x := rfl
theorem relex_lParenthesis : relex .lParenthesis = .lParenthesis := rfl
theorem relex_rParenthesis : relex .rParenthesis = .rParenthesis := rfl
theorem relex_lBracket : relex .lBracket = .lBracket := rfl
theorem relex_rBracket : relex .rBracket = .rBracket := rfl

/-- the names the expression printer itself writes are not reserved words (one walk through the lexer's tables) -/
theorem exprNames_not_reserved :
    ∀ s ∈ [['i'], ['p', 'i'], fnName .cis, fnName .cos, fnName .exp, fnName .sin, fnName .sqrt],
      isReservedWord s = false := by
  decide +kernel

theorem relex_tokI : relex tokI = tokI :=
  keywordOrIdentifier_eq_identifier ['i'] (exprNames_not_reserved _ (by simp))
theorem relex_tokPi : relex tokPi = tokPi :=
  keywordOrIdentifier_eq_identifier ['p', 'i'] (exprNames_not_reserved _ (by simp))
theorem relex_fnName (f : ExprFn) : relex (.identifier (fnName f)) = .identifier (fnName f) :=
  keywordOrIdentifier_eq_identifier _ (exprNames_not_reserved _ (by cases f <;> simp))

theorem relex_stdReal (b : Nat) : relex (stdFmt.real b) = stdFmt.real b := by
  simp only [stdFmt]
  cases intValue? b with
  | none => rfl
  | some n => simp only; split <;> rfl

theorem relex_stdImag (b : Nat) : relex (stdFmt.imag b) = stdFmt.imag b := rfl

theorem map_relex_signedToks (f : Nat → Token) (hf : ∀ b, relex (f b) = f b) (b : Nat) :
    (signedToks f b).map relex = signedToks f b := by
  simp only [signedToks]; split <;> simp [relex_operator, hf]

theorem map_relex_complexToks (z : CBits) : (complexToks stdFmt z).map relex = complexToks stdFmt z := by
  simp only [complexToks]
  split
  · rfl
  · split
    · exact map_relex_signedToks _ relex_stdReal _
    · split
      · simp [map_relex_signedToks _ relex_stdImag, relex_tokI]
      · split <;> simp [map_relex_signedToks _ relex_stdReal, map_relex_signedToks _ relex_stdImag, relex_tokI,
          relex_operator]

theorem map_relex_wrapIf (b : Bool) (ts : List Token) :
    (wrapIf b ts).map relex = wrapIf b (ts.map relex) := by
  cases b <;> simp [wrapIf, relex_lParenthesis, relex_rParenthesis]

theorem printExprTokens_eq : ∀ e : PExpr, plainNames e = true → printExprTokens e = printTop stdFmt e := by
  intro e h
  unfold printExprTokens
  induction e with
  | address r =>
    have hr : isReservedWord r.name.toList = false := by simpa [plainNames, allAddrs] using h
    have h1 : relex (.identifier r.name.toList) = .identifier r.name.toList := keywordOrIdentifier_eq_identifier _ hr
    simp [printTop, h1, relex_lBracket, relex_rBracket, relex_integer]
  | call f x ih => simp [printTop, ih h, relex_fnName, relex_lParenthesis, relex_rParenthesis]
  | bin l o r ihl ihr =>
    have h := Bool.and_eq_true_iff.mp h
    simp [printTop, map_relex_wrapIf, ihl h.1, ihr h.2, relex_operator]
  | number z => exact map_relex_complexToks z
  | pi => simp [printTop, relex_tokPi]
  | pre op x ih => cases op <;> simp [printTop, prefixToks, map_relex_wrapIf, ih h, relex_operator]
  | var x => rfl

end QV.ExprRoundTrip
