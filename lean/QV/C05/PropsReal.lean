import QV.C05.Props
/-
C05, part 2 — real literals: extent and value of every real literal spelling (unbounded).
The spelling is assembled from its parts (`realSpelling`), which is the specification's grammar for real
literals in constructive form; `floatExtent_real`, `C05_real_literal` and `C05_classify_realSpelling(_full)`
are the property statements.
-/
namespace QV.C05
open QV.Tok QV.Lex

def optDigitString (s : List Char) : Bool := s.isEmpty || Spec.isDigitString 10 s

theorem optDigitString_spec (s : List Char) (h : optDigitString s = true) :
    (s = [] ∨ Spec.isDigitString 10 s = true) := by
  cases s with
  | nil => exact Or.inl rfl
  | cons c cs => right; simpa [optDigitString] using h

private theorem optDigitString_all (s : List Char) (h : optDigitString s = true) :
    ∀ c ∈ s, c = '_' ∨ Spec.digitVal c < 10 := by
  cases s with
  | nil => simp
  | cons c cs =>
    exact ((isDigitString_cons 10 c cs).1 ((optDigitString_spec _ h).resolve_left (List.cons_ne_nil _ _))).2

private theorem runDigits_opt (s : List Char) (hs : optDigitString s = true) : runDigits s = Spec.digitsOf s :=
  runDigits_eq 10 (by omega) s (optDigitString_all s hs)

private theorem optDigitString_head (s : List Char) (hs : optDigitString s = true) :
    ∀ c r, s = c :: r → isAsciiDigit c = true := by
  intro c r e
  subst e
  exact isAsciiDigit_of_digitVal c
    ((isDigitString_cons 10 c r).1 ((optDigitString_spec _ hs).resolve_left (List.cons_ne_nil _ _))).1

def signChars : Option Bool → List Char
  | none => []
  | some false => ['+']
  | some true => ['-']

def signNeg : Option Bool → Bool
  | some true => true
  | _ => false

def expNegOf : Option (Char × Option Bool × List Char) → Bool
  | some (_, sg, _) => signNeg sg
  | none => false
def expRunOf : Option (Char × Option Bool × List Char) → List Char
  | some (_, _, ep) => ep
  | none => []

def expText : Option (Char × Option Bool × List Char) → List Char
  | some (E, sg, ep) => E :: signChars sg ++ ep
  | none => []

/-- an exponent part as spelled: marker, optional sign (`true` = `-`), digits -/
abbrev ExpPart := Char × Option Bool × List Char

abbrev ExpOk (exp : Option ExpPart) : Prop :=
  ∀ E sg ep, exp = some (E, sg, ep) → (E = 'e' ∨ E = 'E') ∧ Spec.isLooseDigitString 10 ep = true

def realSpelling (ip : List Char) (dot : Bool) (fp : List Char) (exp : Option (Char × Option Bool × List Char)) :
    List Char :=
  ip ++ (if dot then '.' :: fp else []) ++ expText exp

private theorem stops_num10_cons (c : Char) (r : List Char) (h : isNumChar 10 c = false) :
    stops (isNumChar 10) (c :: r) = true := by simp [h]

private theorem not_numChar10_not_digit (c : Char) (hc : isNumChar 10 c = false) : isAsciiDigit c = false := by
  cases hd : isAsciiDigit c with
  | false => rfl
  | true =>
    simp only [isAsciiDigit, Bool.and_eq_true, decide_eq_true_eq] at hd
    have : digitOf c < 10 := by simp only [digitOf, hd, and_self, if_true]; omega
    simp [isNumChar, isDigitIn, this] at hc

private theorem floatIntPart_eq (ip t : List Char) (hip : optDigitString ip = true)
    (ht : stops (isNumChar 10) t = true) : floatIntPart (ip ++ t) = (ip, t) := by
  cases ip with
  | nil =>
    cases t with
    | nil => rfl
    | cons c r =>
      have hc : isNumChar 10 c = false := by simpa using ht
      simp [floatIntPart, not_numChar10_not_digit c hc]
  | cons c cs =>
    have hc := optDigitString_head _ hip c cs rfl
    have := numRun_append 10 (by omega) (c :: cs) t (optDigitString_all _ hip) ht
    simp only [List.cons_append] at this ⊢
    simp [floatIntPart, hc, this]

private theorem floatFracPart_dot (fp t : List Char) (hfp : optDigitString fp = true)
    (ht : stops (isNumChar 10) t = true) : floatFracPart ('.' :: (fp ++ t)) = (true, fp, t) := by
  simp [floatFracPart, numRun_append 10 (by omega) fp t (optDigitString_all fp hfp) ht]

private theorem floatFracPart_nodot (t : List Char) (h : ∀ r, t ≠ '.' :: r) : floatFracPart t = (false, [], t) := by
  unfold floatFracPart
  split
  · rename_i r2; exact absurd rfl (h r2)
  · rfl

private theorem ExpOk.cases {motive : (exp : Option ExpPart) → ExpOk exp → Prop}
    (none : motive none (fun _ _ _ h => nomatch h))
    (some : ∀ E sg ep (hE : E = 'e' ∨ E = 'E') (hep : Spec.isLooseDigitString 10 ep = true),
      motive (some (E, sg, ep)) (fun _ _ _ h => by cases h; exact ⟨hE, hep⟩))
    (exp : Option ExpPart) (hexp : ExpOk exp) : motive exp hexp := by
  cases exp with
  | none => exact none
  | some t => obtain ⟨E, sg, ep⟩ := t; exact some E sg ep (hexp E sg ep rfl).1 (hexp E sg ep rfl).2

private theorem expTail_head (exp : Option ExpPart) (hexp : ExpOk exp) (rest : List Char) (hr : numStop rest = true) :
    ∀ d r, expText exp ++ rest = d :: r → isNumChar 10 d = false ∧ d ≠ '.' := by
  intro d r e
  induction exp, hexp using ExpOk.cases with
  | none => exact ⟨(numStop_head _ hr d r e).1, (numStop_head _ hr d r e).2.1⟩
  | some E sg ep hE _ =>
    obtain ⟨rfl, _⟩ := List.cons.inj e
    rcases hE with rfl | rfl <;> decide

private theorem expTail_stops (exp : Option ExpPart) (hexp : ExpOk exp) (rest : List Char) (hr : numStop rest = true) :
    stops (isNumChar 10) (expText exp ++ rest) = true := by
  cases h : expText exp ++ rest with
  | nil => rfl
  | cons d r => simp [(expTail_head exp hexp rest hr d r h).1]

private theorem expText_all (exp : Option ExpPart) (hexp : ExpOk exp) (P : Char → Prop)
    (he : P 'e') (hE : P 'E') (hp : P '+') (hm : P '-') (hd : ∀ c, c = '_' ∨ Spec.digitVal c < 10 → P c) :
    ∀ c ∈ expText exp, P c := by
  intro c hc
  induction exp, hexp using ExpOk.cases with
  | none => cases hc
  | some E sg ep hEe hep =>
    simp only [expText, List.cons_append, List.mem_cons, List.mem_append] at hc
    rcases hc with rfl | hc | hc
    · rcases hEe with rfl | rfl <;> assumption
    · rcases sg with _ | _ | _ <;> simp [signChars] at hc <;> subst hc <;> assumption
    · exact hd c ((isLoose_all 10 ep hep).1 c hc)

private theorem floatExpPart_none (rest : List Char) (hr : numStop rest = true) :
    floatExpPart rest = some (none, rest) := by
  cases rest with
  | nil => rfl
  | cons d r =>
    obtain ⟨_, _, he, hE, _⟩ := numStop_head _ hr d r rfl
    simp [floatExpPart, he, hE]

private theorem floatExpPart_some (E : Char) (sg : Option Bool) (ep rest : List Char) (hE : E = 'e' ∨ E = 'E')
    (hep : Spec.isLooseDigitString 10 ep = true) (hr : numStop rest = true) :
    floatExpPart (E :: (signChars sg ++ (ep ++ rest))) = some (some (signNeg sg, ep), rest) := by
  obtain ⟨hrun, hne, hd⟩ := numRun_loose 10 (by omega) ep rest hep (numStop_stops_num10 rest hr)
  have hdne : runDigits ep ≠ [] := hd ▸ isLoose_digits 10 (by omega) ep hep
  cases sg with
  | none =>
    cases ep with
    | nil => exact absurd rfl hne
    | cons c r =>
      have hall := (isLoose_all 10 (c :: r) hep).1 c (by simp)
      have h1 : c ≠ '+' := numChar10_ne c hall _ (by decide)
      have h2 : c ≠ '-' := numChar10_ne c hall _ (by decide)
      have hns : expSign ((c :: r) ++ rest) = (false, (c :: r) ++ rest) := by
        simp only [List.cons_append]
        unfold expSign
        split <;> simp_all
      simp only [floatExpPart, signChars, List.nil_append, hE, if_true, hns, hrun, hdne, if_false, signNeg]
  | some b =>
    cases b <;> simp only [floatExpPart, expSign, signChars, List.cons_append, List.nil_append, hE, if_true, hrun,
      hdne, if_false, signNeg]

private theorem floatExpPart_expText (exp : Option ExpPart) (hexp : ExpOk exp) (rest : List Char)
    (hr : numStop rest = true) :
    floatExpPart (expText exp ++ rest) = some (exp.map fun (_, sg, ep) => (signNeg sg, ep), rest) := by
  induction exp, hexp using ExpOk.cases with
  | none => exact floatExpPart_none rest hr
  | some E sg ep hE hep => simpa [expText] using floatExpPart_some E sg ep rest hE hep hr

/-- **the extent of a real literal**: on the spelling assembled from an optional integer digit string, an
optional `.` + optional fraction digit string, and an optional exponent (`e`/`E`, optional sign, digit
string with separators anywhere), with at least one mantissa digit, followed by text that does not continue
a number (`numStop`), lexical's float grammar consumes exactly the spelling and splits it into exactly these
components. -/
theorem floatExtent_real (ip fp : List Char) (dot : Bool) (exp : Option (Char × Option Bool × List Char))
    (rest : List Char)
    (hip : optDigitString ip = true) (hfp : optDigitString fp = true) (hdot : dot = false → fp = [])
    (hm : Spec.digitsOf ip ++ Spec.digitsOf fp ≠ [])
    (hexp : ExpOk exp)
    (hr : numStop rest = true) :
    floatExtent (realSpelling ip dot fp exp ++ rest) =
      some (⟨ip, dot, fp, exp.isSome, expNegOf exp, expRunOf exp⟩, rest) := by
  have htail := expTail_stops exp hexp rest hr
  have hdig : runDigits ip ++ runDigits fp ≠ [] := by
    rw [runDigits_opt ip hip, runDigits_opt fp hfp]; exact hm
  have hshape : realSpelling ip dot fp exp ++ rest =
      ip ++ ((if dot then '.' :: fp else []) ++ (expText exp ++ rest)) := by
    simp [realSpelling, List.append_assoc]
  -- the point and the fraction, or neither: the integer run ends there, and the exponent text comes next
  have hmid : stops (isNumChar 10) ((if dot then '.' :: fp else []) ++ (expText exp ++ rest)) = true ∧
      floatFracPart ((if dot then '.' :: fp else []) ++ (expText exp ++ rest)) =
        (dot, fp, expText exp ++ rest) := by
    cases dot with
    | true => exact ⟨by simp [isNumChar, isDigitIn, digitOf], floatFracPart_dot fp _ hfp htail⟩
    | false =>
      cases hdot rfl
      exact ⟨htail, floatFracPart_nodot _ fun r2 e => (expTail_head exp hexp rest hr '.' r2 e).2 rfl⟩
  rw [hshape]
  simp only [floatExtent, floatIntPart_eq ip _ hip hmid.1, hmid.2, hdig, if_false,
    floatExpPart_expText exp hexp rest hr]
  cases exp <;> rfl

/-- the mathematical value `m · 10^e` denoted by the parts of a real literal -/
def realMantissa (ip fp : List Char) : Nat := Spec.posValue 10 (Spec.digitsOf ip ++ Spec.digitsOf fp)
def realExponent (fp : List Char) (exp : Option (Char × Option Bool × List Char)) : Int :=
  (match exp with
   | some (_, sg, ep) =>
     if signNeg sg then -(Spec.posValue 10 (Spec.digitsOf ep) : Int) else (Spec.posValue 10 (Spec.digitsOf ep) : Int)
   | none => 0) - ((Spec.digitsOf fp).length : Int)

/-- `sp` followed by `t` shows no `._` that starts inside `sp`, and `sp` consists of candidate characters: the
text shown to lexical is then not cut inside `sp` (`lexicalView_append`) -/
def cleanView : List Char → List Char → Bool
  | [], _ => true
  | c :: cs, t => isCandChar c && !(c == '.' && (cs ++ t).head? == some '_') && cleanView cs t

private theorem lexicalView_append (sp t : List Char) (h : cleanView sp t = true) :
    lexicalView (sp ++ t) = sp ++ lexicalView t := by
  induction sp with
  | nil => rfl
  | cons c cs ih =>
    simp only [cleanView, Bool.and_eq_true, Bool.not_eq_true', Bool.and_eq_false_iff, beq_eq_false_iff_ne] at h
    obtain ⟨⟨hc, hnd⟩, hcl⟩ := h
    rw [List.cons_append, lexicalView_cons c _ (fun ⟨h1, h2⟩ => by simp [h1, h2] at hnd), if_pos hc, ih hcl]
    rfl

private theorem cleanView_append (a b t : List Char) :
    cleanView (a ++ b) t = (cleanView a (b ++ t) && cleanView b t) := by
  induction a with
  | nil => simp [cleanView]
  | cons c cs ih => simp [cleanView, ih, List.append_assoc, Bool.and_assoc]

private theorem cleanView_nodot (a t : List Char) (h : ∀ c ∈ a, isCandChar c = true ∧ c ≠ '.') :
    cleanView a t = true := by
  induction a with
  | nil => rfl
  | cons c cs ih =>
    have ⟨h1, h2⟩ := h c (by simp)
    have hb : (c == '.') = false := by simp [h2]
    simp [cleanView, h1, hb, ih (fun d hd => h d (by simp [hd]))]

private theorem numChar10_cand (c : Char) (h : c = '_' ∨ Spec.digitVal c < 10) :
    isCandChar c = true ∧ c ≠ '.' := by
  rcases h with h | h
  · subst h; exact ⟨rfl, by decide⟩
  · have hd := isAsciiDigit_of_digitVal c h
    refine ⟨by simp [isCandChar, hd], ?_⟩
    intro e; subst e; simp [isAsciiDigit] at hd

private theorem cleanView_real (ip fp : List Char) (dot : Bool) (exp : Option ExpPart) (rest : List Char)
    (hip : optDigitString ip = true) (hfp : optDigitString fp = true) (hexp : ExpOk exp)
    (hr : numStop rest = true) : cleanView (realSpelling ip dot fp exp) rest = true := by
  have hrun : ∀ s t, optDigitString s = true → cleanView s t = true := fun s t hs =>
    cleanView_nodot _ _ fun c hc => numChar10_cand c (optDigitString_all s hs c hc)
  have hexpc : cleanView (expText exp) rest = true :=
    cleanView_nodot _ _ (expText_all exp hexp _ ⟨rfl, by decide⟩ ⟨rfl, by decide⟩ ⟨rfl, by decide⟩
      ⟨rfl, by decide⟩ numChar10_cand)
  -- the point is followed by a fraction digit or, with no fraction, by what follows the mantissa: never by `_`
  have hpoint : ((fp ++ (expText exp ++ rest)).head? == some '_') = false := by
    rw [beq_eq_false_iff_ne]
    cases fp with
    | nil =>
      cases h : expText exp ++ rest with
      | nil => simp
      | cons d r => rintro ⟨rfl⟩; exact absurd (expTail_head exp hexp rest hr _ r h).1 (by decide)
    | cons f fs => rintro ⟨rfl⟩; exact absurd (optDigitString_head _ hfp _ fs rfl) (by decide)
  unfold realSpelling
  rw [cleanView_append, cleanView_append, hrun ip _ hip, hexpc]
  cases dot with
  | false => rfl
  | true => simp only [if_true, cleanView, hpoint, hrun fp _ hfp]; decide

/-- the float path of `lex_decimal_number` on a real literal: the text shown to lexical is not cut inside the
spelling (`cleanView_real`), so lexical consumes exactly the spelling (`floatExtent_real`) and the bits are
`roundDec` of the value the parts denote -/
private theorem parseFloatTok_real (ip fp : List Char) (dot : Bool) (exp : Option (Char × Option Bool × List Char))
    (rest : List Char)
    (hip : optDigitString ip = true) (hfp : optDigitString fp = true) (hdot : dot = false → fp = [])
    (hm : Spec.digitsOf ip ++ Spec.digitsOf fp ≠ [])
    (hexp : ExpOk exp)
    (hr : numStop rest = true) :
    parseFloatTok (realSpelling ip dot fp exp ++ rest) =
      match QV.DecF64.roundDec (realMantissa ip fp) (realExponent fp exp) with
      | some b => .ok (.float b) rest
      | none => .failure := by
  have hfp0 : ∀ r, fp ≠ '_' :: r := by
    intro r e
    have := optDigitString_head fp hfp '_' r e
    simp [isAsciiDigit] at this
  have hlp : lexAndParseFloat (realSpelling ip dot fp exp ++ rest) =
      .ok ⟨ip, dot, fp, exp.isSome, expNegOf exp, expRunOf exp⟩ rest := by
    have hv := lexicalView_append (realSpelling ip dot fp exp) rest
      (cleanView_real ip fp dot exp rest hip hfp hexp hr)
    have hhd := lexicalView_head rest
    generalize lexicalView rest = t' at hv hhd
    -- `numStop` looks at the first character only, and the view of the rest starts like the rest
    have hr' : numStop t' = true := by
      cases t' with
      | nil => rfl
      | cons d r =>
        cases rest with
        | nil => simp at hhd
        | cons d2 r2 =>
          simp at hhd
          subst hhd
          simpa [numStop] using hr
    have hext' := floatExtent_real ip fp dot exp t' hip hfp hdot hm hexp hr'
    simp only [lexAndParseFloat, hv, hext']
    split
    · rename_i hh
      exact absurd rfl (hfp0 hh)
    · simp
  have hbits : (FloatParts.bits ⟨ip, dot, fp, exp.isSome,
        expNegOf exp,
        expRunOf exp⟩) =
      QV.DecF64.roundDec (realMantissa ip fp) (realExponent fp exp) := by
    simp only [FloatParts.bits, FloatParts.mantissa, FloatParts.exponent, horner_eq_posValue,
      runDigits_opt ip hip, runDigits_opt fp hfp, realMantissa, realExponent]
    induction exp, hexp using ExpOk.cases with
    | none => simp [runDigits, Spec.posValue, expNegOf, expRunOf]
    | some E sg ep _ hep => simp only [expNegOf, expRunOf, (numRun_loose 10 (by omega) ep [] hep rfl).2.2]
  simp only [parseFloatTok, hlp, Res.cut, hbits]
  split <;> simp_all

/-- **C05 (real literals through `lex_token`)**: for every real literal spelling — optional integer digit
string, optional `.` with optional fraction digit string, optional exponent (`e`/`E`, optional sign, digits
with `_` anywhere), at least one mantissa digit, a point or an exponent present, any lengths — followed by
text that does not continue a number (`numStop`), the lexer
produces exactly one `Float` token whose bits are the exact decimal value
`mantissa · 10^exponent` rounded to the nearest double (ties to even), consuming exactly the spelling; it
FAILS when that value is not finite, and also when the integer part alone does not fit in 64 bits (the
integer pre-pass of `lex_decimal_number`); it never yields an `Integer` token. -/
theorem C05_real_literal (ip fp : List Char) (dot : Bool) (exp : Option (Char × Option Bool × List Char))
    (rest : List Char)
    (hip : optDigitString ip = true) (hfp : optDigitString fp = true) (hdot : dot = false → fp = [])
    (hm : Spec.digitsOf ip ++ Spec.digitsOf fp ≠ [])
    (hexp : ∀ E sg ep, exp = some (E, sg, ep) → (E = 'e' ∨ E = 'E') ∧ Spec.isLooseDigitString 10 ep = true)
    (hreal : dot = true ∨ exp.isSome = true)
    (hr : numStop rest = true) :
    lexToken (realSpelling ip dot fp exp ++ rest) =
      if 2 ^ 64 ≤ Spec.posValue 10 (Spec.digitsOf ip) then .failure
      else match QV.DecF64.roundDec (realMantissa ip fp) (realExponent fp exp) with
        | some b => .ok (.float b) rest
        | none => .failure := by
  have hpf := parseFloatTok_real ip fp dot exp rest hip hfp hdot hm hexp hr
  -- with an integer part, `lex_decimal_number` first reads it as an integer (failing on overflow) and, seeing
  -- `.`, `e` or `E` next, starts over with the float path
  have htail : ∃ t0 tl, (if dot then '.' :: fp else []) ++ expText exp ++ rest = t0 :: tl ∧
      (t0 = '.' ∨ t0 = 'e' ∨ t0 = 'E') := by
    cases dot with
    | true => exact ⟨'.', _, rfl, Or.inl rfl⟩
    | false =>
      induction exp, hexp using ExpOk.cases with
      | none => simp at hreal
      | some E sg ep hE _ => exact ⟨E, signChars sg ++ ep ++ rest, by simp [expText, List.append_assoc], Or.inr hE⟩
  obtain ⟨t0, tl, htl, ht0⟩ := htail
  have hshape : realSpelling ip dot fp exp ++ rest = ip ++ (t0 :: tl) := by
    rw [← htl]; simp [realSpelling, List.append_assoc]
  cases ip with
  | nil =>
    -- starts with `.` (a point is required: no integer digits)
    have hv : ¬ (2 ^ 64 ≤ Spec.posValue 10 (Spec.digitsOf [])) := by simp [Spec.digitsOf, Spec.posValue]
    simp only [hv, if_false]
    have hdt : dot = true := by
      cases dot with
      | true => rfl
      | false =>
        have := hdot rfl
        subst this
        simp [Spec.digitsOf] at hm
    subst hdt
    rw [← hpf]
    have e : realSpelling [] true fp exp ++ rest = '.' :: (fp ++ expText exp ++ rest) := by
      simp [realSpelling, List.append_assoc]
    rw [e]
    rfl
  | cons c cs =>
    have hc := optDigitString_head _ hip c cs rfl
    have hds : Spec.isDigitString 10 (c :: cs) = true :=
      (optDigitString_spec _ hip).resolve_left (List.cons_ne_nil _ _)
    obtain ⟨hc10, hall⟩ := (isDigitString_cons 10 c cs).1 hds
    have htstop : stops (isNumChar 10) (t0 :: tl) = true := by
      rcases ht0 with h | h | h <;> subst h <;> simp [isNumChar, isDigitIn, digitOf]
    have hint := C05_decimal_integer (c :: cs) (t0 :: tl) hds htstop
    rw [hshape] at hpf ⊢
    have hhead := lexToken_decimal_head c cs (t0 :: tl) hc10
      (fun d hd => hall d (by simp [hd]))
      (fun d r e => by
        obtain ⟨rfl, _⟩ := List.cons.inj e
        rcases ht0 with h | h | h <;> subst h <;> decide)
    have hcdot : c ≠ '.' := by intro e; subst e; simp [isAsciiDigit] at hc
    have hdec : lexDecimalNumber (c :: cs ++ t0 :: tl) =
        if 2 ^ 64 ≤ Spec.posValue 10 (Spec.digitsOf (c :: cs)) then .failure
        else parseFloatTok (c :: cs ++ t0 :: tl) := by
      unfold lexDecimalNumber
      split
      · rename_i heq
        simp at heq
        exact absurd heq.1 hcdot
      · rw [hint]
        by_cases hv : Spec.posValue 10 (Spec.digitsOf (c :: cs)) < 2 ^ 64
        · simp only [hv, Nat.not_le.2 hv, if_true, if_false, ht0]
        · simp only [hv, Nat.le_of_not_lt hv, if_true, if_false]
    rw [hhead, hdec, hpf]

private theorem splitAt_none (p : Char → Bool) (a : List Char) (h : ∀ c ∈ a, p c = false) :
    Spec.splitAt? p a = none := by
  induction a with
  | nil => rfl
  | cons c cs ih =>
    simp [Spec.splitAt?, h c (by simp), ih (fun d hd => h d (by simp [hd]))]

private theorem splitAt_append (p : Char → Bool) (a : List Char) (c : Char) (b : List Char)
    (h : ∀ d ∈ a, p d = false) (hc : p c = true) :
    Spec.splitAt? p (a ++ c :: b) = some (a, b) := by
  induction a with
  | nil => simp [Spec.splitAt?, hc]
  | cons d ds ih =>
    simp [Spec.splitAt?, h d (by simp), ih (fun x hx => h x (by simp [hx]))]

private theorem digitString_no_exp_dot (s : List Char) (hs : optDigitString s = true) :
    ∀ c ∈ s, (c == 'e' || c == 'E') = false ∧ (c == '.') = false := by
  intro c hc
  have := numChar10_ne c (optDigitString_all s hs c hc)
  simp [this 'e' (by decide), this 'E' (by decide), this '.' (by decide)]

/-- **the constructive grammar is contained in the flat one, with the same reading**: every spelling assembled
by `realSpelling` from well-formed parts (as in `C05_real_literal`) is classified by the run-time
specification's `Spec.classifyReal` as the real literal with exactly those mantissa digits, fraction length,
exponent sign and exponent digits. -/
theorem C05_classify_realSpelling (ip fp : List Char) (dot : Bool)
    (exp : Option (Char × Option Bool × List Char))
    (hip : optDigitString ip = true) (hfp : optDigitString fp = true) (hdot : dot = false → fp = [])
    (hm : Spec.digitsOf ip ++ Spec.digitsOf fp ≠ [])
    (hexp : ExpOk exp)
    (hreal : dot = true ∨ exp.isSome = true) :
    Spec.classifyReal (realSpelling ip dot fp exp) =
      some (.real (Spec.digitsOf ip ++ Spec.digitsOf fp) (Spec.digitsOf fp).length (expNegOf exp)
        (Spec.digitsOf (expRunOf exp))) := by
  have hipc := digitString_no_exp_dot ip hip
  have hfpc := digitString_no_exp_dot fp hfp
  have hmant_noexp : ∀ c ∈ ip ++ (if dot then '.' :: fp else []), (c == 'e' || c == 'E') = false := by
    intro c hc
    simp only [List.mem_append] at hc
    rcases hc with hc | hc
    · exact (hipc c hc).1
    · cases dot with
      | false => simp at hc
      | true =>
        simp only [if_true, List.mem_cons] at hc
        rcases hc with rfl | hc
        · rfl
        · exact (hfpc c hc).1
  have hsplitdot : Spec.splitAt? (· == '.') (ip ++ (if dot then '.' :: fp else [])) =
      if dot then some (ip, fp) else none := by
    cases dot with
    | true => exact splitAt_append _ ip '.' fp (fun d hd => (hipc d hd).2) rfl
    | false =>
      simp only [Bool.false_eq_true, if_false, List.append_nil]
      exact splitAt_none _ ip (fun d hd => (hipc d hd).2)
  have hipok : (ip = [] || Spec.isDigitString 10 ip) = true := by
    rcases optDigitString_spec ip hip with h | h <;> simp [h]
  have hfpok : (fp = [] || Spec.isDigitString 10 fp) = true := by
    rcases optDigitString_spec fp hfp with h | h <;> simp [h]
  have hm' : (Spec.digitsOf ip ++ Spec.digitsOf fp).isEmpty = false := by
    cases h : Spec.digitsOf ip ++ Spec.digitsOf fp with
    | nil => exact absurd h hm
    | cons _ _ => rfl
  -- without a point the mantissa digit is in the integer part
  have hipd : dot = false → Spec.isDigitString 10 ip = true := fun hd => by
    rcases optDigitString_spec ip hip with h | h
    · subst h; rw [hdot hd] at hm; exact absurd rfl hm
    · exact h
  cases exp with
  | none =>
    have hd : dot = true := by simpa using hreal
    subst hd
    have hs : Spec.splitAt? (fun c => c == 'e' || c == 'E') (realSpelling ip true fp none) = none := by
      simp only [realSpelling, expText, List.append_nil]
      exact splitAt_none _ _ (fun c hc => hmant_noexp c (by simpa using hc))
    have hsd : Spec.splitAt? (· == '.') (realSpelling ip true fp none) = some (ip, fp) := by
      simpa [realSpelling, expText] using hsplitdot
    simp only [Spec.classifyReal, hs, hsd]
    have hnil : Spec.digitsOf [] = [] := rfl
    simp [hipok, hfpok, hm', expNegOf, expRunOf, hnil]
  | some t =>
    obtain ⟨E, sg, ep⟩ := t
    have ⟨hE, hep⟩ := hexp E sg ep rfl
    have hEp : (E == 'e' || E == 'E') = true := by rcases hE with h | h <;> simp [h]
    have hs : Spec.splitAt? (fun c => c == 'e' || c == 'E') (realSpelling ip dot fp (some (E, sg, ep))) =
        some (ip ++ (if dot then '.' :: fp else []), signChars sg ++ ep) := by
      simp only [realSpelling, expText]
      exact splitAt_append _ _ E _ hmant_noexp hEp
    have hephead : ∀ c r, ep = c :: r → c ≠ '+' ∧ c ≠ '-' := by
      intro c r e
      have hall := (isLoose_all 10 ep hep).1 c (by rw [e]; simp)
      exact ⟨numChar10_ne c hall _ (by decide), numChar10_ne c hall _ (by decide)⟩
    have hne : ep ≠ [] := (isLoose_all 10 ep hep).2
    simp only [Spec.classifyReal, hs]
    -- whatever the sign, the exponent `match` leaves the same test on the mantissa
    cases dot with
    | true =>
      have := hsplitdot; simp only [if_true] at this
      cases sg with
      | none =>
        cases ep with
        | nil => exact absurd rfl hne
        | cons c r =>
          obtain ⟨h1, h2⟩ := hephead c r rfl
          simp [signChars, h1, h2, this, hipok, hfpok, hep, hm', expNegOf, expRunOf, signNeg]
      | some b => cases b <;> simp [signChars, this, hipok, hfpok, hep, hm', expNegOf, expRunOf, signNeg]
    | false =>
      have hf := hdot rfl; subst hf
      have := hsplitdot; simp only [Bool.false_eq_true, if_false, List.append_nil] at this
      cases sg with
      | none =>
        cases ep with
        | nil => exact absurd rfl hne
        | cons c r =>
          obtain ⟨h1, h2⟩ := hephead c r rfl
          simp [signChars, h1, h2, this, hipd rfl, hep, expNegOf, expRunOf, signNeg, Spec.digitsOf]
      | some b => cases b <;> simp [signChars, this, hipd rfl, hep, expNegOf, expRunOf, signNeg, Spec.digitsOf]

private theorem classify_eq_classifyReal (s : List Char)
    (hp : ∀ c ∈ s, c ≠ 'b' ∧ c ≠ 'B' ∧ c ≠ 'o' ∧ c ≠ 'O' ∧ c ≠ 'x' ∧ c ≠ 'X')
    (hnd : Spec.isDigitString 10 s = false) : Spec.classify s = Spec.classifyReal s := by
  unfold Spec.classify
  split
  · rename_i p rest
    obtain ⟨h1, h2, h3, h4, h5, h6⟩ := hp p (by simp)
    simp [h1, h2, h3, h4, h5, h6, hnd]
  · simp [hnd]

/-- **`Spec.classify` on the constructive grammar**: the run-time specification reads every `realSpelling` as
the real literal with exactly the parts it was assembled from — so the Bool spec evaluated on the
implementation's output and theorem `C05_real_literal` speak about the same literals and the same value
(`realMantissa`, `realExponent` = `Lit.realValue`). -/
theorem C05_classify_realSpelling_full (ip fp : List Char) (dot : Bool)
    (exp : Option (Char × Option Bool × List Char))
    (hip : optDigitString ip = true) (hfp : optDigitString fp = true) (hdot : dot = false → fp = [])
    (hm : Spec.digitsOf ip ++ Spec.digitsOf fp ≠ [])
    (hexp : ∀ E sg ep, exp = some (E, sg, ep) → (E = 'e' ∨ E = 'E') ∧ Spec.isLooseDigitString 10 ep = true)
    (hreal : dot = true ∨ exp.isSome = true) :
    Spec.classify (realSpelling ip dot fp exp) =
      some (.real (Spec.digitsOf ip ++ Spec.digitsOf fp) (Spec.digitsOf fp).length (expNegOf exp)
        (Spec.digitsOf (expRunOf exp))) ∧
    (Spec.Lit.real (Spec.digitsOf ip ++ Spec.digitsOf fp) (Spec.digitsOf fp).length (expNegOf exp)
        (Spec.digitsOf (expRunOf exp))).realValue = some (realMantissa ip fp, realExponent fp exp) := by
  refine ⟨?_, ?_⟩
  · rw [← C05_classify_realSpelling ip fp dot exp hip hfp hdot hm hexp hreal]
    apply classify_eq_classifyReal
    · -- no radix-prefix letter anywhere in the spelling
      have hnum : ∀ c, c = '_' ∨ Spec.digitVal c < 10 →
          c ≠ 'b' ∧ c ≠ 'B' ∧ c ≠ 'o' ∧ c ≠ 'O' ∧ c ≠ 'x' ∧ c ≠ 'X' := fun c h =>
        have := numChar10_ne c h
        ⟨this _ (by decide), this _ (by decide), this _ (by decide), this _ (by decide), this _ (by decide),
          this _ (by decide)⟩
      intro c hc
      simp only [realSpelling, List.mem_append] at hc
      rcases hc with (hc | hc) | hc
      · exact hnum c (optDigitString_all ip hip c hc)
      · cases dot with
        | false => simp at hc
        | true =>
          simp only [if_true, List.mem_cons] at hc
          rcases hc with rfl | hc
          · decide
          · exact hnum c (optDigitString_all fp hfp c hc)
      · exact expText_all exp hexp _ (by decide) (by decide) (by decide) (by decide) hnum c hc
    · -- it is not a plain digit string: it contains a `.` or an exponent marker
      cases hds : Spec.isDigitString 10 (realSpelling ip dot fp exp) with
      | false => rfl
      | true =>
        exfalso
        obtain ⟨_, _, _, _, hall⟩ := isDigitString_parts hds
        rcases hreal with rfl | he
        · exact numChar10_ne _ (hall '.' (by simp [realSpelling])) _ (by decide) rfl
        · induction exp, hexp using ExpOk.cases with
          | none => cases he
          | some E sg ep hE _ =>
            have := hall E (by simp [realSpelling, expText])
            rcases hE with rfl | rfl <;> exact numChar10_ne _ this _ (by decide) rfl
  · cases exp with
    | none => simp [Spec.Lit.realValue, realMantissa, realExponent, expNegOf, expRunOf, Spec.digitsOf, Spec.posValue]
    | some t =>
      obtain ⟨E, sg, ep⟩ := t
      cases hs : signNeg sg <;> simp [Spec.Lit.realValue, realMantissa, realExponent, expNegOf, expRunOf, hs]

example : realSpelling "1__2__".toList true "3__4__".toList (some ('e', some true, "__1__5__".toList)) =
    "1__2__.3__4__e-__1__5__".toList := by decide +kernel
example : optDigitString "1__2__".toList = true ∧ optDigitString [] = true ∧
    optDigitString "_1".toList = false := by decide
example : realMantissa "1__2__".toList "3__4__".toList = 1234 ∧
    realExponent "3__4__".toList (some ('e', some true, "__1__5__".toList)) = -17 := by decide +kernel
example : QV.DecF64.roundDec 1234 (-17) = some 0x3D0BC98693305B2F := by decide

end QV.C05
