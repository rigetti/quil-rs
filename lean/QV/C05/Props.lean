import QV.C05.Lemmas
/-
C05 — numeric literals are parsed to their exact value or rejected: integer literals through the lexer, and the
operand parsers on numeric tokens (real literals: PropsReal.lean).  The specification side (`Spec.classify`,
`Spec.posValue`, `Spec.isDigitString`, …) is written independently of the lexer model (`QV.Lex`), which mirrors
quil-rs + lexical and is tied to the code by the correspondence check.

Not a theorem (see docs/C05.md): the decimal→binary rounding of real literals is the definition
`QV.DecF64.roundDec` on the model side and is compared bit-for-bit with lexical and with Rust's std on every run;
the extent of a real literal is modelled (`floatExtent`) and checked differentially.  Of the agreement of the
constructive grammar `realSpelling` with `Spec.classifyReal`, PropsReal.lean proves one direction (every
`realSpelling` is classified as the literal it was assembled from); the converse is checked on every case.
-/
namespace QV.C05
open QV.Tok QV.Lex

theorem horner_eq_posValue (radix : Nat) (ds : List Nat) :
    horner radix ds = Spec.posValue radix ds := by
  simp [horner, foldl_horner]

theorem C05_decimal_integer (s rest : List Char) (hs : Spec.isDigitString 10 s = true)
    (hr : stops (isNumChar 10) rest = true) :
    lexDecimalInteger (s ++ rest) =
      if Spec.posValue 10 (Spec.digitsOf s) < 2 ^ 64 then .ok (Spec.posValue 10 (Spec.digitsOf s)) rest
      else .failure := by
  obtain ⟨c, cs, rfl, hc, hall⟩ := isDigitString_parts hs
  have hrun := numRun_append 10 (by omega) (c :: cs) rest hall hr
  have hd := runDigits_eq 10 (by omega) (c :: cs) hall
  simp only [List.cons_append] at hrun
  simp [lexDecimalInteger, isAsciiDigit_of_digitVal c hc, hrun, hd, horner_eq_posValue, u64OrFailure, two64]

/-- **C05 (decimal integers through `lex_token`)**: a decimal digit string (digits and `_`, starting
with a digit), followed by text that does not continue a number (`numStop`), lexes to exactly one
`Integer` token carrying the positional value of its digits when that value is below 2^64 — and is a
lexing FAILURE (never a wrapped or truncated value, never re-lexed some other way) otherwise. -/
theorem C05_lexToken_decimal (s rest : List Char) (hs : Spec.isDigitString 10 s = true)
    (hr : numStop rest = true) :
    lexToken (s ++ rest) =
      if Spec.posValue 10 (Spec.digitsOf s) < 2 ^ 64
      then .ok (.integer (Spec.posValue 10 (Spec.digitsOf s))) rest else .failure := by
  have hint := C05_decimal_integer s rest hs (numStop_stops_num10 rest hr)
  obtain ⟨c, cs, rfl, hc, hall⟩ := isDigitString_parts hs
  have hcdot : c ≠ '.' := fun e => by subst e; simp [Spec.digitVal] at hc
  rw [lexToken_decimal_head c cs rest hc (fun d hd => hall d (by simp [hd]))
    fun d r e => (numStop_head rest hr d r e).2.2.2.2]
  unfold lexDecimalNumber
  split
  · rename_i heq
    exact absurd (List.cons.inj heq).1 hcdot
  · by_cases hv : Spec.posValue 10 (Spec.digitsOf (c :: cs)) < 2 ^ 64
    · simp only [hv, if_true] at hint ⊢
      rw [hint]
      cases rest with
      | nil => rfl
      | cons d r =>
        obtain ⟨_, h2, he, hE, _⟩ := numStop_head _ hr d r rfl
        simp [h2, he, hE]
    · simp only [hv, if_false] at hint ⊢
      rw [hint]

theorem C05_radix_integer (radix : Nat) (p P : Char) (hr36 : radix ≤ 36) (hP : lowerAscii P = p)
    (s rest : List Char) (hs : Spec.isLooseDigitString radix s = true)
    (hr : stops (isNumChar radix) rest = true) :
    lexRadixInteger radix p ('0' :: P :: (s ++ rest)) =
      if Spec.posValue radix (Spec.digitsOf s) < 2 ^ 64
      then .ok (Spec.posValue radix (Spec.digitsOf s)) rest else .failure := by
  obtain ⟨hrun, hne, hd⟩ := numRun_loose radix hr36 s rest hs hr
  cases s with
  | nil => exact absurd rfl hne
  | cons c cs =>
    simp only [lexRadixInteger, hP, if_true, hrun]
    simp [hd, horner_eq_posValue, u64OrFailure, two64]

/-- **C05 (binary / octal / hexadecimal integers through `lex_token`)**: `0b…`, `0o…`, `0x…` (prefix
letter in either case; digits of the radix and `_` in any arrangement with at least one digit), followed
by a delimiter, lex to exactly one `Integer` token carrying the positional value of the digits when it is
below 2^64, and are a lexing FAILURE otherwise — no wrapping, no truncation, no backtracking into some
other reading. -/
theorem C05_lexToken_radix (radix : Nat) (P : Char) (s rest : List Char)
    (hP : (radix = 2 ∧ (P = 'b' ∨ P = 'B')) ∨ (radix = 8 ∧ (P = 'o' ∨ P = 'O')) ∨
          (radix = 16 ∧ (P = 'x' ∨ P = 'X')))
    (hs : Spec.isLooseDigitString radix s = true) (hr : delim rest = true) :
    lexToken ('0' :: P :: s ++ rest) =
      if Spec.posValue radix (Spec.digitsOf s) < 2 ^ 64
      then .ok (.integer (Spec.posValue radix (Spec.digitsOf s))) rest else .failure := by
  rw [List.cons_append, List.cons_append, lexToken_digit '0' _ rfl]
  simp only [lexNumber, lexBinaryInteger, lexOctalInteger, lexHexadecimalInteger]
  have other : ∀ radix p, lowerAscii P ≠ p → lexRadixInteger radix p ('0' :: P :: (s ++ rest)) = .error :=
    fun radix p h => lexRadixInteger_error_of_ne radix p _ fun a d r e => by cases e; exact h
  rcases hP with ⟨rfl, hP⟩ | ⟨rfl, hP⟩ | ⟨rfl, hP⟩
  · have hl : lowerAscii P = 'b' := by rcases hP with rfl | rfl <;> rfl
    rw [C05_radix_integer 2 'b' P (by omega) hl s rest hs (delim_stops_num 2 (by omega) rest hr), orElse_map_ite]
  · have hl : lowerAscii P = 'o' := by rcases hP with rfl | rfl <;> rfl
    rw [other 2 'b' (by rw [hl]; decide), C05_radix_integer 8 'o' P (by omega) hl s rest hs (delim_stops_num 8 (by omega) rest hr),
      map_error, orElse_error, orElse_map_ite]
  · have hl : lowerAscii P = 'x' := by rcases hP with rfl | rfl <;> rfl
    rw [other 2 'b' (by rw [hl]; decide), other 8 'o' (by rw [hl]; decide),
      C05_radix_integer 16 'x' P (by omega) hl s rest hs (delim_stops_num 16 (by omega) rest hr), map_error, orElse_error, orElse_error,
      orElse_map_ite]

/-- **C05 (`signed_integer` never wraps)**: for EVERY magnitude (not only those below 2^64) and both
signs, the helper returns exactly `±magnitude` as a mathematical integer when that lies in the `i64`
range, and nothing otherwise. -/
theorem C05_signedInteger_exact (neg : Bool) (n : Nat) (z : Int) :
    signedInteger neg n = some z ↔
      z = (if neg then -(n : Int) else (n : Int)) ∧ -(2 ^ 63 : Int) ≤ z ∧ z < (2 ^ 63 : Int) := by
  rw [signedInteger_eq]
  generalize (if neg then -(n : Int) else (n : Int)) = v
  by_cases h : -(2 ^ 63 : Int) ≤ v ∧ v < (2 ^ 63 : Int)
  · rw [if_pos h]
    exact ⟨fun e => by cases e; exact ⟨rfl, h⟩, fun ⟨e, _⟩ => by rw [e]⟩
  · rw [if_neg h]
    exact ⟨(fun e => nomatch e), fun ⟨e, h'⟩ => absurd (e ▸ h') h⟩

theorem C05_signedInteger_none (neg : Bool) (n : Nat) :
    signedInteger neg n = none ↔
      ¬ (-(2 ^ 63 : Int) ≤ (if neg then -(n : Int) else (n : Int)) ∧
         (if neg then -(n : Int) else (n : Int)) < (2 ^ 63 : Int)) := by
  rw [Option.eq_none_iff_forall_ne_some]
  exact ⟨fun h hr => h _ ((C05_signedInteger_exact neg n _).2 ⟨rfl, hr⟩),
    fun h z hz => h (by obtain ⟨rfl, hr⟩ := (C05_signedInteger_exact neg n z).1 hz; exact hr)⟩

/-- **C05 (integer operands are exact or rejected)**: an `Integer` token of magnitude `n`, with or
without a leading minus, becomes `LiteralInteger (±n)` exactly when `±n` fits an `i64`, and a parse
error otherwise — in the arithmetic, comparison and binary-logic operand parsers alike. -/
theorem C05_operand_integer (neg : Bool) (n : Nat) (rest : List Token) :
    let ts := (if neg then [Token.operator .minus] else []) ++ Token.integer n :: rest
    let z : Int := if neg then -(n : Int) else (n : Int)
    let expected : PRes Operand :=
      if -(2 ^ 63 : Int) ≤ z ∧ z < (2 ^ 63 : Int) then .ok (.literalInteger z) rest else .err
    parseArithmeticOperand ts = expected ∧ parseComparisonOperand ts = expected ∧
    parseBinaryLogicOperand ts = expected := by
  have ⟨h1, h2⟩ := operand_int neg n rest
  simp only [signedInteger_eq] at h1 h2
  simp only [parseComparisonOperand, h1, h2]
  generalize (if neg then -(n : Int) else (n : Int)) = v
  by_cases h : -(2 ^ 63 : Int) ≤ v ∧ v < (2 ^ 63 : Int)
  · rw [if_pos h, if_pos h]; exact ⟨rfl, rfl, rfl⟩
  · rw [if_neg h, if_neg h]; exact ⟨rfl, rfl, rfl⟩

/-- **C05 (kinds are kept)**: a `Float` token (with or without a minus) is never turned into an integer
operand — it is a `LiteralReal` carrying the token's bits (sign bit flipped under a minus) in the
arithmetic and comparison parsers and a parse error in the binary-logic parser; an `Integer` token is
never turned into a real operand by the arithmetic parser. -/
theorem C05_kind (v n : Nat) (rest : List Token) :
    parseArithmeticOperand (.float v :: rest) = .ok (.literalReal v) rest ∧
    parseArithmeticOperand (.operator .minus :: .float v :: rest) = .ok (.literalReal (QV.DecF64.negBits v)) rest ∧
    parseComparisonOperand (.float v :: rest) = .ok (.literalReal v) rest ∧
    parseComparisonOperand (.operator .minus :: .float v :: rest) = .ok (.literalReal (QV.DecF64.negBits v)) rest ∧
    parseBinaryLogicOperand (.float v :: rest) = .err ∧
    parseBinaryLogicOperand (.operator .minus :: .float v :: rest) = .err ∧
    (∀ b r, parseArithmeticOperand (.integer n :: rest) ≠ .ok (.literalReal b) r) ∧
    (∀ b r, parseArithmeticOperand (.operator .minus :: .integer n :: rest) ≠ .ok (.literalReal b) r) := by
  refine ⟨arith_float v rest, arith_neg_float v rest, arith_float v rest, arith_neg_float v rest,
    logic_float v rest, logic_neg_float v rest, ?_, ?_⟩
  · intro b r
    have h : parseArithmeticOperand (.integer n :: rest) = _ := (operand_int false n rest).1
    rw [h]; split <;> simp
  · intro b r
    have h : parseArithmeticOperand (.operator .minus :: .integer n :: rest) = _ := (operand_int true n rest).1
    rw [h]; split <;> simp

/-- **C05 (immediates in expressions and CALL arguments)**: an `Integer` token becomes the complex number
whose real part is the u64 rounded to the nearest double (ties to even) — `Integer` followed by the
identifier `i` the corresponding imaginary number; a `Float` token keeps its bits. -/
theorem C05_immediate (n b : Nat) (rest : List Token) (h : parseI rest = none) :
    parseImmediateValue (.integer n :: rest) = .ok ⟨QV.DecF64.ofNat n, 0⟩ rest ∧
    parseImmediateValue (.integer n :: .identifier ['i'] :: rest) = .ok ⟨0, QV.DecF64.ofNat n⟩ rest ∧
    parseImmediateValue (.float b :: rest) = .ok ⟨b, 0⟩ rest ∧
    parseImmediateValue (.float b :: .identifier ['i'] :: rest) = .ok ⟨0, b⟩ rest := by
  refine ⟨?_, ?_, ?_, ?_⟩
  · simp only [parseImmediateValue, h]
  · simp [parseImmediateValue, parseI]
  · simp only [parseImmediateValue, h]
  · simp [parseImmediateValue, parseI]

/-- **C05 (CALL immediates, `parse_call_immediate`)**: a lone numeric token, optionally preceded by a
minus sign, is read as the real (or, with the `i` suffix, imaginary) number of exactly the token's value,
negated by `0 - x` under the sign (so the zero part stays `+0.0`); integers go through `u64 as f64`.
A leading `+` is a parse error. -/
theorem C05_call_immediate (n b : Nat) :
    parseCallImmediate [.integer n] = .ok ⟨QV.DecF64.ofNat n, 0⟩ [] ∧
    parseCallImmediate [.operator .minus, .integer n] = .ok ⟨zeroMinus (QV.DecF64.ofNat n), 0⟩ [] ∧
    parseCallImmediate [.float b] = .ok ⟨b, 0⟩ [] ∧
    parseCallImmediate [.operator .minus, .float b] = .ok ⟨zeroMinus b, 0⟩ [] ∧
    parseCallImmediate [.operator .minus, .float b, .identifier ['i']] = .ok ⟨0, zeroMinus b⟩ [] ∧
    parseCallImmediate [.operator .plus, .integer n] = .err := by
  refine ⟨?_, ?_, ?_, ?_, ?_, ?_⟩ <;>
    simp [parseCallImmediate, parseImmediateValue, parseI, negateC, zeroMinus, isZeroBits]

/-- **C05 (every integer literal of the specification's grammar)**: whatever spelling the independent
grammar `Spec.classify` recognises as an integer literal of radix `r` with digits `ds` — decimal, or
`0b/0o/0x`-prefixed in either case, with `_` separators wherever the grammar allows them, of ANY length —
when followed by a delimiter lexes to the single token `Integer (Σ dᵢ·r^(n-1-i))` if that value is below
2^64 and makes the whole lex FAIL otherwise. -/
theorem C05_integer_literal (body rest : List Char) (r : Nat) (ds : List Nat)
    (hc : Spec.classify body = some (.int r ds)) (hr : delim rest = true) :
    lexToken (body ++ rest) =
      if Spec.posValue r ds < 2 ^ 64 then .ok (.integer (Spec.posValue r ds)) rest else .failure := by
  have radix : ∀ (R : Nat) (P : Char) (s : List Char),
      (R = 2 ∧ (P = 'b' ∨ P = 'B')) ∨ (R = 8 ∧ (P = 'o' ∨ P = 'O')) ∨ (R = 16 ∧ (P = 'x' ∨ P = 'X')) →
      (if Spec.isLooseDigitString R s then some (Spec.Lit.int R (Spec.digitsOf s)) else none) = some (.int r ds) →
      lexToken ('0' :: P :: s ++ rest) =
        if Spec.posValue r ds < 2 ^ 64 then .ok (.integer (Spec.posValue r ds)) rest else .failure := by
    intro R P s hP h
    split at h <;> simp at h
    obtain ⟨rfl, rfl⟩ := h
    exact C05_lexToken_radix R P s rest hP ‹_› hr
  have decimal : ∀ s, Spec.isDigitString 10 s = true → some (Spec.Lit.int 10 (Spec.digitsOf s)) = some (.int r ds) →
      lexToken (s ++ rest) =
        if Spec.posValue r ds < 2 ^ 64 then .ok (.integer (Spec.posValue r ds)) rest else .failure := by
    intro s hs h
    simp at h
    obtain ⟨rfl, rfl⟩ := h
    exact C05_lexToken_decimal _ rest hs (delim_numStop rest hr)
  unfold Spec.classify at hc
  split at hc
  · rename_i p s
    split at hc
    · exact radix 2 p s (.inl ⟨rfl, ‹_›⟩) hc
    · split at hc
      · exact radix 8 p s (.inr (.inl ⟨rfl, ‹_›⟩)) hc
      · split at hc
        · exact radix 16 p s (.inr (.inr ⟨rfl, ‹_›⟩)) hc
        · split at hc
          · exact decimal _ ‹_› hc
          · exact absurd hc (classifyReal_not_int _ _ _)
  · split at hc
    · exact decimal _ ‹_› hc
    · exact absurd hc (classifyReal_not_int _ _ _)

/-- **C05 (whole-input lexing of a signed integer literal)**: `lex` of an optional minus sign followed by
an integer literal of the specification's grammar is exactly `[Minus?, Integer value]`, or a lexing error
when the value does not fit in 64 bits. -/
theorem C05_lex_integer_literal (neg : Bool) (body : List Char) (r : Nat) (ds : List Nat)
    (hc : Spec.classify body = some (.int r ds)) :
    lex ((if neg then ['-'] else []) ++ body) =
      if Spec.posValue r ds < 2 ^ 64
      then some ((if neg then [Token.operator .minus] else []) ++ [Token.integer (Spec.posValue r ds)])
      else none := by
  obtain ⟨c, cs, rfl, hd⟩ := classify_int_head body r ds hc
  have hT := C05_integer_literal (c :: cs) [] r ds hc rfl
  rw [List.append_nil] at hT
  have hI := lexItem_of_isEnd (r := cs) (isEnd_of_isAsciiDigit hd)
  rw [hT] at hI
  have hpos : lex (c :: cs) =
      if Spec.posValue r ds < 2 ^ 64 then some [.integer (Spec.posValue r ds)] else none := by
    split at hI
    · rw [if_pos ‹_›]; exact lex_single _ _ hI
    · rw [if_neg ‹_›]; exact lex_failure hI
  cases neg
  · exact hpos
  · -- the sign is an item of its own
    rw [show (if true then ['-'] else []) ++ c :: cs = '-' :: c :: cs from rfl,
      lex_cons (t := .operator .minus) (rest := c :: cs) rfl (Nat.lt_succ_self _), hpos]
    split <;> rfl

/-- **C05 (end to end, integers in classical operand positions)**: for every integer literal of the
specification's grammar, with or without a minus sign, lexing the text and running any of the three
operand parsers on the tokens yields `LiteralInteger` of exactly the signed mathematical value when that
value lies in the `i64` range, a parse error when it does not, and a lexing error when the magnitude
does not even fit in 64 bits.  No wrap, no truncation, no change of kind. -/
theorem C05_operand_of_integer_literal (neg : Bool) (body : List Char) (r : Nat) (ds : List Nat)
    (hc : Spec.classify body = some (.int r ds)) :
    let v := Spec.posValue r ds
    let z : Int := if neg then -(v : Int) else (v : Int)
    let expected : Option (PRes Operand) :=
      if v < 2 ^ 64 then
        some (if -(2 ^ 63 : Int) ≤ z ∧ z < (2 ^ 63 : Int) then .ok (.literalInteger z) [] else .err)
      else none
    let text := (if neg then ['-'] else []) ++ body
    (lex text).map parseArithmeticOperand = expected ∧
    (lex text).map parseComparisonOperand = expected ∧
    (lex text).map parseBinaryLogicOperand = expected := by
  intro v z expected text
  have hl := C05_lex_integer_literal neg body r ds hc
  have ho := C05_operand_integer neg v []
  simp only at ho
  by_cases hv : v < 2 ^ 64
  · have hv' : Spec.posValue r ds < 2 ^ 64 := hv
    simp only [hv', if_true] at hl
    simp only [text, expected, hl, hv, if_true, Option.map_some, z]
    exact ⟨congrArg some ho.1, congrArg some ho.2.1, congrArg some ho.2.2⟩
  · have hv' : ¬ Spec.posValue r ds < 2 ^ 64 := hv
    simp only [hv', if_false] at hl
    simp [text, expected, hl, hv]

/-! ### non-vacuity: the hypotheses are satisfiable and the statements bite on concrete spellings -/

example : Spec.classify "0x_fF__".toList = some (.int 16 [15, 15]) := by decide +kernel
example : delim " # c".toList = true := by decide
example : lex "-9223372036854775808".toList =
    some [.operator .minus, .integer 9223372036854775808] := by decide +kernel
/-- i64::MIN is representable … -/
example : (lex "-9223372036854775808".toList).map parseArithmeticOperand =
    some (.ok (.literalInteger (-9223372036854775808)) []) := by decide +kernel
/-- … 2^63 without the sign is not, and u64::MAX is rejected, not wrapped to -1 -/
example : (lex "9223372036854775808".toList).map parseArithmeticOperand = some .err := by decide +kernel
example : (lex "18446744073709551615".toList).map parseArithmeticOperand = some .err := by decide +kernel
example : lex "18446744073709551616".toList = none := by decide +kernel
example : lex "0b1111_0000".toList = some [.integer 240] := by decide +kernel
/-- real literals: extent and bits (1.5, 12.34e-15 with separators everywhere, the smallest denormal) -/
example : lex "1.5".toList = some [.float 0x3FF8000000000000] := by decide +kernel
example : lex "1__2__.3__4__e-__1__5__".toList = some [.float 0x3D0BC98693305B2F] := by decide +kernel
set_option maxRecDepth 20000 in
example : lex "4.9e-324".toList = some [.float 1] := by decide +kernel
set_option maxRecDepth 20000 in
example : lex "1e309".toList = none := by decide +kernel
/-- the two work-arounds of `lex_and_parse_number` -/
example : lex "1._5".toList = some [.float 0x3FF0000000000000, .identifier "_5".toList] := by decide +kernel
example : lex "0x".toList = none := by decide
-- a real literal never becomes an integer operand, and is rejected where only integers are allowed
example : (lex "-2.0".toList).map parseArithmeticOperand =
    some (.ok (.literalReal 0xC000000000000000) []) := by
  have h : lex "-2.0".toList = some [.operator .minus, .float 0x4000000000000000] := by decide +kernel
  rw [h, Option.map_some, arith_neg_float]
  decide
example : (lex "2.0".toList).map parseBinaryLogicOperand = some .err := by
  have h : lex "2.0".toList = some [.float 0x4000000000000000] := by decide +kernel
  rw [h, Option.map_some, logic_float]

end QV.C05
