import QV.C05.Model
import QV.C05.Spec
import QV.Shared.LexLemmas
/-! Lemmas for C05: the model's digit value and number characters against the specification's
(`digit_class`), when `lex_token` on a digit comes down to `lex_number` and to `lex_decimal_number`, what the
operand parsers do with a numeric token at their head, and the stop conditions `delim` and `numStop`. -/
namespace QV.C05
open QV.Tok QV.Lex

theorem foldl_horner (radix : Nat) (ds : List Nat) (acc : Nat) :
    ds.foldl (fun a d => a * radix + d) acc = acc * radix ^ ds.length + Spec.posValue radix ds := by
  induction ds generalizing acc with
  | nil => simp [Spec.posValue]
  | cons d ds ih =>
    simp only [List.foldl_cons, List.length_cons, Spec.posValue, ih]
    rw [Nat.pow_succ, Nat.add_mul, Nat.mul_assoc, Nat.mul_comm radix, Nat.add_assoc]

theorem posValue_snoc (r : Nat) (ds : List Nat) (d : Nat) :
    Spec.posValue r (ds ++ [d]) = Spec.posValue r ds * r + d := by
  have h := foldl_horner r (ds ++ [d]) 0
  have h' := foldl_horner r ds 0
  simp only [List.foldl_append, List.foldl_cons, List.foldl_nil, h', Nat.zero_mul, Nat.zero_add] at h
  exact h.symm

theorem digitsOf_snoc (a : List Char) (c : Char) (hc : c ≠ '_') :
    Spec.digitsOf (a ++ [c]) = Spec.digitsOf a ++ [Spec.digitVal c] := by
  simp [Spec.digitsOf, List.filter_append, hc]

theorem digit_class (c : Char) :
    (isAsciiDigit c = true ∧ isAsciiAlpha c = false ∧ Spec.digitVal c < 10 ∧ digitOf c = Spec.digitVal c) ∨
    (isAsciiDigit c = false ∧ isAsciiAlpha c = true ∧ 10 ≤ Spec.digitVal c ∧ Spec.digitVal c < 36 ∧
      digitOf c = Spec.digitVal c) ∨
    (isAsciiDigit c = false ∧ isAsciiAlpha c = false ∧ Spec.digitVal c = 36 ∧ digitOf c = 255) := by
  simp only [isAsciiDigit, isAsciiAlpha, Spec.digitVal, digitOf, Bool.and_eq_true, Bool.or_eq_true,
    Bool.and_eq_false_iff, Bool.or_eq_false_iff, decide_eq_true_eq, decide_eq_false_iff_not]
  generalize c.toNat = n
  by_cases h1 : 48 ≤ n ∧ n ≤ 57 <;> by_cases h2 : 97 ≤ n ∧ n ≤ 122 <;>
    by_cases h3 : 65 ≤ n ∧ n ≤ 90 <;> simp [h1, h2, h3] <;> omega

theorem digitOf_eq_digitVal (c : Char) (r : Nat) (hr : r ≤ 36) (h : Spec.digitVal c < r) :
    digitOf c = Spec.digitVal c := by
  rcases digit_class c with ⟨_, _, _, e⟩ | ⟨_, _, _, _, e⟩ | ⟨_, _, e, _⟩
  · exact e
  · exact e
  · omega

theorem digitOf_lt_iff (c : Char) (r : Nat) (hr : r ≤ 36) :
    digitOf c < r ↔ Spec.digitVal c < r := by
  rcases digit_class c with ⟨_, _, _, e⟩ | ⟨_, _, _, _, e⟩ | ⟨_, _, e1, e2⟩
  · rw [e]
  · rw [e]
  · omega

theorem isNumChar_iff (c : Char) (r : Nat) (hr : r ≤ 36) :
    isNumChar r c = true ↔ (c = '_' ∨ Spec.digitVal c < r) := by
  simp [isNumChar, isDigitIn, digitOf_lt_iff c r hr]

theorem runDigits_eq (r : Nat) (hr : r ≤ 36) (s : List Char)
    (hs : ∀ c ∈ s, c = '_' ∨ Spec.digitVal c < r) : runDigits s = Spec.digitsOf s := by
  unfold runDigits Spec.digitsOf
  apply List.map_congr_left
  intro c hc
  simp at hc
  rcases hs c hc.1 with h | h
  · exact absurd h hc.2
  · exact digitOf_eq_digitVal c r hr h

theorem isAsciiDigit_of_digitVal (c : Char) (h : Spec.digitVal c < 10) : isAsciiDigit c = true := by
  rcases digit_class c with ⟨e, _⟩ | ⟨_, _, _, _⟩ | ⟨_, _, _, _⟩
  · exact e
  · omega
  · omega

theorem isDigitString_cons (r : Nat) (c : Char) (cs : List Char) :
    Spec.isDigitString r (c :: cs) = true ↔
      Spec.digitVal c < r ∧ ∀ d ∈ c :: cs, d = '_' ∨ Spec.digitVal d < r := by
  simp only [Spec.isDigitString, Bool.and_eq_true, decide_eq_true_eq, List.all_eq_true, Bool.or_eq_true,
    beq_iff_eq]

theorem isDigitString_parts {r : Nat} {s : List Char} (h : Spec.isDigitString r s = true) :
    ∃ c cs, s = c :: cs ∧ Spec.digitVal c < r ∧ ∀ d ∈ s, d = '_' ∨ Spec.digitVal d < r := by
  cases s with
  | nil => cases h
  | cons c cs => exact ⟨c, cs, rfl, (isDigitString_cons r c cs).1 h⟩

theorem digit_not_leading (c : Char) (h : isAsciiDigit c = true) : isLeading c = false := by
  have hu : (c == '_') = false := beq_eq_false_iff_ne.2 fun e => by subst e; cases h
  rcases digit_class c with ⟨_, e, _⟩ | ⟨e, _⟩ | ⟨e, _⟩
  · rw [isLeading, e, hu]; rfl
  · rw [h] at e; cases e
  · rw [h] at e; cases e

theorem lexToken_digit (c : Char) (r : List Char) (h : isAsciiDigit c = true) :
    lexToken (c :: r) = lexNumber (c :: r) := by
  have hk : lexKeywordOrIdentifier (c :: r) = .error := by
    simp only [lexKeywordOrIdentifier, lexIdentifierRaw, takeWhile1, span, digit_not_leading c h]
    rfl
  rw [lexToken_of_isEnd (isEnd_of_isAsciiDigit h), hk]
  rfl

/-- the literal is followed by a delimiter: end of input, or a character that is neither an identifier
character (letters, digits, `_`) nor `.` -/
def delim (rest : List Char) : Bool := stops (fun c => isEnd c || c == '.') rest

theorem lower_ne_of_not_alpha (d p : Char) (hp : p = 'b' ∨ p = 'o' ∨ p = 'x')
    (h : isAsciiAlpha d = false) : lowerAscii d ≠ p := fun e => by
  unfold lowerAscii at e
  split at e
  · simp [isAsciiAlpha] at h; omega
  · subst e; rcases hp with hp | hp | hp <;> rw [hp] at h <;> cases h

theorem lexRadixInteger_error_of_ne (radix : Nat) (p : Char) (inp : List Char)
    (h : ∀ a d r, inp = a :: d :: r → lowerAscii d ≠ p) : lexRadixInteger radix p inp = .error := by
  unfold lexRadixInteger
  split
  · rename_i c r
    simp [h '0' c r rfl]
  · rfl

theorem lexRadixInteger_error (radix : Nat) (p : Char) (hp : p = 'b' ∨ p = 'o' ∨ p = 'x')
    (inp : List Char) (h : ∀ a d r, inp = a :: d :: r → isAsciiAlpha d = false) :
    lexRadixInteger radix p inp = .error :=
  lexRadixInteger_error_of_ne radix p inp fun a d r e => lower_ne_of_not_alpha d p hp (h a d r e)

theorem numChar10_not_alpha (d : Char) (h : d = '_' ∨ Spec.digitVal d < 10) : isAsciiAlpha d = false := by
  rcases h with h | h
  · subst h; rfl
  · rcases digit_class d with ⟨_, e, _⟩ | ⟨_, _, _, _⟩ | ⟨_, e, _⟩
    · exact e
    · omega
    · exact e

theorem numChar10_ne (c : Char) (h : c = '_' ∨ Spec.digitVal c < 10) (k : Char)
    (hk : k ≠ '_' ∧ 10 ≤ Spec.digitVal k) : c ≠ k := by
  rintro rfl
  rcases h with h | h
  · exact hk.1 h
  · omega

theorem delim_head (rest : List Char) (h : delim rest = true) :
    ∀ d r, rest = d :: r → isEnd d = false ∧ d ≠ '.' := by
  intro d r e
  subst e
  simpa [delim] using h

theorem not_end_not_alpha (d : Char) (h : isEnd d = false) : isAsciiAlpha d = false := by
  simp [isEnd, isLeading] at h
  exact h.1.1

theorem isLoose_all (r : Nat) (s : List Char) (h : Spec.isLooseDigitString r s = true) :
    (∀ c ∈ s, c = '_' ∨ Spec.digitVal c < r) ∧ s ≠ [] := by
  simp only [Spec.isLooseDigitString, Bool.and_eq_true, List.all_eq_true, List.any_eq_true] at h
  refine ⟨fun c hc => by simpa using h.1 c hc, ?_⟩
  obtain ⟨c, hc, _⟩ := h.2
  intro e; subst e; simp at hc

theorem isLoose_digits (r : Nat) (hr : r ≤ 36) (s : List Char) (h : Spec.isLooseDigitString r s = true) :
    Spec.digitsOf s ≠ [] := by
  simp only [Spec.isLooseDigitString, Bool.and_eq_true, List.any_eq_true, decide_eq_true_eq] at h
  obtain ⟨c, hc, hcd⟩ := h.2
  have hcu : c ≠ '_' := fun e => by subst e; simp [Spec.digitVal] at hcd; omega
  exact List.ne_nil_of_mem (a := Spec.digitVal c)
    (List.mem_map.2 ⟨c, List.mem_filter.2 ⟨hc, by simp [hcu]⟩, rfl⟩)

theorem numChar_isEnd (r : Nat) (hr : r ≤ 36) (d : Char) (h : isNumChar r d = true) : isEnd d = true := by
  rcases (isNumChar_iff d r hr).1 h with h | h
  · subst h; rfl
  · rcases digit_class d with ⟨e, _⟩ | ⟨_, e, _⟩ | ⟨_, _, _, _⟩
    · exact isEnd_of_isAsciiDigit e
    · simp only [isEnd, isLeading, e, Bool.true_or]
    · omega

theorem delim_stops_num (r : Nat) (hr : r ≤ 36) (rest : List Char) (h : delim rest = true) :
    stops (isNumChar r) rest = true := by
  cases rest with
  | nil => rfl
  | cons d t =>
    have ⟨h1, _⟩ := delim_head _ h d t rfl
    simp only [stops, Bool.not_eq_true']
    cases hn : isNumChar r d with
    | false => rfl
    | true => rw [numChar_isEnd r hr d hn] at h1; cases h1

theorem delim_stops_num10 (rest : List Char) (h : delim rest = true) :
    stops (isNumChar 10) rest = true :=
  delim_stops_num 10 (by omega) rest h

theorem numRun_append (r : Nat) (hr : r ≤ 36) (s rest : List Char)
    (hs : ∀ c ∈ s, c = '_' ∨ Spec.digitVal c < r) (hstop : stops (isNumChar r) rest = true) :
    numRun r (s ++ rest) = (s, rest) :=
  span_append _ _ _ (fun d hd => (isNumChar_iff d r hr).2 (hs d hd)) hstop

theorem numRun_loose (r : Nat) (hr : r ≤ 36) (s rest : List Char)
    (hs : Spec.isLooseDigitString r s = true) (hstop : stops (isNumChar r) rest = true) :
    numRun r (s ++ rest) = (s, rest) ∧ s ≠ [] ∧ runDigits s = Spec.digitsOf s := by
  obtain ⟨hall, hne⟩ := isLoose_all r s hs
  exact ⟨numRun_append r hr s rest hall hstop, hne, runDigits_eq r hr s hall⟩

theorem map_error {α β : Type} (f : α → β) : Res.map f .error = .error := rfl

theorem orElse_error {α : Type} (k : Unit → Res α) : Res.orElse .error k = k () := rfl

theorem orElse_map_ite (c : Prop) [Decidable c] (v : Nat) (rest : List Char) (k : Unit → Res Token) :
    Res.orElse (Res.map Token.integer (if c then Res.ok v rest else Res.failure)) k =
      if c then .ok (.integer v) rest else .failure := by
  split <;> rfl

theorem two63_eq : two63 = 2 ^ 63 := by decide

theorem arith_float (v : Nat) (rest : List Token) :
    parseArithmeticOperand (.float v :: rest) = .ok (.literalReal v) rest := rfl
theorem arith_neg_float (v : Nat) (rest : List Token) :
    parseArithmeticOperand (.operator .minus :: .float v :: rest) =
      .ok (.literalReal (QV.DecF64.negBits v)) rest := by simp [parseArithmeticOperand, applySign]
/-- a magnitude that `signed_integer` rejects is an error of the whole operand: the memory-reference
alternative is tried next, and fails on the same tokens -/
theorem operand_int (neg : Bool) (n : Nat) (rest : List Token) :
    let ts := (if neg then [Token.operator .minus] else []) ++ Token.integer n :: rest
    let r : PRes Operand := match signedInteger neg n with
      | some z => .ok (.literalInteger z) rest
      | none => .err
    parseArithmeticOperand ts = r ∧ parseBinaryLogicOperand ts = r := by
  cases neg <;> cases h : signedInteger _ n <;>
    simp [parseArithmeticOperand, parseBinaryLogicOperand, parseMemoryReference, h]

theorem signedInteger_eq (neg : Bool) (n : Nat) :
    signedInteger neg n =
      if -(2 ^ 63 : Int) ≤ (if neg then -(n : Int) else n) ∧ (if neg then -(n : Int) else n) < (2 ^ 63 : Int)
      then some (if neg then -(n : Int) else n) else none := by
  have h63 : (2 ^ 63 : Int) = 9223372036854775808 := by decide
  rw [h63]
  cases neg <;>
    simp only [signedInteger, i64TryFromU64, zeroCheckedSubUnsigned, two63, Bool.false_eq_true, if_false,
      if_true]
  · by_cases h : n < 9223372036854775808 <;> simp [h] <;> omega
  · by_cases h : n ≤ 9223372036854775808 <;> simp [h] <;> omega

theorem logic_float (v : Nat) (rest : List Token) :
    parseBinaryLogicOperand (.float v :: rest) = .err := by simp [parseBinaryLogicOperand, parseMemoryReference]
theorem logic_neg_float (v : Nat) (rest : List Token) :
    parseBinaryLogicOperand (.operator .minus :: .float v :: rest) = .err := by
  simp [parseBinaryLogicOperand, parseMemoryReference]

theorem classifyReal_not_int (s : List Char) (r : Nat) (ds : List Nat) :
    Spec.classifyReal s ≠ some (.int r ds) := by
  unfold Spec.classifyReal
  simp only
  split
  · split <;> simp
  · split <;> simp

theorem classify_int_head (body : List Char) (r : Nat) (ds : List Nat)
    (hc : Spec.classify body = some (.int r ds)) : ∃ c cs, body = c :: cs ∧ isAsciiDigit c = true := by
  have hdec : ∀ s, Spec.isDigitString 10 s = true → ∃ c cs, s = c :: cs ∧ isAsciiDigit c = true :=
    fun s hs =>
      have ⟨c, cs, e, hc, _⟩ := isDigitString_parts hs
      ⟨c, cs, e, isAsciiDigit_of_digitVal c hc⟩
  unfold Spec.classify at hc
  split at hc
  · exact ⟨'0', _, rfl, rfl⟩
  · split at hc
    · rename_i hs; exact hdec _ hs
    · exact absurd hc (classifyReal_not_int _ _ _)

/-- the next character (if any) neither continues a decimal number (`0-9 _ . e E`) nor turns a leading `0`
into a radix prefix (`b o x`, either case).  Weaker than `delim` (`delim_numStop`) so as to cover `2i`, `1.0i`:
the Rust writers print an imaginary number with the `i` glued to the literal. -/
def numStop (rest : List Char) : Bool :=
  stops (fun c => isNumChar 10 c || c == '.' || c == 'e' || c == 'E' || lowerAscii c == 'b' ||
    lowerAscii c == 'o' || lowerAscii c == 'x') rest

theorem numStop_head (rest : List Char) (h : numStop rest = true) :
    ∀ d r, rest = d :: r → isNumChar 10 d = false ∧ d ≠ '.' ∧ d ≠ 'e' ∧ d ≠ 'E' ∧
      lowerAscii d ≠ 'b' ∧ lowerAscii d ≠ 'o' ∧ lowerAscii d ≠ 'x' := by
  intro d r e
  subst e
  simpa [numStop, and_assoc] using h

theorem numStop_stops_num10 (rest : List Char) (h : numStop rest = true) :
    stops (isNumChar 10) rest = true := by
  cases rest with
  | nil => rfl
  | cons d r => simp [(numStop_head _ h d r rfl).1]

theorem delim_numStop (rest : List Char) (h : delim rest = true) : numStop rest = true := by
  cases rest with
  | nil => rfl
  | cons d r =>
    have ⟨h1, h2⟩ := delim_head _ h d r rfl
    have hna := not_end_not_alpha d h1
    have hn : isNumChar 10 d = false := by simpa using delim_stops_num 10 (by omega) _ h
    have he : d ≠ 'e' := by intro e; subst e; simp [isAsciiAlpha] at hna
    have hE : d ≠ 'E' := by intro e; subst e; simp [isAsciiAlpha] at hna
    have hp : ∀ p, (p = 'b' ∨ p = 'o' ∨ p = 'x') → lowerAscii d ≠ p := fun p hp => lower_ne_of_not_alpha d p hp hna
    simp [numStop, hn, h2, he, hE, hp 'b' (by simp), hp 'o' (by simp), hp 'x' (by simp)]

theorem lexNumber_decimal (inp : List Char)
    (h : ∀ a d r, inp = a :: d :: r → lowerAscii d ≠ 'b' ∧ lowerAscii d ≠ 'o' ∧ lowerAscii d ≠ 'x') :
    lexNumber inp = lexDecimalNumber inp := by
  simp only [lexNumber, lexBinaryInteger, lexOctalInteger, lexHexadecimalInteger,
    lexRadixInteger_error_of_ne _ _ _ fun a d r e => (h a d r e).1,
    lexRadixInteger_error_of_ne _ _ _ fun a d r e => (h a d r e).2.1,
    lexRadixInteger_error_of_ne _ _ _ fun a d r e => (h a d r e).2.2, map_error, orElse_error]

theorem lexToken_decimal_head (c : Char) (cs t : List Char) (hc : Spec.digitVal c < 10)
    (hall : ∀ d ∈ cs, d = '_' ∨ Spec.digitVal d < 10)
    (ht : ∀ d r, t = d :: r → lowerAscii d ≠ 'b' ∧ lowerAscii d ≠ 'o' ∧ lowerAscii d ≠ 'x') :
    lexToken (c :: cs ++ t) = lexDecimalNumber (c :: cs ++ t) := by
  rw [List.cons_append, lexToken_digit c _ (isAsciiDigit_of_digitVal c hc)]
  apply lexNumber_decimal
  intro a d r e
  cases cs with
  | nil => exact ht d r (List.cons.inj e).2
  | cons d' cs' =>
    obtain ⟨rfl, _⟩ := List.cons.inj (List.cons.inj e).2
    have hna := numChar10_not_alpha _ (hall d' (by simp))
    exact ⟨lower_ne_of_not_alpha _ _ (.inl rfl) hna, lower_ne_of_not_alpha _ _ (.inr (.inl rfl)) hna,
      lower_ne_of_not_alpha _ _ (.inr (.inr rfl)) hna⟩

end QV.C05
