import QV.C34.Lemmas
import QV.C34.Spec
import QV.Shared.ListLemmas
/-
C34 — Placeholder resolution assigns unique, consistent values.

Statement (properties.jsonl): "Default resolution replaces every qubit and label placeholder in the
body, giving distinct placeholders distinct values and each placeholder the same value at every
occurrence. No resolved qubit equals a fixed qubit already used by the body, and no resolved label
equals an existing label or jump target. Custom resolvers replace exactly the placeholders they
return values for."

The specification (Spec.lean) talks only about the body before and after, position by position. Any resolver that is
defined, injective and fresh on the placeholders of the body meets it (`qubitsResolved_of_resolver`,
`targetsResolved_of_resolver`); the default tables are such resolvers; `wellProjected` carries the qubit part from what
`get_qubits` reports to all qubits.
-/
namespace QV.C34

variable (tr : Nat → Option String) (qr : Nat → Option Nat)

theorem mem_qpairs_resolve {body : List Instr} {p : Qubit × Qubit}
    (h : p ∈ qpairs Instr.getQubits body (resolveWith tr qr body)) :
    ∃ q ∈ body.flatMap Instr.getQubits, (q, q.resolve qr) = p := by
  simpa only [qpairs, visibleQubits_resolve, zip_map_self, List.mem_map] using h

theorem mem_tpairs_resolve {body : List Instr} {p : Target × Target}
    (h : p ∈ tpairs body (resolveWith tr qr body)) : ∃ t ∈ getTargets body, (t, t.resolve tr) = p := by
  simpa only [tpairs, getTargets_resolve, zip_map_self, List.mem_map] using h

/-- **Nothing but qubits and targets changes**, whatever the resolvers. -/
theorem C34_skeleton (body : List Instr) :
    SameSkeleton body (resolveWith tr qr body) := by
  simp only [SameSkeleton, resolveWith, List.map_map]
  apply List.map_congr_left
  intro i _
  cases i with
  | tgt k t s => rfl
  | qs k s l => by_cases hv : visible k = true <;> simp [Instr.resolve, skeleton, hv]

/-- **Custom resolvers replace exactly the placeholders they return values for** — for the qubits
`get_qubits` reports and for every label target; all other positions are left as they are. -/
theorem C34_custom (body : List Instr) :
    QubitsCustom Instr.getQubits qr body (resolveWith tr qr body) ∧
    TargetsCustom tr body (resolveWith tr qr body) := by
  constructor
  · intro p hp
    obtain ⟨q, _, rfl⟩ := mem_qpairs_resolve tr qr hp
    cases q with
    | placeholder k => simp only [Qubit.resolve]; cases qr k <;> rfl
    | _ => rfl
  · intro p hp
    obtain ⟨t, _, rfl⟩ := mem_tpairs_resolve tr qr hp
    cases t with
    | fixed s => rfl
    | placeholder k b => simp only [Target.resolve]; cases tr k <;> rfl

/-! ### The specification does not prescribe WHICH fresh values

The model picks the least unused index / the first free suffix because the code does
(`C34_default_qubits_least` is a statement about that choice).  The property, and the checker
evaluated on the implementation's output, only need uniqueness, consistency and freshness: ANY
assignment with these three properties yields a body that satisfies the specification — so an
implementation that chooses other fresh values (a block above the highest fixed qubit, one shared
suffix counter, …) is accepted, via `qubitsResolvedB_iff` / `targetsResolvedB_iff` / `stepSpecB_iff`. -/

theorem qubitsResolved_of_resolver (body : List Instr) (tr : Nat → Option String) (qr : Nat → Option Nat)
    (hcov : ∀ k, Qubit.placeholder k ∈ body.flatMap Instr.getQubits → ∃ n, qr k = some n)
    (hinj : ∀ k k' n, Qubit.placeholder k ∈ body.flatMap Instr.getQubits →
      Qubit.placeholder k' ∈ body.flatMap Instr.getQubits → qr k = some n → qr k' = some n → k = k')
    (hfresh : ∀ k n, Qubit.placeholder k ∈ body.flatMap Instr.getQubits → qr k = some n →
      Qubit.fixed n ∉ body.flatMap Instr.getQubits) :
    QubitsResolved Instr.getQubits body (resolveWith tr qr body) := by
  refine ⟨?_, ?_, ?_⟩
  · intro p hp
    obtain ⟨q, hq, rfl⟩ := mem_qpairs_resolve tr qr hp
    cases q with
    | placeholder k =>
      obtain ⟨n, hn⟩ := hcov k hq
      exact ⟨n, resolve_of_some hn⟩
    | _ => rfl
  · intro p hp p' hp' k k' h1 h2
    obtain ⟨q, hq, rfl⟩ := mem_qpairs_resolve tr qr hp
    obtain ⟨q', hq', rfl⟩ := mem_qpairs_resolve tr qr hp'
    subst h1 h2
    obtain ⟨n, hn⟩ := hcov k hq
    obtain ⟨n', hn'⟩ := hcov k' hq'
    simp only [resolve_of_some hn, resolve_of_some hn', Qubit.fixed.injEq]
    constructor
    · rintro rfl; exact Option.some.inj (hn.symm.trans hn')
    · rintro rfl; exact hinj k k' n hq hq' hn hn'
  · intro p hp k h1
    obtain ⟨q, hq, rfl⟩ := mem_qpairs_resolve tr qr hp
    subst h1
    obtain ⟨n, hn⟩ := hcov k hq
    rw [resolve_of_some hn]
    exact hfresh k n hq hn

theorem C34_any_fresh_qubit_assignment (body : List Instr) (tr : Nat → Option String) (fq : Nat → Nat)
    (hinj : ∀ k k', Qubit.placeholder k ∈ body.flatMap Instr.getQubits →
      Qubit.placeholder k' ∈ body.flatMap Instr.getQubits → fq k = fq k' → k = k')
    (hfresh : ∀ k, Qubit.placeholder k ∈ body.flatMap Instr.getQubits →
      Qubit.fixed (fq k) ∉ body.flatMap Instr.getQubits) :
    QubitsResolved Instr.getQubits body (resolveWith tr (fun k => some (fq k)) body) :=
  qubitsResolved_of_resolver body tr _ (fun k _ => ⟨fq k, rfl⟩)
    (fun k k' _ hk hk' h h' => hinj k k' hk hk' (Option.some.inj (h.trans h'.symm)))
    (fun k _ hk h => Option.some.inj h ▸ hfresh k hk)

theorem targetsResolved_of_resolver (body : List Instr) (tr : Nat → Option String) (qr : Nat → Option Nat)
    (hcov : ∀ k b, Target.placeholder k b ∈ getTargets body → ∃ l, tr k = some l)
    (hinj : ∀ k b k' b' l, Target.placeholder k b ∈ getTargets body →
      Target.placeholder k' b' ∈ getTargets body → tr k = some l → tr k' = some l → k = k')
    (hfresh : ∀ k b l, Target.placeholder k b ∈ getTargets body → tr k = some l →
      Target.fixed l ∉ getTargets body) :
    TargetsResolved body (resolveWith tr qr body) := by
  refine ⟨?_, ?_, ?_⟩
  · intro p hp
    obtain ⟨t, ht, rfl⟩ := mem_tpairs_resolve tr qr hp
    cases t with
    | fixed s => rfl
    | placeholder k b =>
      obtain ⟨l, hl⟩ := hcov k b ht
      exact ⟨l, resolve_target_of_some hl⟩
  · intro p hp p' hp' k b k' b' h1 h2
    obtain ⟨t, ht, rfl⟩ := mem_tpairs_resolve tr qr hp
    obtain ⟨t', ht', rfl⟩ := mem_tpairs_resolve tr qr hp'
    subst h1 h2
    obtain ⟨l, hl⟩ := hcov k b ht
    obtain ⟨l', hl'⟩ := hcov k' b' ht'
    simp only [resolve_target_of_some hl, resolve_target_of_some hl', Target.fixed.injEq]
    constructor
    · rintro rfl; exact Option.some.inj (hl.symm.trans hl')
    · rintro rfl; exact hinj k b k' b' l ht ht' hl hl'
  · intro p hp k b h1
    obtain ⟨t, ht, rfl⟩ := mem_tpairs_resolve tr qr hp
    subst h1
    obtain ⟨l, hl⟩ := hcov k b ht
    rw [resolve_target_of_some hl]
    exact hfresh k b l ht hl

theorem C34_any_fresh_label_assignment (body : List Instr) (qr : Nat → Option Nat) (ft : Nat → String)
    (hinj : ∀ k b k' b', Target.placeholder k b ∈ getTargets body →
      Target.placeholder k' b' ∈ getTargets body → ft k = ft k' → k = k')
    (hfresh : ∀ k b, Target.placeholder k b ∈ getTargets body → Target.fixed (ft k) ∉ getTargets body) :
    TargetsResolved body (resolveWith (fun k => some (ft k)) qr body) :=
  targetsResolved_of_resolver body _ qr (fun k _ _ => ⟨ft k, rfl⟩)
    (fun k b k' b' _ hk hk' h h' => hinj k b k' b' hk hk' (Option.some.inj (h.trans h'.symm)))
    (fun k b _ hk h => Option.some.inj h ▸ hfresh k b hk)

/-- The label search always terminates within `labelFuel`: the model never reports `none`, for any body. -/
theorem C34_default_targets_total (body : List Instr) : defaultTargetResolutions body ≠ none := by
  obtain ⟨r, hr, _⟩ := assignLabels_spec (targetPlaceholders (getTargets body)) (fixedLabels (getTargets body))
  exact fun h => nomatch hr.symm.trans h

/-- **Default label table**: one entry per distinct label placeholder of the body; every resolved
label differs from every existing (fixed) label or jump target and from every other resolved
label. -/
theorem C34_default_target_table (body : List Instr) (dt : List (Nat × String))
    (h : defaultTargetResolutions body = some dt) :
    (∀ k b, Target.placeholder k b ∈ getTargets body → ∃ l, lookupS k dt = some l) ∧
    (∀ kv ∈ dt, Target.fixed kv.2 ∉ getTargets body) ∧
    dt.Pairwise (fun a b => a.2 ≠ b.2) := by
  obtain ⟨r, hr, hk, hf, hp⟩ :=
    assignLabels_spec (targetPlaceholders (getTargets body)) (fixedLabels (getTargets body))
  cases hr.symm.trans h
  refine ⟨fun k b hm => ?_, fun kv hkv hm => ?_, hp⟩
  · rw [lookupS_eq]
    apply exists_lookup_of_mem_keys
    rw [hk, targetPlaceholders, mem_dedupKeys]
    exact .inr (List.mem_map.mpr ⟨(k, b), List.mem_filterMap.mpr ⟨_, hm, rfl⟩, rfl⟩)
  · exact hf kv hkv (List.mem_filterMap.mpr ⟨_, hm, rfl⟩)

/-- **Default qubit table**: one entry per distinct qubit placeholder that `get_qubits` reports,
in order of first occurrence; the values are strictly increasing (hence pairwise distinct) and none
is a fixed qubit reported by `get_qubits`.  That no free index is skipped is
`C34_default_qubits_least`. -/
theorem C34_default_qubit_table (body : List Instr) :
    (defaultQubitResolutions body).map Prod.fst = qubitPlaceholders body ∧
    (∀ kv ∈ defaultQubitResolutions body, Qubit.fixed kv.2 ∉ allVisibleQubits body) ∧
    (defaultQubitResolutions body).Pairwise (fun a b => a.2 < b.2) :=
  ⟨assignQubits_keys _ _ _,
    fun kv hkv hm => (assignQubits_values _ _ _ kv hkv).2 (List.mem_filterMap.mpr ⟨_, hm, rfl⟩),
    assignQubits_increasing _ _ _⟩

/-- no free index is skipped: a free index `j ≥ cur` that the assignment does not use lies above every value it
assigns (so between two consecutive values, and before the first, every index is used) -/
theorem C34_default_qubits_least (used : List Nat) : ∀ (ps : List Nat) (cur : Nat),
    ∀ j, cur ≤ j → j ∉ used → (∀ kv ∈ assignQubits used ps cur, kv.2 ≠ j) →
      ∀ kv ∈ assignQubits used ps cur, kv.2 < j := by
  intro ps
  induction ps with
  | nil => intro cur j _ _ _ kv h; simp [assignQubits] at h
  | cons p rest ih =>
    intro cur j hj hju hne kv hkv
    simp only [assignQubits, List.mem_cons] at hkv hne
    have hs := nextFree_spec used cur
    have hlt : nextFree used cur < j := by
      have h1 := hne (p, nextFree used cur) (Or.inl rfl)
      by_cases hlt : nextFree used cur < j
      · exact hlt
      · have : j < nextFree used cur := by simp at h1; omega
        exact absurd (hs.2.2 j hj this) hju
    rcases hkv with rfl | hkv
    · exact hlt
    · exact ih (nextFree used cur + 1) j (by omega) hju (fun kv h => hne kv (Or.inr h)) kv hkv

/-- Label part, whatever qubit resolver is used alongside: if the target resolver is the default
table of THIS body, every label placeholder is replaced, consistently, injectively, and never by an
existing label or jump target. -/
theorem C34_targets_with (body : List Instr) (dt : List (Nat × String))
    (hdt : defaultTargetResolutions body = some dt) (qr : Nat → Option Nat) :
    TargetsResolved body (resolveWith (fun k => lookupS k dt) qr body) := by
  obtain ⟨hcov, hfresh, hpw⟩ := C34_default_target_table body dt hdt
  have hmem : ∀ {k l}, lookupS k dt = some l → (k, l) ∈ dt := fun h => mem_of_lookup (lookupS_eq _ _ ▸ h)
  exact targetsResolved_of_resolver body _ qr hcov
    (fun k _ k' _ l _ _ hl hl' => congrArg Prod.fst (pairwise_snd_inj hpw (hmem hl) (hmem hl') rfl))
    (fun k _ l _ hl => hfresh (k, l) (hmem hl))

/-- Qubit part, whatever target resolver is used alongside: if the qubit resolver is the default
table of THIS body, then on the qubits `get_qubits` reports every placeholder is replaced,
consistently, injectively, by indices that are not fixed qubits of the body as it stands. -/
theorem C34_qubits_with (body : List Instr) (tr : Nat → Option String) :
    QubitsResolved Instr.getQubits body
      (resolveWith tr (fun k => lookupN k (defaultQubitResolutions body)) body) := by
  obtain ⟨hkeys, hfresh, hpw⟩ := C34_default_qubit_table body
  have hmem : ∀ {k n}, lookupN k (defaultQubitResolutions body) = some n →
      (k, n) ∈ defaultQubitResolutions body := fun h => mem_of_lookup (lookupN_eq _ _ ▸ h)
  refine qubitsResolved_of_resolver body tr _ (fun k hm => ?_)
    (fun k k' n _ _ hn hn' => congrArg Prod.fst
      (pairwise_snd_inj (hpw.imp Nat.ne_of_lt) (hmem hn) (hmem hn') rfl))
    (fun k n _ hn => hfresh (k, n) (hmem hn))
  rw [lookupN_eq]
  apply exists_lookup_of_mem_keys
  rw [hkeys, qubitPlaceholders, mem_dedupNat]
  exact .inr (List.mem_filterMap.mpr ⟨_, hm, rfl⟩)

/-- **C34 for label targets (full strength)**: after default resolution every label placeholder of
the body is replaced, the same placeholder by the same label everywhere, distinct placeholders by
distinct labels, and no resolved label equals an existing label or jump target. -/
theorem C34_targets (body out : List Instr) (h : resolvePlaceholders body = some out) :
    TargetsResolved body out := by
  obtain ⟨dt, hdt, rfl⟩ := resolvePlaceholders_eq h
  exact C34_targets_with body dt hdt _

/-- **C34 for qubits, as far as the code goes**: on the qubits that `get_qubits` reports, default
resolution replaces every placeholder, consistently and injectively, by indices that are not fixed
qubits reported by `get_qubits`. -/
theorem C34_qubits_visible (body out : List Instr) (h : resolvePlaceholders body = some out) :
    QubitsResolved Instr.getQubits body out := by
  obtain ⟨dt, _, rfl⟩ := resolvePlaceholders_eq h
  exact C34_qubits_with body _

/-- The projection is well formed: only instructions of the kinds that carry qubits (the table
`visibleKinds`) come with a non-empty qubit list.  The harness's traversal returns no qubits for
every other variant (PRAGMA, classical instructions, NOP, …), and the driver re-checks this on
every case. -/
def wellProjected (body : List Instr) : Bool :=
  body.all fun | .tgt _ _ _ => true | .qs k _ l => visible k || l.isEmpty

theorem allQubits_eq_getQubits {body : List Instr} (h : wellProjected body = true) :
    body.flatMap Instr.allQubits = body.flatMap Instr.getQubits := by
  induction body with
  | nil => rfl
  | cons i rest ih =>
    simp only [wellProjected, List.all_cons, Bool.and_eq_true] at h
    simp only [List.flatMap_cons, ih h.2]
    cases i with
    | tgt k t s => rfl
    | qs k s l =>
      have h1 := h.1
      simp only [Bool.or_eq_true, List.isEmpty_iff] at h1
      rcases h1 with hv | rfl
      · simp [Instr.allQubits, Instr.getQubits, hv]
      · simp [Instr.allQubits, Instr.getQubits]

theorem wellProjected_resolve (body : List Instr)
    (hv : wellProjected body = true) : wellProjected (resolveWith tr qr body) = true := by
  simp only [wellProjected, resolveWith, List.all_map] at hv ⊢
  apply List.all_eq_true.mpr
  intro i hi
  have := List.all_eq_true.mp hv i hi
  cases i with
  | tgt k t s => rfl
  | qs k s l =>
    by_cases hvk : visible k = true
    · simp [Instr.resolve, hvk]
    · simp only [hvk, Bool.false_or] at this
      simp [Instr.resolve, hvk, this]

theorem qpairs_all_eq {body : List Instr}
    (hv : wellProjected body = true) :
    qpairs Instr.allQubits body (resolveWith tr qr body) =
      qpairs Instr.getQubits body (resolveWith tr qr body) := by
  simp only [qpairs, allQubits_eq_getQubits hv, allQubits_eq_getQubits (wellProjected_resolve tr qr body hv)]

theorem qubitsResolved_all_of_visible
    (body : List Instr) (hv : wellProjected body = true)
    (hq : QubitsResolved Instr.getQubits body (resolveWith tr qr body)) :
    QubitsResolved Instr.allQubits body (resolveWith tr qr body) := by
  have ep := qpairs_all_eq tr qr hv
  exact ⟨by rw [ep]; exact hq.replaced, by rw [ep]; exact hq.consistent,
    by rw [ep, allQubits_eq_getQubits hv]; exact hq.fresh⟩

/-- **Custom resolvers, full statement**: over ALL qubits of a well-projected body (and all label targets) a
custom resolver replaces exactly the placeholders it returns values for and leaves every other
placeholder, fixed qubit, variable and label as it is. -/
theorem C34_custom_full (body : List Instr)
    (hv : wellProjected body = true) :
    SameSkeleton body (resolveWith tr qr body) ∧
    QubitsCustom Instr.allQubits qr body (resolveWith tr qr body) ∧
    TargetsCustom tr body (resolveWith tr qr body) := by
  obtain ⟨hq, ht⟩ := C34_custom tr qr body
  refine ⟨C34_skeleton tr qr body, ?_, ht⟩
  rw [QubitsCustom, qpairs_all_eq tr qr hv]
  exact hq

/-- **One call, any entry point, any well-projected body**: the call succeeds, the result is again well
projected, and it meets `StepSpec` — default parts are resolved completely, consistently,
injectively and freshly w.r.t. the body as it stands before the call; custom parts replace exactly
their domain. -/
theorem C34_step (c : Call) (body : List Instr) (hv : wellProjected body = true) :
    ∃ out, resolveMode c.mode c.tmap c.qmap body = some out ∧ wellProjected out = true ∧
      StepSpec c body out := by
  obtain ⟨mode, tmap, qmap⟩ := c
  cases hdt : defaultTargetResolutions body with
  | none => exact absurd hdt (C34_default_targets_total body)
  | some dt =>
    have hdq (tr) := qubitsResolved_all_of_visible tr _ body hv (C34_qubits_with body tr)
    cases mode with
    | default =>
      exact ⟨_, by simp [resolveMode, hdt], wellProjected_resolve _ _ _ hv, C34_skeleton _ _ _,
        C34_targets_with body dt hdt _, hdq _⟩
    | custom =>
      obtain ⟨h1, h2, h3⟩ := C34_custom_full (fun k => lookupS k tmap) (fun k => lookupN k qmap) body hv
      exact ⟨_, rfl, wellProjected_resolve _ _ _ hv, h1, h3, h2⟩
    | customTargets =>
      exact ⟨_, rfl, wellProjected_resolve _ _ _ hv, C34_skeleton _ _ _,
        (C34_custom (fun k => lookupS k tmap) _ body).2, hdq _⟩
    | customQubits =>
      exact ⟨_, by simp [resolveMode, hdt], wellProjected_resolve _ _ _ hv, C34_skeleton _ _ _,
        C34_targets_with body dt hdt _,
        (C34_custom_full (fun k => lookupS k dt) (fun k => lookupN k qmap) body hv).2.1⟩

/-- **C34, full statement.**  For every well-projected body (any instructions: gates, MEASURE, RESET, DELAY, FENCE,
PULSE, CAPTURE, RAW-CAPTURE, the frame-mutation instructions, labels and jumps, anything else),
default resolution succeeds and: nothing but qubits and targets changes; every qubit placeholder
and every label placeholder in the body is replaced; the same placeholder gets the same value at
every occurrence and distinct placeholders get distinct values; no resolved qubit equals a fixed
qubit used anywhere in the body; no resolved label equals an existing label or jump target. -/
theorem C34_full (body : List Instr) (hv : wellProjected body = true) :
    ∃ out, resolvePlaceholders body = some out ∧ SameSkeleton body out ∧
      TargetsResolved body out ∧ QubitsResolved Instr.allQubits body out := by
  obtain ⟨out, ho, _, hs⟩ := C34_step ⟨.default, [], []⟩ body hv
  exact ⟨out, ho, hs⟩

/-- **Any sequence of calls on the same program, from a well-projected body** (partial custom resolvers, then default, default
twice, custom after default, …): every call succeeds and meets its specification relative to the
body the previous call left — in particular a later default call never resolves a placeholder to a
qubit that an earlier call made fixed. -/
theorem C34_seq : ∀ (calls : List Call) (body : List Instr), wellProjected body = true →
    ∃ outs, resolveSeq calls body = some outs ∧ SeqSpec calls body outs := by
  intro calls
  induction calls with
  | nil => intro body _; exact ⟨[], rfl, rfl⟩
  | cons c cs ih =>
    intro body hv
    obtain ⟨out, ho, hvo, hs⟩ := C34_step c body hv
    obtain ⟨outs, hos, hss⟩ := ih out hvo
    exact ⟨out :: outs, by simp [resolveSeq, ho, hos], out, outs, rfl, hs, hss⟩

/-! ### The Bool checkers evaluated by the driver mean the Prop specification

Each checker is a conjunction of `List.all` over the pairs, each clause of the specification a
`∀ p ∈ pairs`; so the equivalences are pointwise, proved for a single pair (or two) by cases on what
stood there before. -/

/-- the shape shared by `qubitsResolvedB` and `targetsResolvedB` -/
private theorem all_resolvedB_iff {α : Type} (ps : List α) {r f : α → Bool} {c : α → α → Bool}
    {R F : α → Prop} {C : α → α → Prop}
    (hr : ∀ p, r p = true ↔ R p) (hc : ∀ p p', c p p' = true ↔ C p p') (hf : ∀ p, f p = true ↔ F p) :
    (ps.all r && ps.all (fun p => ps.all (c p)) && ps.all f) = true ↔
      (∀ p ∈ ps, R p) ∧ (∀ p ∈ ps, ∀ p' ∈ ps, C p p') ∧ (∀ p ∈ ps, F p) := by
  simp only [Bool.and_eq_true, List.all_eq_true, hr, hc, hf, and_assoc]

theorem qubitsResolvedB_iff (view : Instr → List Qubit) (body out : List Instr) :
    qubitsResolvedB view body out = true ↔ QubitsResolved view body out :=
  (all_resolvedB_iff (qpairs view body out) (fun ⟨a, b⟩ => by cases a <;> cases b <;> simp)
    (fun ⟨a, b⟩ ⟨a', b'⟩ => by cases a <;> cases a' <;> simp)
    (fun ⟨a, b⟩ => by cases a <;> simp)).trans
    ⟨fun ⟨h1, h2, h3⟩ => ⟨h1, h2, h3⟩, fun h => ⟨h.replaced, h.consistent, h.fresh⟩⟩

theorem targetsResolvedB_iff (body out : List Instr) :
    targetsResolvedB body out = true ↔ TargetsResolved body out :=
  (all_resolvedB_iff (tpairs body out) (fun ⟨a, b⟩ => by cases a <;> cases b <;> simp)
    (fun ⟨a, v⟩ ⟨a', v'⟩ => by
      cases a <;> cases a' <;> simp
      rename_i k b k' b'
      exact ⟨fun h _ _ _ _ e _ e' _ => e ▸ e' ▸ h, fun h => h k b k' b' rfl rfl rfl rfl⟩)
    (fun ⟨a, b⟩ => by cases a <;> simp)).trans
    ⟨fun ⟨h1, h2, h3⟩ => ⟨h1, h2, h3⟩, fun h => ⟨h.replaced, h.consistent, h.fresh⟩⟩

theorem qubitsCustomB_iff (view : Instr → List Qubit) (qr : Nat → Option Nat) (body out : List Instr) :
    qubitsCustomB view qr body out = true ↔ QubitsCustom view qr body out := by
  refine List.all_eq_true.trans (forall₂_congr fun ⟨a, b⟩ _ => ?_)
  cases a with
  | placeholder k => cases h : qr k <;> simp [h]
  | _ => simp

theorem targetsCustomB_iff (tr : Nat → Option String) (body out : List Instr) :
    targetsCustomB tr body out = true ↔ TargetsCustom tr body out := by
  refine List.all_eq_true.trans (forall₂_congr fun ⟨a, b⟩ _ => ?_)
  cases a with
  | placeholder k _ => cases h : tr k <;> simp [h]
  | fixed _ => simp

theorem sameSkeletonB_iff (body out : List Instr) : sameSkeletonB body out = true ↔ SameSkeleton body out := by
  simp [sameSkeletonB, SameSkeleton]

theorem stepSpecB_iff (c : Call) (before after : List Instr) :
    stepSpecB c before after = true ↔ StepSpec c before after := by
  obtain ⟨mode, tmap, qmap⟩ := c
  cases mode <;>
    simp only [stepSpecB, StepSpec, Bool.and_eq_true, sameSkeletonB_iff, targetsResolvedB_iff,
      targetsCustomB_iff, qubitsResolvedB_iff, qubitsCustomB_iff, and_assoc]

theorem seqSpecB_iff : ∀ (calls : List Call) (body : List Instr) (outs : List (List Instr)),
    seqSpecB calls body outs = true ↔ SeqSpec calls body outs := by
  intro calls
  induction calls with
  | nil => intro body outs; simp [seqSpecB, SeqSpec]
  | cons c cs ih =>
    intro body outs
    cases outs with
    | nil => simp [seqSpecB, SeqSpec]
    | cons o rest =>
      simp only [seqSpecB, SeqSpec, Bool.and_eq_true, stepSpecB_iff, ih]
      constructor
      · intro ⟨h1, h2⟩; exact ⟨o, rest, rfl, h1, h2⟩
      · rintro ⟨o', rest', heq, h1, h2⟩
        simp only [List.cons.injEq] at heq
        obtain ⟨rfl, rfl⟩ := heq
        exact ⟨h1, h2⟩

/-- a two-call scenario: `CZ p1 p2; CNOT p1 p3`, first a custom qubit resolver mapping only
p1 ↦ 0, then the default resolver — p2 and p3 must avoid the now-fixed qubit 0 -/
example : resolveSeq [⟨.custom, [], [(0, 0)]⟩, ⟨.default, [], []⟩]
    [.qs "Gate" "CZ 0 0" [.placeholder 0, .placeholder 1], .qs "Gate" "CNOT 0 0" [.placeholder 0, .placeholder 2]]
    = some [[.qs "Gate" "CZ 0 0" [.fixed 0, .placeholder 1], .qs "Gate" "CNOT 0 0" [.fixed 0, .placeholder 2]],
            [.qs "Gate" "CZ 0 0" [.fixed 0, .fixed 1], .qs "Gate" "CNOT 0 0" [.fixed 0, .fixed 2]]] := by decide +kernel

/-- the comparison used by the correspondence ignores WHICH fresh value was chosen (`X 0; X 2; X p`:
p ↦ 1 as the model picks, or p ↦ 3 as a "block above the highest fixed qubit" policy would) but not
whether a position was resolved, nor anything else -/
example :
    maskBody true true [.qs "Gate" "X 0" [.fixed 0], .qs "Gate" "X 0" [.fixed 2], .qs "Gate" "X 0" [.placeholder 0]]
      [.qs "Gate" "X 0" [.fixed 0], .qs "Gate" "X 0" [.fixed 2], .qs "Gate" "X 0" [.fixed 3]] =
    maskBody true true [.qs "Gate" "X 0" [.fixed 0], .qs "Gate" "X 0" [.fixed 2], .qs "Gate" "X 0" [.placeholder 0]]
      [.qs "Gate" "X 0" [.fixed 0], .qs "Gate" "X 0" [.fixed 2], .qs "Gate" "X 0" [.fixed 1]] ∧
    maskBody true true [.qs "Gate" "X 0" [.placeholder 0]] [.qs "Gate" "X 0" [.placeholder 0]] ≠
    maskBody true true [.qs "Gate" "X 0" [.placeholder 0]] [.qs "Gate" "X 0" [.fixed 1]] ∧
    qubitsResolvedB Instr.allQubits
      [.qs "Gate" "X 0" [.fixed 0], .qs "Gate" "X 0" [.fixed 2], .qs "Gate" "X 0" [.placeholder 0]]
      [.qs "Gate" "X 0" [.fixed 0], .qs "Gate" "X 0" [.fixed 2], .qs "Gate" "X 0" [.fixed 3]] = true := by decide +kernel

/-! ### Regression witnesses of the repaired defect (fix: a86534e)

Before the fix `get_qubits` ignored the frame-mutation instructions: `SET-PHASE {p0} "rf" 1` was
left unresolved, `SET-PHASE 0 "rf" 1; X {p0}` resolved `p0` to the used qubit 0, and
`X {p0}; SET-PHASE {p0} …` resolved only the first occurrence.  With the corrected table: -/

example : resolvePlaceholders [.qs "SetPhase" "SET-PHASE 0 \"rf\" 1" [.placeholder 0]]
    = some [.qs "SetPhase" "SET-PHASE 0 \"rf\" 1" [.fixed 0]] := by decide +kernel

example : resolvePlaceholders
    [.qs "SetPhase" "SET-PHASE 0 \"rf\" 1" [.fixed 0], .qs "Gate" "X 0" [.placeholder 0]]
    = some [.qs "SetPhase" "SET-PHASE 0 \"rf\" 1" [.fixed 0], .qs "Gate" "X 0" [.fixed 1]] := by decide +kernel

example : resolvePlaceholders
    [.qs "Gate" "X 0" [.placeholder 0], .qs "SetPhase" "SET-PHASE 0 \"rf\" 1" [.placeholder 0],
     .qs "SwapPhases" "SWAP-PHASES 0 \"rf\" 0 \"rf\"" [.placeholder 1, .fixed 0]]
    = some [.qs "Gate" "X 0" [.fixed 1], .qs "SetPhase" "SET-PHASE 0 \"rf\" 1" [.fixed 1],
     .qs "SwapPhases" "SWAP-PHASES 0 \"rf\" 0 \"rf\"" [.fixed 2, .fixed 0]] := by decide +kernel

/-- a kind outside the table with a non-empty qubit list is what `wellProjected` excludes; for such
a (never generated) input the positional statement would fail, so the hypothesis is not idle -/
example : wellProjected [.qs "Other" "NOP" [.placeholder 0]] = false := by decide +kernel

private def exBody : List Instr :=
  [ .tgt "Label" (.fixed "a_0") "LABEL @T", .tgt "Jump" (.placeholder 0 "a") "JUMP @T",
    .qs "Gate" "X 0" [.fixed 0], .qs "Gate" "CNOT 0 0" [.placeholder 0, .placeholder 1],
    .tgt "Label" (.placeholder 1 "a") "LABEL @T", .qs "Gate" "X 0" [.fixed 2] ]

example : wellProjected exBody = true := by decide +kernel

/-- a → a_1 (a_0 is taken), second a → a_2; placeholders get qubits 1 and 3 (0, 2 are used) -/
example : resolvePlaceholders exBody = some
  [ .tgt "Label" (.fixed "a_0") "LABEL @T", .tgt "Jump" (.fixed "a_1") "JUMP @T",
    .qs "Gate" "X 0" [.fixed 0], .qs "Gate" "CNOT 0 0" [.fixed 1, .fixed 3],
    .tgt "Label" (.fixed "a_2") "LABEL @T", .qs "Gate" "X 0" [.fixed 2] ] := by decide +kernel

end QV.C34
