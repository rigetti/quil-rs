import QV.C34.Model
/-
C34 lemmas: the two default resolution tables of the model — the lazily filtered qubit iterator (`nextFree`,
`assignQubits`) and the label-suffix search (`freshLabel`, `assignLabels`) — hand out unused, pairwise distinct values,
and the label search never runs out of its fuel. Then what `resolveWith` does to the two views of a body the
specification reads (`visibleQubits_resolve`, `getTargets_resolve`: each is mapped through `Qubit.resolve` /
`Target.resolve`) and the shape of the default entry point (`resolvePlaceholders_eq`).
-/
namespace QV.C34

theorem le_maxNat {used : List Nat} {x : Nat} (h : x ∈ used) : x ≤ maxNat used := by
  induction used with
  | nil => simp at h
  | cons y ys ih =>
    simp only [maxNat]
    rcases List.mem_cons.mp h with rfl | h'
    · omega
    · have := ih h'; omega

/-- the hypothesis says that the fuel reaches past the largest used index, from where every index is free -/
theorem nextFreeAux_spec (used : List Nat) : ∀ (fuel cur : Nat), maxNat used + 1 ≤ cur + fuel →
    cur ≤ nextFreeAux used fuel cur ∧ nextFreeAux used fuel cur ∉ used ∧
    ∀ j, cur ≤ j → j < nextFreeAux used fuel cur → j ∈ used := by
  intro fuel
  induction fuel with
  | zero =>
    intro cur h
    refine ⟨Nat.le_refl _, ?_, ?_⟩
    · intro hm; have := le_maxNat hm; simp [nextFreeAux] at this; omega
    · intro j h1 h2; simp [nextFreeAux] at h2; omega
  | succ fuel ih =>
    intro cur h
    simp only [nextFreeAux]
    by_cases hc : used.contains cur = true
    · simp only [hc, if_true]
      obtain ⟨h1, h2, h3⟩ := ih (cur + 1) (by omega)
      refine ⟨by omega, h2, ?_⟩
      intro j hj1 hj2
      by_cases hj : j = cur
      · subst hj; simpa using hc
      · exact h3 j (by omega) hj2
    · simp only [hc]
      refine ⟨Nat.le_refl _, by simpa using hc, ?_⟩
      intro j h1 h2; simp at h2; omega

theorem nextFree_spec (used : List Nat) (cur : Nat) :
    cur ≤ nextFree used cur ∧ nextFree used cur ∉ used ∧
    ∀ j, cur ≤ j → j < nextFree used cur → j ∈ used :=
  nextFreeAux_spec used _ cur (by omega)

theorem assignQubits_keys (used : List Nat) : ∀ (ps : List Nat) (cur : Nat),
    (assignQubits used ps cur).map Prod.fst = ps := by
  intro ps
  induction ps with
  | nil => intro cur; simp [assignQubits]
  | cons p rest ih => intro cur; simp [assignQubits, ih]

theorem assignQubits_values (used : List Nat) : ∀ (ps : List Nat) (cur : Nat),
    ∀ kv ∈ assignQubits used ps cur, cur ≤ kv.2 ∧ kv.2 ∉ used := by
  intro ps
  induction ps with
  | nil => intro cur kv h; simp [assignQubits] at h
  | cons p rest ih =>
    intro cur kv h
    simp only [assignQubits, List.mem_cons] at h
    have hs := nextFree_spec used cur
    rcases h with rfl | h
    · exact ⟨hs.1, hs.2.1⟩
    · have := ih _ kv h
      exact ⟨by omega, this.2⟩

theorem assignQubits_increasing (used : List Nat) : ∀ (ps : List Nat) (cur : Nat),
    (assignQubits used ps cur).Pairwise (fun a b => a.2 < b.2) := by
  intro ps
  induction ps with
  | nil => intro cur; simp [assignQubits]
  | cons p rest ih =>
    intro cur
    simp only [assignQubits, List.pairwise_cons]
    refine ⟨?_, ih _⟩
    intro kv h
    have := (assignQubits_values used rest _ kv h).1
    simp; omega

theorem freshLabel_sound (base : String) (used : List String) : ∀ (fuel k : Nat) (l : String),
    freshLabel base used fuel k = some l → l ∉ used ∧ ∃ j, k ≤ j ∧ l = labelName base j := by
  intro fuel
  induction fuel with
  | zero => intro k l h; simp [freshLabel] at h
  | succ fuel ih =>
    intro k l h
    simp only [freshLabel] at h
    by_cases hc : used.contains (labelName base k) = true
    · simp only [hc, if_true] at h
      obtain ⟨h1, j, hj, hl⟩ := ih _ _ h
      exact ⟨h1, j, by omega, hl⟩
    · simp only [hc] at h
      simp at h; subst h
      exact ⟨by simpa using hc, k, Nat.le_refl _, rfl⟩

theorem le_maxLen {used : List String} {s : String} (h : s ∈ used) : s.length ≤ maxLen used := by
  induction used with
  | nil => simp at h
  | cons y ys ih =>
    simp only [maxLen]
    rcases List.mem_cons.mp h with rfl | h'
    · omega
    · have := ih h'; omega

/-- a suffix with more digits than the longest used label cannot collide -/
theorem labelName_not_mem (base : String) (used : List String) (k : Nat) (hk : 10 ^ maxLen used ≤ k) :
    labelName base k ∉ used := by
  intro hm
  have h1 := le_maxLen hm
  have hlen : (labelName base k).length = base.length + 1 + (Nat.repr k).length := by
    have : "_".length = 1 := by decide
    simp [labelName, String.length_append, Nat.toString_eq_repr, this]
  have hrepr : maxLen used < (Nat.repr k).length := by
    by_cases h0 : maxLen used = 0
    · rw [h0]; exact Nat.length_repr_pos
    · have hiff := Nat.length_repr_le_iff (n := k) (k := maxLen used) (by omega)
      by_cases hle : (Nat.repr k).length ≤ maxLen used
      · have := hiff.mp hle; omega
      · omega
  omega

theorem freshLabel_total (base : String) (used : List String) : ∀ (fuel k : Nat),
    1 ≤ fuel → 10 ^ maxLen used + 1 ≤ k + fuel → freshLabel base used fuel k ≠ none := by
  intro fuel
  induction fuel with
  | zero => intro k h; omega
  | succ fuel ih =>
    intro k _ h
    simp only [freshLabel]
    by_cases hc : used.contains (labelName base k) = true
    · simp only [hc, if_true]
      have hk : k < 10 ^ maxLen used := by
        by_cases hk : k < 10 ^ maxLen used
        · exact hk
        · exact absurd (by simpa using hc) (labelName_not_mem base used k (by omega))
      exact ih (k + 1) (by omega) (by omega)
    · have hc' : labelName base k ∉ used := by simpa using hc
      simp [hc']

/-- The labels are pairwise distinct because each search runs against the labels found so far (`l :: used`). -/
theorem assignLabels_spec : ∀ (ps : List (Nat × String)) (used : List String),
    ∃ r, assignLabels ps used = some r ∧
      r.map Prod.fst = ps.map Prod.fst ∧ (∀ kv ∈ r, kv.2 ∉ used) ∧ r.Pairwise (fun a b => a.2 ≠ b.2)
  | [], used => ⟨[], rfl, rfl, nofun, .nil⟩
  | (k, base) :: rest, used => by
    cases hf : freshLabel base used (labelFuel used) 0 with
    | none => exact absurd hf (freshLabel_total base used _ 0 (by simp [labelFuel]) (by simp [labelFuel]))
    | some l =>
      obtain ⟨r, hr, h1, h2, h3⟩ := assignLabels_spec rest (l :: used)
      refine ⟨(k, l) :: r, by simp [assignLabels, hf, hr], by simp [h1], ?_, List.pairwise_cons.2 ⟨?_, h3⟩⟩
      · exact List.forall_mem_cons.2 ⟨(freshLabel_sound base used _ _ _ hf).1,
          fun kv hkv hm => h2 kv hkv (List.mem_cons_of_mem _ hm)⟩
      · exact fun kv hkv e => h2 kv hkv (e ▸ List.mem_cons_self)

theorem mem_dedupNat {k : Nat} : ∀ (l acc : List Nat), k ∈ dedupNat acc l ↔ k ∈ acc ∨ k ∈ l
  | [], acc => by simp [dedupNat]
  | x :: xs, acc => by
    rw [dedupNat]
    split
    · next hx =>
      have hm : x ∈ acc := by simpa using hx
      rw [mem_dedupNat xs, List.mem_cons]
      exact ⟨fun h => h.imp_right .inr, fun h => h.elim .inl (·.elim (fun e => .inl (e ▸ hm)) .inr)⟩
    · rw [mem_dedupNat xs, List.mem_cons, List.mem_cons, or_assoc, or_left_comm]

theorem mem_dedupKeys {k : Nat} : ∀ (l acc : List (Nat × String)),
    k ∈ (dedupKeys acc l).map Prod.fst ↔ k ∈ acc.map Prod.fst ∨ k ∈ l.map Prod.fst
  | [], acc => by simp [dedupKeys]
  | (kx, bx) :: xs, acc => by
    rw [dedupKeys]
    split
    · next hx =>
      have hm : kx ∈ acc.map Prod.fst := by
        obtain ⟨p, hp, hpk⟩ := List.any_eq_true.mp hx
        exact List.mem_map.mpr ⟨p, hp, beq_iff_eq.mp hpk⟩
      rw [mem_dedupKeys xs, List.map_cons, List.mem_cons]
      exact ⟨fun h => h.imp_right .inr, fun h => h.elim .inl (·.elim (fun e => .inl (e ▸ hm)) .inr)⟩
    · rw [mem_dedupKeys xs, List.map_cons, List.map_cons, List.mem_cons, List.mem_cons, or_assoc,
        or_left_comm]

theorem lookupN_eq (k : Nat) : ∀ l, lookupN k l = l.lookup k
  | [] => rfl
  | (k', v) :: l => by
    rw [lookupN, List.lookup_cons, lookupN_eq k l]
    by_cases h : k = k'
    · simp [h]
    · simp [beq_false_of_ne h, Ne.symm h]

theorem lookupS_eq (k : Nat) : ∀ l, lookupS k l = l.lookup k
  | [] => rfl
  | (k', v) :: l => by
    rw [lookupS, List.lookup_cons, lookupS_eq k l]
    by_cases h : k = k'
    · simp [h]
    · simp [beq_false_of_ne h, Ne.symm h]

theorem pairwise_snd_inj {β : Type} {l : List (Nat × β)} (h : l.Pairwise (fun a b => a.2 ≠ b.2))
    {x y : Nat × β} (hx : x ∈ l) (hy : y ∈ l) (hv : x.2 = y.2) : x = y := by
  induction h with
  | nil => simp at hx
  | cons hhead _ ih =>
    rcases List.mem_cons.mp hx with rfl | hx' <;> rcases List.mem_cons.mp hy with rfl | hy'
    · rfl
    · exact absurd hv (hhead _ hy')
    · exact absurd hv.symm (hhead _ hx')
    · exact ih hx' hy'

section resolve
variable (tr : Nat → Option String) (qr : Nat → Option Nat)

theorem getQubits_resolve (i : Instr) :
    (i.resolve tr qr).getQubits = i.getQubits.map (Qubit.resolve qr) := by
  cases i with
  | tgt k t s => rfl
  | qs k s l => by_cases hv : visible k = true <;> simp [Instr.resolve, Instr.getQubits, hv]

theorem visibleQubits_resolve (body : List Instr) :
    (resolveWith tr qr body).flatMap Instr.getQubits = (body.flatMap Instr.getQubits).map (Qubit.resolve qr) := by
  simp only [resolveWith, List.flatMap_map, List.map_flatMap, getQubits_resolve]

theorem getTargets_resolve : ∀ body : List Instr,
    getTargets (resolveWith tr qr body) = (getTargets body).map (Target.resolve tr)
  | [] => rfl
  | .tgt k t s :: rest => congrArg (_ :: ·) (getTargets_resolve rest)
  | .qs k s l :: rest => by
    have ih := getTargets_resolve rest
    by_cases hv : visible k = true <;> simpa [resolveWith, Instr.resolve, getTargets, hv] using ih

theorem resolve_of_some {qr : Nat → Option Nat} {k n : Nat} (h : qr k = some n) :
    (Qubit.placeholder k).resolve qr = .fixed n := by
  simp [Qubit.resolve, h]

theorem resolve_target_of_some {tr : Nat → Option String} {k : Nat} {b l : String}
    (h : tr k = some l) : (Target.placeholder k b).resolve tr = .fixed l := by
  simp [Target.resolve, h]

theorem resolvePlaceholders_eq {body out : List Instr} (h : resolvePlaceholders body = some out) :
    ∃ dt, defaultTargetResolutions body = some dt ∧
      out = resolveWith (fun k => lookupS k dt) (fun k => lookupN k (defaultQubitResolutions body)) body := by
  obtain ⟨dt, hdt, rfl⟩ := Option.map_eq_some_iff.mp h
  exact ⟨dt, hdt, rfl⟩

end resolve

end QV.C34
