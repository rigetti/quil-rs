import QV.C15.Unitary
import QV.C14.Term
import Mathlib.Tactic.IntervalCases
/-
C15: on distinct qubits `< n`, `gate_matrix` returns a matrix on the gate's own space whose `liftSpec` is `denote` of
QV/C15/Spec.lean (`gateMatrix_denote`): `liftSpec` turns `blockSelect`, `adjoint`, `eye` into `forkSpec`, `adjoint`, `eye` on
the full space.  It is also multiplicative (`liftSpec_mul`: a sum over the fibre of basis states that agree outside the
listed qubits, re-indexed through `inject`), hence preserves unitarity; so do `forkSpec` / `ctrlSpec` under `Preserves`.
-/
namespace QV.C15
open QV.C14 QV.C14.Mat GateFns


/-- the basis state that has the bits of `r` outside `qs` and the bits of `g` (a gate index) on `qs` -/
def inject (qs : List Nat) (n r g : Nat) : Nat :=
  Nat.ofBits (n := n) fun p =>
    if p.val ∈ qs then g.testBit (qs.length - 1 - qs.idxOf p.val) else r.testBit p.val

theorem inject_lt (qs : List Nat) (n r g : Nat) : inject qs n r g < 2 ^ n := Nat.ofBits_lt_two_pow _

theorem testBit_inject {qs : List Nat} {n r g p : Nat} (hp : p < n) :
    (inject qs n r g).testBit p =
      if p ∈ qs then g.testBit (qs.length - 1 - qs.idxOf p) else r.testBit p := by
  unfold inject
  rw [Nat.testBit_ofBits_lt _ _ hp]

theorem agreeOutside_inject (qs : List Nat) (n r g : Nat) : agreeOutside qs n r (inject qs n r g) = true := by
  rw [agreeOutside_iff]
  intro p hp
  by_cases hm : p ∈ qs
  · exact Or.inl hm
  · right; rw [testBit_inject hp, if_neg hm]

theorem gateIndex_inject {qs : List Nat} {n r g : Nat} (hlt : ∀ q ∈ qs, q < n) (hnd : qs.Nodup)
    (hg : g < 2 ^ qs.length) : gateIndex qs (inject qs n r g) = g := by
  rw [eq_iff_testBit_lt (gateIndex_lt _ _) hg]
  intro t ht
  rw [testBit_gateIndex _ _ _ ht]
  have hi : qs.length - 1 - t < qs.length := by omega
  rw [List.getD_eq_getElem _ _ hi]
  have hmem : qs[qs.length - 1 - t] ∈ qs := List.getElem_mem _
  rw [testBit_inject (hlt _ hmem), if_pos hmem, hnd.idxOf_getElem _ hi]
  congr 1; omega

theorem inject_gateIndex {qs : List Nat} {n r a : Nat} (ha : a < 2 ^ n)
    (hagree : agreeOutside qs n r a = true) : inject qs n r (gateIndex qs a) = a := by
  rw [eq_iff_testBit_lt (inject_lt _ _ _ _) ha]
  intro p hp
  rw [testBit_inject hp]
  by_cases hm : p ∈ qs
  · rw [if_pos hm]
    have hi : qs.idxOf p < qs.length := List.idxOf_lt_length_iff.mpr hm
    rw [testBit_gateIndex _ _ _ (by omega)]
    have : qs.length - 1 - (qs.length - 1 - qs.idxOf p) = qs.idxOf p := by omega
    rw [this, List.getD_eq_getElem _ _ hi, List.getElem_idxOf hi]
  · rw [if_neg hm]
    rw [agreeOutside_iff] at hagree
    rcases hagree p hp with h | h
    · exact absurd h hm
    · exact h

section
variable {K : Type} [CommRing K] [StarRing K] [GateFns K] [GateLaws K]

omit [StarRing K] [GateFns K] [GateLaws K] in
theorem blockSelect_dims (m0 m1 : Mat K) : (blockSelect m0 m1).r = 2 * m0.r ∧ (blockSelect m0 m1).c = 2 * m0.c := by
  simp [blockSelect, projZero, Mat.ofRows]


omit [StarRing K] [GateLaws K] in
theorem sq_blockSelect {k : Nat} {m0 m1 : Mat K} (h0 : Sq k m0) : Sq (k + 1) (blockSelect m0 m1) := by
  refine ⟨wf_add _ _, ?_, ?_⟩
  · rw [(blockSelect_dims _ _).1, h0.2.1, pow_succ, Nat.mul_comm]
  · rw [(blockSelect_dims _ _).2, h0.2.2, pow_succ, Nat.mul_comm]

theorem foldl_gateIndex (x : Nat) : ∀ (qs : List Nat) (a : Nat),
    qs.foldl (fun acc q => 2 * acc + bit x q) a = a * 2 ^ qs.length + gateIndex qs x := by
  intro qs
  induction qs with
  | nil => intro a; simp [gateIndex]
  | cons q qs ih =>
    intro a
    simp only [List.foldl_cons, List.length_cons, gateIndex]
    rw [ih, ih (2 * 0 + bit x q)]
    ring

theorem gateIndex_cons (c : Nat) (qs : List Nat) (x : Nat) :
    gateIndex (c :: qs) x = bit x c * 2 ^ qs.length + gateIndex qs x := by
  unfold gateIndex
  simp only [List.foldl_cons]
  rw [foldl_gateIndex]
  simp [gateIndex]

theorem bit_lt_two (x p : Nat) : bit x p < 2 := by
  unfold bit; cases x.testBit p <;> simp

theorem bit_eq_iff (x y p q : Nat) : bit x p = bit y q ↔ x.testBit p = y.testBit q := by
  unfold bit; cases x.testBit p <;> cases y.testBit q <;> simp

theorem bit_eq_zero_iff (x p : Nat) : bit x p = 0 ↔ x.testBit p = false := by
  unfold bit; cases x.testBit p <;> simp

omit [StarRing K] [GateLaws K] in
theorem get_blockSelect {m0 m1 : Mat K} {N : Nat} (hN : 0 < N) (h0r : m0.r = N) (h0c : m0.c = N)
    (h1r : m1.r = N) (h1c : m1.c = N) {a b : Nat} (ha : a < 2 * N) (hb : b < 2 * N) :
    (blockSelect m0 m1).get a b =
      if a / N = b / N then (if a / N = 0 then m0.get (a % N) (b % N) else m1.get (a % N) (b % N)) else 0 := by
  unfold blockSelect
  have hzr : (projZero : Mat K).r = 2 := rfl
  have hzc : (projZero : Mat K).c = 2 := rfl
  have hor : (projOne : Mat K).r = 2 := rfl
  have hoc : (projOne : Mat K).c = 2 := rfl
  rw [get_add (by simp only [kron_r, hzr, h0r]; exact ha) (by simp only [kron_c, hzc, h0c]; exact hb),
    get_kron (by simp only [hzr, h0r]; exact ha) (by simp only [hzc, h0c]; exact hb),
    get_kron (by simp only [hor, h1r]; exact ha) (by simp only [hoc, h1c]; exact hb)]
  simp only [h0r, h0c, h1r, h1c]
  have ha2 : a / N < 2 := by rw [Nat.div_lt_iff_lt_mul hN]; exact ha
  have hb2 : b / N < 2 := by rw [Nat.div_lt_iff_lt_mul hN]; exact hb
  generalize a / N = x at ha2 ⊢
  generalize b / N = y at hb2 ⊢
  interval_cases x <;> interval_cases y <;> simp [projZero, projOne, Mat.ofRows, Mat.get_build']

theorem agreeOutside_symm (qs : List Nat) (n r c : Nat) : agreeOutside qs n r c = agreeOutside qs n c r :=
  Bool.eq_iff_iff.mpr <| by
    rw [agreeOutside_iff, agreeOutside_iff]
    exact forall₂_congr fun _ _ => or_congr_right eq_comm

theorem agreeOutside_cons {c n : Nat} {qs : List Nat} (hc : c < n) (hnot : c ∉ qs) (r c' : Nat) :
    agreeOutside qs n r c' = true ↔ (agreeOutside (c :: qs) n r c' = true ∧ r.testBit c = c'.testBit c) := by
  rw [agreeOutside_iff, agreeOutside_iff]
  constructor
  · intro h
    refine ⟨fun p hp => ?_, ?_⟩
    · rcases h p hp with h | h
      · exact Or.inl (List.mem_cons_of_mem _ h)
      · exact Or.inr h
    · rcases h c hc with h | h
      · exact absurd h hnot
      · exact h
  · rintro ⟨h, hb⟩ p hp
    rcases h p hp with h | h
    · rcases List.mem_cons.mp h with h | h
      · subst h; exact Or.inr hb
      · exact Or.inl h
    · exact Or.inr h

omit [StarRing K] [GateFns K] [GateLaws K] in
theorem sq_liftSpec (U : Mat K) (qs : List Nat) (n : Nat) : Sq n (liftSpec U qs n) := ⟨wf_build _ _ _, rfl, rfl⟩

omit [StarRing K] [GateFns K] [GateLaws K] in
theorem sq_forkSpec {n : Nat} (c : Nat) {D0 : Mat K} (D1 : Mat K) (h0 : Sq n D0) : Sq n (forkSpec c D0 D1) :=
  ⟨wf_build _ _ _, h0.2.1, h0.2.2⟩

omit [StarRing K] [GateFns K] [GateLaws K] in
theorem get_forkSpec {n c : Nat} {D0 D1 : Mat K} (h0 : Sq n D0) {r c' : Nat} (hr : r < 2 ^ n) (hc' : c' < 2 ^ n) :
    (forkSpec c D0 D1).get r c' = if r.testBit c then D1.get r c' else D0.get r c' := by
  unfold forkSpec
  rw [get_build (by rw [h0.2.1]; exact hr) (by rw [h0.2.2]; exact hc')]

omit [StarRing K] [GateLaws K] in
theorem liftSpec_blockSelect {m0 m1 : Mat K} {c n : Nat} {qs : List Nat}
    (h0r : m0.r = 2 ^ qs.length) (h0c : m0.c = 2 ^ qs.length) (h1r : m1.r = 2 ^ qs.length)
    (h1c : m1.c = 2 ^ qs.length) (hc : c < n) (hnot : c ∉ qs) :
    liftSpec (blockSelect m0 m1) (c :: qs) n = forkSpec c (liftSpec m0 qs n) (liftSpec m1 qs n) := by
  refine Sq.ext (sq_liftSpec _ _ n) ⟨wf_build _ _ _, rfl, rfl⟩ fun r c' hr' hc'' => ?_
  have hN : 0 < 2 ^ qs.length := by positivity
  rw [get_liftSpec _ _ hr' hc'', get_forkSpec (sq_liftSpec m0 qs n) hr' hc'', get_liftSpec _ _ hr' hc'',
    get_liftSpec _ _ hr' hc'']
  have hdiv : ∀ x, (bit x c * 2 ^ qs.length + gateIndex qs x) / 2 ^ qs.length = bit x c := by
    intro x
    rw [Nat.add_comm, Nat.add_mul_div_right _ _ hN, Nat.div_eq_of_lt (gateIndex_lt qs x), Nat.zero_add]
  have hmod : ∀ x, (bit x c * 2 ^ qs.length + gateIndex qs x) % 2 ^ qs.length = gateIndex qs x := by
    intro x
    rw [Nat.add_comm, Nat.add_mul_mod_self_right, Nat.mod_eq_of_lt (gateIndex_lt qs x)]
  have hlt : ∀ x, bit x c * 2 ^ qs.length + gateIndex qs x < 2 * 2 ^ qs.length := by
    intro x
    have h1 := bit_lt_two x c
    have h2 := gateIndex_lt qs x
    have h3 : bit x c * 2 ^ qs.length ≤ 1 * 2 ^ qs.length := Nat.mul_le_mul_right _ (by omega)
    generalize 2 ^ qs.length = N at *
    omega
  by_cases hA : agreeOutside (c :: qs) n r c' = true
  · rw [if_pos hA, gateIndex_cons, gateIndex_cons,
      get_blockSelect hN h0r h0c h1r h1c (hlt r) (hlt c'), hdiv, hdiv, hmod, hmod]
    by_cases hbit : r.testBit c = c'.testBit c
    · have hagree : agreeOutside qs n r c' = true := (agreeOutside_cons hc hnot r c').mpr ⟨hA, hbit⟩
      rw [if_pos ((bit_eq_iff _ _ _ _).mpr hbit), if_pos hagree, if_pos hagree]
      cases hb : r.testBit c
      · rw [if_pos ((bit_eq_zero_iff _ _).mpr hb)]; simp
      · have : ¬ bit r c = 0 := by rw [bit_eq_zero_iff, hb]; simp
        rw [if_neg this]; simp
    · have hagree : ¬ agreeOutside qs n r c' = true := fun h => hbit ((agreeOutside_cons hc hnot r c').mp h).2
      rw [if_neg (fun h => hbit ((bit_eq_iff _ _ _ _).mp h)), if_neg hagree, if_neg hagree]
      simp
  · have hagree : ¬ agreeOutside qs n r c' = true := fun h => hA ((agreeOutside_cons hc hnot r c').mp h).1
    rw [if_neg hA, if_neg hagree, if_neg hagree]
    simp

theorem liftSpec_adjoint {m : Mat K} {qs : List Nat} {n : Nat} (hr : m.r = 2 ^ qs.length) (hc : m.c = 2 ^ qs.length) :
    liftSpec (adjoint m) qs n = adjoint (liftSpec m qs n) := by
  refine Sq.ext (sq_liftSpec _ _ n) (sq_adjoint (sq_liftSpec _ _ n)) fun r c hr'' hc'' => ?_
  have e1 : (liftSpec (adjoint m) qs n).get r c =
      if agreeOutside qs n r c = true then conj (m.get (gateIndex qs c) (gateIndex qs r)) else 0 := by
    rw [get_liftSpec _ _ hr'' hc'']
    by_cases hA : agreeOutside qs n r c = true
    · rw [if_pos hA, if_pos hA,
        get_adjoint (by rw [hc]; exact gateIndex_lt _ _) (by rw [hr]; exact gateIndex_lt _ _)]
    · rw [if_neg hA, if_neg hA]
  have e2 : (adjoint (liftSpec m qs n)).get r c = conj ((liftSpec m qs n).get c r) :=
    get_adjoint (A := liftSpec m qs n) hr'' hc''
  have e3 : (liftSpec m qs n).get c r =
      if agreeOutside qs n c r = true then m.get (gateIndex qs c) (gateIndex qs r) else 0 :=
    get_liftSpec _ _ hc'' hr''
  rw [e1, e2, e3, agreeOutside_symm qs n c r]
  by_cases hA : agreeOutside qs n r c = true
  · rw [if_pos hA, if_pos hA]
  · rw [if_neg hA, if_neg hA, QV.C14.conj_zero]

omit [StarRing K] [GateLaws K] in
theorem liftSpec_eye (qs : List Nat) (n : Nat) : liftSpec (eye (2 ^ qs.length) : Mat K) qs n = eye (2 ^ n) := by
  refine Sq.ext (sq_liftSpec _ _ n) (sq_eye n) fun r c hr' hc' => ?_
  have hrefl : agreeOutside qs n r r = true := (agreeOutside_iff _ _ _ _).mpr fun _ _ => Or.inr rfl
  rw [get_liftSpec _ _ hr' hc', get_eye hr' hc', get_eye (gateIndex_lt _ _) (gateIndex_lt _ _), ← ite_and]
  refine if_congr ⟨fun ⟨hA, hg⟩ => ?_, fun h => h ▸ ⟨hrefl, rfl⟩⟩ rfl rfl
  -- both are the state with the bits of `r` outside `qs` and the same gate index
  rw [← inject_gateIndex hr' hrefl, hg, inject_gateIndex hc' hA]

omit [StarRing K] [GateLaws K] in
theorem ctrlSpec_eq_forkSpec {M : Mat K} {c n : Nat} (hr : M.r = 2 ^ n) (hc : M.c = 2 ^ n) :
    ctrlSpec c M = forkSpec c (eye (2 ^ n)) M := by
  unfold ctrlSpec forkSpec
  rw [hr, hc]
  apply build_congr
  intro i j hi hj
  rw [get_eye hi hj]

omit [StarRing K] [GateLaws K] in
theorem denote_nil_inv {n : Nat} {name : String} {θs : List K} {qs : List Nat} {D : Mat K}
    (h : denote n [] name θs qs = some D) :
    ∃ U, specMatrix name θs = some U ∧ U.r = 2 ^ qs.length ∧ D = liftSpec U qs n := by
  simp only [denote] at h
  split at h
  · split_ifs at h with hU
    exact ⟨_, ‹_›, hU, (Option.some.inj h).symm⟩
  · cases h

omit [StarRing K] [GateLaws K] in
theorem denote_dagger_inv {n : Nat} {ms : List Modifier} {name : String} {θs : List K} {qs : List Nat} {D : Mat K}
    (h : denote n (.dagger :: ms) name θs qs = some D) :
    ∃ D', denote n ms name θs qs = some D' ∧ D = adjoint D' := by
  obtain ⟨D', h1, h2⟩ := Option.map_eq_some_iff.mp h
  exact ⟨D', h1, h2.symm⟩

omit [StarRing K] [GateLaws K] in
theorem denote_controlled_inv {n : Nat} {ms : List Modifier} {name : String} {θs : List K} {qs : List Nat} {D : Mat K}
    (h : denote n (.controlled :: ms) name θs qs = some D) :
    ∃ c qs' D', qs = c :: qs' ∧ denote n ms name θs qs' = some D' ∧ D = ctrlSpec c D' := by
  cases qs with
  | nil => cases h
  | cons c qs' =>
    obtain ⟨D', h1, h2⟩ := Option.map_eq_some_iff.mp h
    exact ⟨c, qs', D', rfl, h1, h2.symm⟩

omit [StarRing K] [GateLaws K] in
theorem denote_forked_inv {n : Nat} {ms : List Modifier} {name : String} {θs : List K} {qs : List Nat} {D : Mat K}
    (h : denote n (.forked :: ms) name θs qs = some D) :
    ¬ θs.length % 2 ≠ 0 ∧ ∃ c qs' D0 D1, qs = c :: qs' ∧
      denote n ms name (θs.take (θs.length / 2)) qs' = some D0 ∧
      denote n ms name (θs.drop (θs.length / 2)) qs' = some D1 ∧ D = forkSpec c D0 D1 := by
  cases qs with
  | nil => cases h
  | cons c qs' =>
    simp only [denote] at h
    split_ifs at h with hodd
    split at h
    · exact ⟨hodd, c, qs', _, _, rfl, ‹_›, ‹_›, (Option.some.inj h).symm⟩
    · cases h

omit [StarRing K] [GateLaws K] in
theorem denoteProg_cons_inv {n : Nat} {sg : List Modifier × String × List K × List Nat}
    {rest : List (List Modifier × String × List K × List Nat)} {P : Mat K} (h : denoteProg n (sg :: rest) = some P) :
    ∃ D R, denote n sg.1 sg.2.1 sg.2.2.1 sg.2.2.2 = some D ∧ denoteProg n rest = some R ∧ P = mul R D := by
  obtain ⟨ms, name, θs, qs⟩ := sg
  simp only [denoteProg] at h
  split at h
  · exact ⟨_, _, ‹_›, ‹_›, (Option.some.inj h).symm⟩
  · cases h

theorem gateMatrix_denote {n : Nat} : ∀ (ms : List Modifier) (name : String) (θs : List K) (qs : List Nat) (D : Mat K),
    (∀ q ∈ qs, q < n) → qs.Nodup → denote n ms name θs qs = some D →
    ∃ m, gateMatrix ms name (θs.map Param.num) (qs.map Qubit.fixed) = .ok (.ok m) ∧ Sq qs.length m ∧
      D = liftSpec m qs n := by
  intro ms
  induction ms with
  | nil =>
    intro name θs qs D hlt hnd h
    obtain ⟨U, hs, hU, rfl⟩ := denote_nil_inv h
    have hsq := specMatrix_square hs
    exact ⟨U, by simp only [gateMatrix, baseMatrix_of_spec hs], ⟨hsq.1, hU, hsq.2 ▸ hU⟩, rfl⟩
  | cons md ms ih =>
    intro name θs qs D hlt hnd h
    cases md with
    | dagger =>
      obtain ⟨D', h', rfl⟩ := denote_dagger_inv h
      obtain ⟨m, hm, sm, rfl⟩ := ih name θs qs D' hlt hnd h'
      exact ⟨adjoint m, by simp only [gateMatrix, hm, Outcome.bind], sq_adjoint sm,
        (liftSpec_adjoint sm.2.1 sm.2.2).symm⟩
    | controlled =>
      obtain ⟨c, qs', D', rfl, h', rfl⟩ := denote_controlled_inv h
      have hnd' := List.nodup_cons.mp hnd
      obtain ⟨m, hm, sm, rfl⟩ := ih name θs qs' D' (fun q hq => hlt q (List.mem_cons_of_mem _ hq)) hnd'.2 h'
      refine ⟨blockSelect (eye m.r) m, by simp only [List.map_cons, gateMatrix, hm, Outcome.bind],
        sq_blockSelect (sm.2.1 ▸ sq_eye _), ?_⟩
      rw [ctrlSpec_eq_forkSpec (sq_liftSpec _ _ _).2.1 (sq_liftSpec _ _ _).2.2, ← liftSpec_eye (K := K) qs' n, sm.2.1,
        liftSpec_blockSelect rfl rfl sm.2.1 sm.2.2 (hlt c List.mem_cons_self) hnd'.1]
    | forked =>
      obtain ⟨hodd, c, qs', D0, D1, rfl, h0, h1, rfl⟩ := denote_forked_inv h
      have hlt' : ∀ q ∈ qs', q < n := fun q hq => hlt q (List.mem_cons_of_mem _ hq)
      have hnd' := List.nodup_cons.mp hnd
      obtain ⟨m0, e0, s0, rfl⟩ := ih name _ qs' D0 hlt' hnd'.2 h0
      obtain ⟨m1, e1, s1, rfl⟩ := ih name _ qs' D1 hlt' hnd'.2 h1
      refine ⟨blockSelect m0 m1, ?_, sq_blockSelect s0, ?_⟩
      · simp only [List.map_cons, gateMatrix, List.length_map, if_neg hodd, ← List.map_take, ← List.map_drop, e0, e1,
          Outcome.bind]
      · rw [liftSpec_blockSelect s0.2.1 s0.2.2 s1.2.1 s1.2.2 (hlt c List.mem_cons_self) hnd'.1]

omit [StarRing K] [GateFns K] [GateLaws K] in
theorem fibre_sum {qs : List Nat} {n : Nat} (hlt : ∀ q ∈ qs, q < n) (hnd : qs.Nodup) (r : Nat) (F : Nat → K) :
    (∑ a ∈ Finset.range (2 ^ n), if agreeOutside qs n r a = true then F (gateIndex qs a) else 0)
      = ∑ g ∈ Finset.range (2 ^ qs.length), F g := by
  rw [← Finset.sum_filter]
  refine Finset.sum_nbij' (fun a => gateIndex qs a) (fun g => inject qs n r g) ?_ ?_ ?_ ?_ ?_
  · intro a _; exact Finset.mem_range.mpr (gateIndex_lt _ _)
  · intro g hg
    rw [Finset.mem_filter]
    exact ⟨Finset.mem_range.mpr (inject_lt _ _ _ _), agreeOutside_inject _ _ _ _⟩
  · intro a ha
    rw [Finset.mem_filter] at ha
    exact inject_gateIndex (Finset.mem_range.mp ha.1) ha.2
  · intro g hg
    exact gateIndex_inject hlt hnd (Finset.mem_range.mp hg)
  · intro a _; rfl

theorem agreeOutside_trans {qs : List Nat} {n r a c : Nat} (h1 : agreeOutside qs n r a = true)
    (h2 : agreeOutside qs n a c = true) : agreeOutside qs n r c = true := by
  rw [agreeOutside_iff] at *
  intro p hp
  rcases h1 p hp with h | h
  · exact Or.inl h
  · rcases h2 p hp with h' | h'
    · exact Or.inl h'
    · exact Or.inr (h.trans h')

omit [StarRing K] [GateLaws K] in
theorem liftSpec_mul {A B : Mat K} {qs : List Nat} {n : Nat} (hlt : ∀ q ∈ qs, q < n) (hnd : qs.Nodup)
    (hAr : A.r = 2 ^ qs.length) (hAc : A.c = 2 ^ qs.length) (hBc : B.c = 2 ^ qs.length) :
    mul (liftSpec A qs n) (liftSpec B qs n) = liftSpec (mul A B) qs n := by
  refine Sq.ext (sq_mul (sq_liftSpec _ _ n) (sq_liftSpec _ _ n)) (sq_liftSpec _ _ n) fun r c hr' hc' => ?_
  rw [get_mul hr' hc']
  have hLc : (liftSpec A qs n).c = 2 ^ n := rfl
  rw [hLc]
  have hRHS : (liftSpec (mul A B) qs n).get r c =
      if agreeOutside qs n r c = true then ∑ g ∈ Finset.range (2 ^ qs.length),
        A.get (gateIndex qs r) g * B.get g (gateIndex qs c) else 0 := by
    rw [get_liftSpec _ _ hr' hc']
    by_cases hA : agreeOutside qs n r c = true
    · rw [if_pos hA, if_pos hA, get_mul (by rw [hAr]; exact gateIndex_lt _ _) (by rw [hBc]; exact gateIndex_lt _ _), hAc]
    · rw [if_neg hA, if_neg hA]
  rw [hRHS]
  have hterm : ∀ a ∈ Finset.range (2 ^ n), (liftSpec A qs n).get r a * (liftSpec B qs n).get a c =
      if agreeOutside qs n r a = true then
        (if agreeOutside qs n r c = true then A.get (gateIndex qs r) (gateIndex qs a) * B.get (gateIndex qs a) (gateIndex qs c) else 0)
      else 0 := by
    intro a ha
    have ha' : a < 2 ^ n := Finset.mem_range.mp ha
    rw [get_liftSpec _ _ hr' ha', get_liftSpec _ _ ha' hc']
    by_cases h1 : agreeOutside qs n r a = true
    · rw [if_pos h1, if_pos h1]
      by_cases h2 : agreeOutside qs n a c = true
      · rw [if_pos h2, if_pos (agreeOutside_trans h1 h2)]
      · have : ¬ agreeOutside qs n r c = true := by
          intro h3
          apply h2
          rw [agreeOutside_symm] at h1
          exact agreeOutside_trans h1 h3
        rw [if_neg h2, if_neg this, mul_zero]
    · rw [if_neg h1, if_neg h1, zero_mul]
  rw [Finset.sum_congr rfl hterm]
  by_cases hA : agreeOutside qs n r c = true
  · simp only [hA, if_true]
    exact fibre_sum hlt hnd r (fun g => A.get (gateIndex qs r) g * B.get g (gateIndex qs c))
  · simp [hA]

theorem isUnitary_liftSpec {U : Mat K} {qs : List Nat} {n : Nat} (hlt : ∀ q ∈ qs, q < n) (hnd : qs.Nodup)
    (hU : IsUnitary qs.length U) : IsUnitary n (liftSpec U qs n) := by
  obtain ⟨⟨wf, hr, hc⟩, u1, u2⟩ := hU
  refine ⟨sq_liftSpec _ _ _, ?_, ?_⟩
  · rw [← liftSpec_adjoint hr hc, liftSpec_mul hlt hnd (by simp [hc]) (by simp [hr]) hc, u1, liftSpec_eye]
  · rw [← liftSpec_adjoint hr hc, liftSpec_mul hlt hnd hr hc (by simp [hr]), u2, liftSpec_eye]


/-- `D` never maps a basis state to one with a different value of qubit `c` -/
def Preserves (n c : Nat) (D : Mat K) : Prop :=
  ∀ r c', r < 2 ^ n → c' < 2 ^ n → r.testBit c ≠ c'.testBit c → D.get r c' = 0

omit [StarRing K] [GateLaws K] in
theorem preserves_eye (n c : Nat) : Preserves n c (eye (2 ^ n) : Mat K) := by
  intro r c' hr hc' hne
  rw [get_eye hr hc']
  have : r ≠ c' := by rintro rfl; exact hne rfl
  simp [this]

omit [StarRing K] [GateLaws K] in
theorem preserves_liftSpec {U : Mat K} {qs : List Nat} {n c : Nat} (hc : c < n) (hnot : c ∉ qs) :
    Preserves n c (liftSpec U qs n) := by
  intro r c' hr hc' hne
  rw [get_liftSpec _ _ hr hc']
  have : ¬ agreeOutside qs n r c' = true := by
    intro h
    rw [agreeOutside_iff] at h
    rcases h c hc with h | h
    · exact hnot h
    · exact hne h
  rw [if_neg this]

theorem isUnitary_forkSpec {n c : Nat} {D0 D1 : Mat K} (h0 : IsUnitary n D0) (h1 : IsUnitary n D1)
    (p0 : Preserves n c D0) (p1 : Preserves n c D1) : IsUnitary n (forkSpec c D0 D1) := by
  have sF := sq_forkSpec c D1 h0.1
  -- the branch a row of `forkSpec` is taken from
  let sel : Bool → Mat K := fun b => if b then D1 else D0
  have hsel : ∀ b, IsUnitary n (sel b) ∧ Preserves n c (sel b) := by
    intro b; cases b
    · exact ⟨h0, p0⟩
    · exact ⟨h1, p1⟩
  have hget : ∀ {r x : Nat}, r < 2 ^ n → x < 2 ^ n →
      (forkSpec c D0 D1).get r x = (sel (r.testBit c)).get r x := by
    intro r x hr hx
    rw [get_forkSpec h0.1 hr hx]
    cases r.testBit c <;> rfl
  refine ⟨sF, ?_, ?_⟩
  · refine Sq.ext (sq_mul (sq_adjoint sF) sF) (sq_eye n) fun r c' hr hc' => ?_
    -- rows from the other branch vanish in column `r`, so only the branch of `r` contributes
    have : ∀ a ∈ Finset.range (2 ^ n), conj ((forkSpec c D0 D1).get a r) * (forkSpec c D0 D1).get a c' =
        conj ((sel (r.testBit c)).get a r) * (sel (r.testBit c)).get a c' := by
      intro a ha
      have ha' := Finset.mem_range.mp ha
      rw [hget ha' hr, hget ha' hc']
      by_cases hab : a.testBit c = r.testBit c
      · rw [hab]
      · rw [(hsel _).2 a r ha' hr hab, (hsel _).2 a r ha' hr hab, QV.C14.conj_zero, zero_mul, zero_mul]
    rw [get_adjoint_mul sF hr hc', Finset.sum_congr rfl this, ← get_adjoint_mul (hsel _).1.1 hr hc', (hsel _).1.2.1]
  · refine Sq.ext (sq_mul sF (sq_adjoint sF)) (sq_eye n) fun r c' hr hc' => ?_
    have hterm : ∀ x ∈ Finset.range (2 ^ n), (forkSpec c D0 D1).get r x * conj ((forkSpec c D0 D1).get c' x) =
        (sel (r.testBit c)).get r x * conj ((sel (c'.testBit c)).get c' x) := by
      intro x hx
      rw [hget hr (Finset.mem_range.mp hx), hget hc' (Finset.mem_range.mp hx)]
    rw [get_mul_adjoint sF hr hc', Finset.sum_congr rfl hterm]
    by_cases hbits : r.testBit c = c'.testBit c
    · rw [← hbits, ← get_mul_adjoint (hsel _).1.1 hr hc', (hsel _).1.2.2]
    · -- different branches: every column misses one of the two rows
      have hne : r ≠ c' := by rintro rfl; exact hbits rfl
      rw [get_eye hr hc', if_neg hne]
      refine Finset.sum_eq_zero fun x hx => ?_
      have hx' := Finset.mem_range.mp hx
      by_cases hxr : r.testBit c = x.testBit c
      · rw [(hsel _).2 c' x hc' hx' fun h => hbits (hxr.trans h.symm), QV.C14.conj_zero, mul_zero]
      · rw [(hsel _).2 r x hr hx' hxr, zero_mul]

omit [StarRing K] [GateLaws K] in
/-- every denotation is a well-formed `2^n × 2^n` matrix, whatever the qubits -/
theorem denote_sq {n : Nat} {ms : List Modifier} {name : String} {θs : List K} {qs : List Nat} {D : Mat K}
    (hD : denote n ms name θs qs = some D) : Sq n D := by
  induction ms generalizing θs qs D with
  | nil =>
    obtain ⟨U, _, _, rfl⟩ := denote_nil_inv hD
    exact sq_liftSpec _ _ _
  | cons md ms ih =>
    cases md with
    | dagger =>
      obtain ⟨D', h', rfl⟩ := denote_dagger_inv hD
      exact sq_adjoint (ih h')
    | controlled =>
      obtain ⟨c, qs', D', rfl, h', rfl⟩ := denote_controlled_inv hD
      exact ⟨wf_build _ _ _, (ih h').2.1, (ih h').2.2⟩
    | forked =>
      obtain ⟨_, c, qs', D0, D1, rfl, h0, _, rfl⟩ := denote_forked_inv hD
      exact sq_forkSpec c D1 (ih h0)

/-- That the branches of CONTROLLED / FORKED leave the control qubit alone (`Preserves`) is not part of the induction:
every denotation is a `liftSpec` on the remaining qubits (`gateMatrix_denote`). -/
theorem denote_unitary {n : Nat} : ∀ (ms : List Modifier) (name : String) (θs : List K) (qs : List Nat) (D : Mat K),
    (∀ q ∈ qs, q < n) → qs.Nodup → (∀ θ ∈ θs, star θ = θ) → denote n ms name θs qs = some D → IsUnitary n D := by
  intro ms
  induction ms with
  | nil =>
    intro name θs qs D hlt hnd hreal h
    obtain ⟨U, hs, hU, rfl⟩ := denote_nil_inv h
    obtain ⟨k, hk⟩ := specMatrix_unitary hs hreal
    have : k = qs.length := Nat.pow_right_injective (le_refl 2) (by show 2 ^ k = 2 ^ qs.length; rw [← hk.1.2.1, hU])
    subst this
    exact isUnitary_liftSpec hlt hnd hk
  | cons md ms ih =>
    intro name θs qs D hlt hnd hreal h
    cases md with
    | dagger =>
      obtain ⟨D', h', rfl⟩ := denote_dagger_inv h
      exact (ih name θs qs D' hlt hnd hreal h').adjoint
    | controlled =>
      obtain ⟨c, qs', D', rfl, h', rfl⟩ := denote_controlled_inv h
      have hlt' : ∀ q ∈ qs', q < n := fun q hq => hlt q (List.mem_cons_of_mem _ hq)
      have hnd' := List.nodup_cons.mp hnd
      have u := ih name θs qs' D' hlt' hnd'.2 hreal h'
      obtain ⟨m, _, _, rfl⟩ := gateMatrix_denote ms name θs qs' D' hlt' hnd'.2 h'
      rw [ctrlSpec_eq_forkSpec u.1.2.1 u.1.2.2]
      exact isUnitary_forkSpec (isUnitary_eye n) u (preserves_eye n c)
        (preserves_liftSpec (hlt c List.mem_cons_self) hnd'.1)
    | forked =>
      obtain ⟨_, c, qs', D0, D1, rfl, h0, h1, rfl⟩ := denote_forked_inv h
      have hlt' : ∀ q ∈ qs', q < n := fun q hq => hlt q (List.mem_cons_of_mem _ hq)
      have hnd' := List.nodup_cons.mp hnd
      have u0 := ih name _ qs' D0 hlt' hnd'.2 (fun θ hθ => hreal θ (List.mem_of_mem_take hθ)) h0
      have u1 := ih name _ qs' D1 hlt' hnd'.2 (fun θ hθ => hreal θ (List.mem_of_mem_drop hθ)) h1
      obtain ⟨m0, _, _, rfl⟩ := gateMatrix_denote ms name _ qs' D0 hlt' hnd'.2 h0
      obtain ⟨m1, _, _, rfl⟩ := gateMatrix_denote ms name _ qs' D1 hlt' hnd'.2 h1
      exact isUnitary_forkSpec u0 u1 (preserves_liftSpec (hlt c List.mem_cons_self) hnd'.1)
        (preserves_liftSpec (hlt c List.mem_cons_self) hnd'.1)

end
end QV.C15
