import QV.C15.Lemmas
import Mathlib.Tactic.LinearCombination
import Mathlib.Tactic.IntervalCases
/-
C15: the 22 specification matrices are unitary when the parameters are real (`star θ = θ`): generalised
permutation matrices with unit phases, and four written-out 2×2 matrices (Y, H, RX, RY).
-/
namespace QV.C15
open QV.C14 QV.C14.Mat GateFns


section
variable {K : Type} [CommRing K] [StarRing K] [GateFns K] [GateLaws K]


/-- generalised permutation ("monomial") matrix.  The specification's `diagGate`, `permGate` and `phasedSwap`
(C14/Spec.lean) unfold to instances of it, which is how `isUnitary_diag`, `isUnitary_perm`, `isUnitary_phasedSwap` apply
`isUnitary_mono` to them. -/
def mono (k : Nat) (f : Nat → Nat) (ph : Nat → K) : Mat K :=
  build (2 ^ k) (2 ^ k) fun r c => if r = f c then ph c else 0

theorem isUnitary_mono {k : Nat} {f : Nat → Nat} {ph : Nat → K}
    (hf : ∀ c, c < 2 ^ k → f c < 2 ^ k)
    (hinj : ∀ a, a < 2 ^ k → ∀ b, b < 2 ^ k → f a = f b → a = b)
    (hsurj : ∀ r, r < 2 ^ k → ∃ x, x < 2 ^ k ∧ f x = r)
    (hph : ∀ c, c < 2 ^ k → conj (ph c) * ph c = 1) : IsUnitary k (mono k f ph) := by
  have sM : Sq k (mono k f ph) := ⟨wf_build _ _ _, rfl, rfl⟩
  have hM : ∀ {a x : Nat}, a < 2 ^ k → x < 2 ^ k → (mono k f ph).get a x = if a = f x then ph x else 0 :=
    fun ha hx => get_build ha hx
  refine ⟨sM, ?_, ?_⟩
  · -- column `r` has its only entry in row `f r`
    refine Sq.ext (sq_mul (sq_adjoint sM) sM) (sq_eye k) fun r c hr' hc' => ?_
    rw [get_adjoint_mul sM hr' hc', get_eye hr' hc', Finset.sum_eq_single (f r)]
    · rw [hM (hf r hr') hr', hM (hf r hr') hc', if_pos rfl]
      by_cases hrc : r = c
      · subst hrc; rw [if_pos rfl, if_pos rfl]; exact hph r hr'
      · rw [if_neg fun h => hrc (hinj r hr' c hc' h), if_neg hrc, mul_zero]
    · intro a ha hne
      rw [hM (Finset.mem_range.mp ha) hr', if_neg hne, QV.C14.conj_zero, zero_mul]
    · intro h; exact absurd (Finset.mem_range.mpr (hf r hr')) h
  · -- row `r` has its only entry in the column `x0` with `f x0 = r`
    refine Sq.ext (sq_mul sM (sq_adjoint sM)) (sq_eye k) fun r c hr' hc' => ?_
    obtain ⟨x0, hx0, hfx0⟩ := hsurj r hr'
    rw [get_mul_adjoint sM hr' hc', get_eye hr' hc', Finset.sum_eq_single x0]
    · rw [hM hr' hx0, hM hc' hx0, if_pos hfx0.symm]
      by_cases hrc : r = c
      · subst hrc; rw [if_pos hfx0.symm, if_pos rfl, mul_comm]; exact hph x0 hx0
      · rw [if_neg fun h => hrc (by rw [h, hfx0]), if_neg hrc, QV.C14.conj_zero, mul_zero]
    · intro x hx hne
      have hx' := Finset.mem_range.mp hx
      rw [hM hr' hx', if_neg fun h => hne (hinj x hx' x0 hx0 (by rw [← h, hfx0])), zero_mul]
    · intro h; exact absurd (Finset.mem_range.mpr hx0) h

omit [StarRing K] [GateLaws K] in
/-- `f` and its four entries are separate arguments so that the specification's `build 2 2 fun r c => if …` matrices fit
as they stand, the entries by `rfl`. -/
theorem isUnitary_two (f : Nat → Nat → K) {a b c d : K}
    (h00 : f 0 0 = a) (h01 : f 0 1 = b) (h10 : f 1 0 = c) (h11 : f 1 1 = d)
    (c00 : conj a * a + conj c * c = 1) (c01 : conj a * b + conj c * d = 0)
    (c10 : conj b * a + conj d * c = 0) (c11 : conj b * b + conj d * d = 1)
    (r00 : a * conj a + b * conj b = 1) (r01 : a * conj c + b * conj d = 0)
    (r10 : c * conj a + d * conj b = 0) (r11 : c * conj c + d * conj d = 1) :
    IsUnitary 1 (build 2 2 f) := by
  have hU : ∀ {i j}, i < 2 → j < 2 → (build 2 2 f).get i j = f i j := fun hi hj => get_build hi hj
  have hA : ∀ {i j}, i < 2 → j < 2 → (adjoint (build 2 2 f)).get i j = conj (f j i) :=
    fun hi hj => (get_adjoint (A := build 2 2 f) hi hj).trans (congrArg conj (hU hj hi))
  refine ⟨⟨wf_build _ _ _, rfl, rfl⟩, ?_, ?_⟩
  all_goals
    refine Mat.ext' (wf_mul _ _) (wf_eye _) rfl rfl fun i j hi hj => ?_
    have hi : i < 2 := hi
    have hj : j < 2 := hj
    rw [get_mul hi hj, get_eye (n := 2 ^ 1) hi hj]
    show ∑ k ∈ Finset.range 2, _ = _
    simp only [Finset.sum_range_succ, Finset.sum_range_zero, zero_add]
    interval_cases i <;> interval_cases j <;>
      simp [hU, hA, h00, h01, h10, h11, c00, c01, c10, c11, r00, r01, r10, r11]


theorem conj_mul (a b : K) : conj (a * b) = conj a * conj b := by
  simp only [GateLaws.conj_eq, star_mul']
theorem conj_neg (a : K) : conj (-a) = -conj a := by simp only [GateLaws.conj_eq, star_neg]
theorem conj_add (a b : K) : conj (a + b) = conj a + conj b := by simp only [GateLaws.conj_eq, star_add]
theorem conj_i : conj (i : K) = -i := by rw [GateLaws.conj_eq, GateLaws.star_i]
theorem conj_cos {x : K} (hx : star x = x) : conj (cos x) = cos x := by
  rw [GateLaws.conj_eq, GateLaws.star_cos, hx]
theorem conj_sin {x : K} (hx : star x = x) : conj (sin x) = sin x := by
  rw [GateLaws.conj_eq, GateLaws.star_sin, hx]
theorem real_half {x : K} (hx : star x = x) : star (half x) = half x := by rw [GateLaws.star_half, hx]
omit [GateFns K] [GateLaws K] in
theorem real_neg {x : K} (hx : star x = x) : star (-x) = -x := by rw [star_neg, hx]

theorem unit_one : conj (1 : K) * 1 = 1 := by rw [QV.C14.conj_one, mul_one]
theorem unit_neg_one : conj (-1 : K) * (-1) = 1 := by rw [conj_neg, QV.C14.conj_one]; ring
theorem unit_i : conj (i : K) * i = 1 := by
  rw [conj_i]; linear_combination (-1 : K) * GateLaws.i_sq (K := K)
theorem unit_cis {x : K} (hx : star x = x) : conj (cis x) * cis x = 1 := by
  rw [GateLaws.cis_eq, conj_add, conj_mul, conj_i, conj_cos hx, conj_sin hx]
  linear_combination GateLaws.cos_sq_add_sin_sq x - sin x * sin x * GateLaws.i_sq (K := K)

theorem isUnitary_diag {k : Nat} {ph : Nat → K} (hph : ∀ c, c < 2 ^ k → conj (ph c) * ph c = 1) :
    IsUnitary k (diagGate k ph) :=
  isUnitary_mono (f := fun c => c) (fun _ hc => hc) (fun _ _ _ _ h => h) (fun r hr => ⟨r, hr, rfl⟩) hph

theorem isUnitary_diag_ite {k : Nat} (p : Nat → Prop) [DecidablePred p] {v w : K}
    (hv : conj v * v = 1) (hw : conj w * w = 1) : IsUnitary k (diagGate k fun c => if p c then v else w) :=
  isUnitary_diag fun c _ => by split_ifs <;> assumption

theorem isUnitary_perm {k : Nat} {f : Nat → Nat}
    (hf : ∀ c, c < 2 ^ k → f c < 2 ^ k)
    (hinj : ∀ a, a < 2 ^ k → ∀ b, b < 2 ^ k → f a = f b → a = b)
    (hsurj : ∀ r, r < 2 ^ k → ∃ x, x < 2 ^ k ∧ f x = r) : IsUnitary k (permGate k f : Mat K) :=
  isUnitary_mono (ph := fun _ => 1) hf hinj hsurj (fun _ _ => unit_one)

theorem isUnitary_phasedSwap {w : K} (hw : conj w * w = 1) : IsUnitary 2 (phasedSwap w) := by
  refine isUnitary_mono (f := fun c => 2 * bit c 0 + bit c 1)
    (ph := fun c => if c.testBit 0 = c.testBit 1 then 1 else w) (by decide) (by decide) (by decide) ?_
  intro c _
  split_ifs
  · exact unit_one
  · exact hw

theorem isUnitary_H : IsUnitary 1 (build 2 2 fun r c => (invSqrt2 : K) * (if r = 1 ∧ c = 1 then -1 else 1)) := by
  have cs : conj (invSqrt2 : K) = invSqrt2 := by rw [GateLaws.conj_eq, GateLaws.star_invSqrt2]
  have law := GateLaws.invSqrt2_sq (K := K)
  refine isUnitary_two _ (a := invSqrt2 * 1) (b := invSqrt2 * 1) (c := invSqrt2 * 1) (d := invSqrt2 * -1)
    rfl rfl rfl rfl ?_ ?_ ?_ ?_ ?_ ?_ ?_ ?_ <;>
    simp only [conj_mul, conj_neg, QV.C14.conj_one, cs] <;> first | ring1 | linear_combination law

theorem isUnitary_RX {t : K} (ht : star t = t) :
    IsUnitary 1 (build 2 2 fun r c => if r = c then cos t else -i * sin t) := by
  have e1 := GateLaws.cos_sq_add_sin_sq t
  have e2 := GateLaws.i_sq (K := K)
  refine isUnitary_two _ (a := cos t) (b := -i * sin t) (c := -i * sin t) (d := cos t) rfl rfl rfl rfl
    ?_ ?_ ?_ ?_ ?_ ?_ ?_ ?_ <;>
    simp only [conj_neg, conj_mul, conj_i, conj_cos ht, conj_sin ht] <;>
    -- orthogonality holds identically, the norms are `cos² + sin² = 1` (with `i² = -1`)
    first | ring1 | linear_combination e1 - sin t * sin t * e2

theorem isUnitary_RY {t : K} (ht : star t = t) :
    IsUnitary 1 (build 2 2 fun r c => if r = c then cos t else if r = 1 then sin t else -(sin t)) := by
  have e1 := GateLaws.cos_sq_add_sin_sq t
  refine isUnitary_two _ (a := cos t) (b := -(sin t)) (c := sin t) (d := cos t) rfl rfl rfl rfl
    ?_ ?_ ?_ ?_ ?_ ?_ ?_ ?_ <;>
    simp only [conj_neg, conj_cos ht, conj_sin ht] <;> first | ring1 | linear_combination e1

theorem isUnitary_Y :
    IsUnitary 1 (build 2 2 fun r c => if r = c then (0 : K) else if r = 1 then i else -i) := by
  refine isUnitary_two _ (a := 0) (b := -i) (c := i) (d := 0) rfl rfl rfl rfl ?_ ?_ ?_ ?_ ?_ ?_ ?_ ?_ <;>
    simp only [QV.C14.conj_zero, conj_neg, conj_i] <;>
    first | ring1 | linear_combination (-1 : K) * GateLaws.i_sq (K := K)

theorem specMatrix_unitary {name : String} {θs : List K} {U : Mat K} (h : specMatrix name θs = some U)
    (hreal : ∀ θ ∈ θs, star θ = θ) : ∃ k, IsUnitary k U := by
  unfold specMatrix at h
  split at h
  all_goals cases h
  · exact ⟨1, isUnitary_diag fun _ _ => unit_one⟩
  · exact ⟨1, isUnitary_perm (by decide) (by decide) (by decide)⟩
  · exact ⟨1, isUnitary_Y⟩
  · exact ⟨1, isUnitary_diag_ite _ unit_neg_one unit_one⟩
  · exact ⟨1, isUnitary_H⟩
  · exact ⟨1, isUnitary_diag_ite _ unit_i unit_one⟩
  · exact ⟨1, isUnitary_diag_ite _ (unit_cis GateLaws.star_pi4) unit_one⟩
  · exact ⟨2, isUnitary_perm (by decide) (by decide) (by decide)⟩
  · exact ⟨3, isUnitary_perm (by decide) (by decide) (by decide)⟩
  · exact ⟨2, isUnitary_diag_ite _ unit_neg_one unit_one⟩
  · exact ⟨2, isUnitary_perm (by decide) (by decide) (by decide)⟩
  · exact ⟨3, isUnitary_perm (by decide) (by decide) (by decide)⟩
  · exact ⟨2, isUnitary_phasedSwap unit_i⟩
  · exact ⟨1, isUnitary_RX (real_half (hreal _ (by simp)))⟩
  · exact ⟨1, isUnitary_RY (real_half (hreal _ (by simp)))⟩
  · exact ⟨1, isUnitary_diag_ite _ (unit_cis (real_half (hreal _ (by simp))))
      (unit_cis (real_neg (real_half (hreal _ (by simp)))))⟩
  · exact ⟨1, isUnitary_diag_ite _ (unit_cis (hreal _ (by simp))) unit_one⟩
  · exact ⟨2, isUnitary_diag_ite _ (unit_cis (hreal _ (by simp))) unit_one⟩
  · exact ⟨2, isUnitary_diag_ite _ (unit_cis (hreal _ (by simp))) unit_one⟩
  · exact ⟨2, isUnitary_diag_ite _ (unit_cis (hreal _ (by simp))) unit_one⟩
  · exact ⟨2, isUnitary_diag_ite _ (unit_cis (hreal _ (by simp))) unit_one⟩
  · exact ⟨2, isUnitary_phasedSwap (unit_cis (hreal _ (by simp)))⟩

end
end QV.C15
