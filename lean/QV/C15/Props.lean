import QV.C15.Denote
import QV.C14.Props
import QV.C14.Complex
/-
C15 — Gate modifiers, daggers and program unitaries compose correctly.
The property theorems; the inductions on the modifier stack behind them are in `Denote.lean` (`gateMatrix_denote`,
`denote_unitary`).  `K` is any commutative star ring with `GateLaws K` (e.g. `ℂ`, QV/C14/Complex.lean).
-/
namespace QV.C15
open QV.C14 QV.C14.Mat GateFns

variable {K : Type} [CommRing K] [StarRing K] [GateFns K] [GateLaws K]

/-- **A program's unitary is the product of its gates' unitaries, in order** (any length): if every gate
`g` of the body has the `2^n × 2^n` unitary `U g`, `Program::to_unitary` returns `U_m · … · U_1`. -/
theorem C15_program_product (U : Gate K → Mat K) (n : Nat) (gs : List (Gate K))
    (hU : ∀ g ∈ gs, toUnitary g n = .ok (.ok (U g)) ∧ Sq n (U g)) :
    progUnitary (gs.map Instr.gate) n = .ok (.ok (prodOf U n gs)) := by
  unfold progUnitary
  rw [progUnitaryFrom_gates U n gs hU _ (sq_eye n), (sq_prodOf U n gs fun g h => (hU g h).2).mul_eye]

/-- **The unitary of the dagger program is the adjoint** (any length): `Program::dagger` succeeds on a
gate-only program, and if `DAGGER g` has the adjoint of `g`'s unitary for every gate of the body, the new
program's unitary is the adjoint of the old one's. -/
theorem C15_program_dagger (U : Gate K → Mat K) (n : Nat) (gs : List (Gate K))
    (hU : ∀ g ∈ gs, toUnitary g n = .ok (.ok (U g)) ∧ Sq n (U g))
    (hD : ∀ g ∈ gs, toUnitary g.dagger n = .ok (.ok (adjoint (U g)))) :
    ∃ body, progDagger (gs.map Instr.gate) = .ok body ∧
      progUnitary body n = .ok (.ok (adjoint (prodOf U n gs))) := by
  refine ⟨(gs.reverse.map Gate.dagger).map Instr.gate, ?_, ?_⟩
  · unfold progDagger
    rw [← List.map_reverse, progDaggerFrom_gates]
    simp
  · rw [C15_program_product (fun g' => adjoint (U (undagger g'))) n (gs.reverse.map Gate.dagger)]
    · rw [prodOf_dagger U n gs (fun g h => (hU g h).2)]
    · intro g' hg'
      simp only [List.mem_map, List.mem_reverse] at hg'
      obtain ⟨a, ha, rfl⟩ := hg'
      rw [undagger_dagger]
      exact ⟨hD a ha, sq_adjoint (hU a ha).2⟩

/-- a gate application as the specification sees it: modifiers (outermost first), name, parameters, fixed qubits -/
abbrev SpecGate (K : Type) := List Modifier × String × List K × List Nat

def toGate (sg : SpecGate K) : Gate K := ⟨sg.2.1, sg.2.2.1.map Param.num, sg.2.2.2.map Qubit.fixed, sg.1⟩

/-- `C15_toUnitary_eq_denote` (section `Bounded`) for all `n`. -/
theorem C15_toUnitary_eq_denote_alln (ms : List Modifier) (name : String) (θs : List K) (qs : List Nat) (n : Nat)
    (D : Mat K) (hv : validPlacement qs n = true) (hD : denote n ms name θs qs = some D) :
    toUnitary (toGate (ms, name, θs, qs)) n = .ok (.ok D) := by
  obtain ⟨_, hlt, hnd⟩ := (C14_validPlacement_iff qs n).mp hv
  obtain ⟨m, hm, sm, rfl⟩ := gateMatrix_denote ms name θs qs D hlt hnd hD
  -- `defaultFuel` is 16 = 14 + 2: two sweeps suffice, the rest of the fuel is not used
  have hl : liftedGateMatrix m qs n defaultFuel = .ok (liftSpec m qs n) := C14_lift_eq_spec_alln 14 hv sm.2.1 sm.2.2
  simp only [toUnitary, toGate, fixedQubits_map_fixed, hm, Outcome.bind, hl]

/-- `C15_dagger_adjoint` for all `n`. -/
theorem C15_dagger_adjoint_alln (ms : List Modifier) (name : String) (θs : List K) (qs : List Nat) (n : Nat)
    (D : Mat K) (hv : validPlacement qs n = true) (hD : denote n ms name θs qs = some D) :
    toUnitary (toGate (ms, name, θs, qs)).dagger n = .ok (.ok (adjoint D)) :=
  C15_toUnitary_eq_denote_alln (.dagger :: ms) name θs qs n (adjoint D) hv (by simp [denote, hD])

/-- the matrix `to_unitary` returns.  `C15_program_product` and `C15_program_dagger` speak of a TOTAL assignment of
matrices to gates, so a gate on which `to_unitary` does not return one gets the identity; no such gate occurs in the
programs below. -/
def unitaryOf (n : Nat) (g : Gate K) : Mat K :=
  match toUnitary g n with
  | .ok (.ok u) => u
  | _ => eye (2 ^ n)

/-- The conjuncts on each gate are the hypotheses `hU`, `hD` of `C15_program_product` / `C15_program_dagger` at
`U := unitaryOf n`. -/
private theorem perGate_of_denoteProg (n : Nat) : ∀ (sgs : List (SpecGate K)) (P : Mat K),
    (∀ sg ∈ sgs, validPlacement sg.2.2.2 n = true) → denoteProg n sgs = some P →
    (∀ g ∈ sgs.map toGate, (toUnitary g n = .ok (.ok (unitaryOf n g)) ∧ Sq n (unitaryOf n g)) ∧
        toUnitary g.dagger n = .ok (.ok (adjoint (unitaryOf n g)))) ∧
      prodOf (unitaryOf n) n (sgs.map toGate) = P := by
  intro sgs
  induction sgs with
  | nil =>
    intro P _ h
    simp only [denoteProg] at h
    injection h with h
    exact ⟨by simp, by simp [prodOf, h]⟩
  | cons sg rest ih =>
    intro P hv h
    obtain ⟨D, R, hd, hr, rfl⟩ := denoteProg_cons_inv h
    obtain ⟨ms, name, θs, qs⟩ := sg
    have hv0 : validPlacement qs n = true := hv (ms, name, θs, qs) List.mem_cons_self
    obtain ⟨_, hlt, hnd⟩ := (C14_validPlacement_iff qs n).mp hv0
    obtain ⟨ih1, ih2⟩ := ih R (fun sg hsg => hv sg (List.mem_cons_of_mem _ hsg)) hr
    have e1 := C15_toUnitary_eq_denote_alln ms name θs qs n D hv0 hd
    have e2 := C15_dagger_adjoint_alln ms name θs qs n D hv0 hd
    have hU : unitaryOf n (toGate (ms, name, θs, qs)) = D := by unfold unitaryOf; rw [e1]
    refine ⟨?_, ?_⟩
    · intro g hg
      simp only [List.map_cons, List.mem_cons] at hg
      rcases hg with rfl | hg
      · rw [hU]; exact ⟨⟨e1, denote_sq hd⟩, e2⟩
      · exact ih1 g hg
    · simp only [List.map_cons, prodOf, ih2, hU]

/-- `C15_program_eq_denote` for all `n` (and any program length). -/
theorem C15_program_eq_denote_alln (n : Nat) (sgs : List (SpecGate K)) (P : Mat K)
    (hv : ∀ sg ∈ sgs, validPlacement sg.2.2.2 n = true) (hP : denoteProg n sgs = some P) :
    progUnitary ((sgs.map toGate).map Instr.gate) n = .ok (.ok P) ∧
    ∃ body, progDagger ((sgs.map toGate).map Instr.gate) = .ok body ∧
      progUnitary body n = .ok (.ok (adjoint P)) := by
  obtain ⟨h1, h2⟩ := perGate_of_denoteProg n sgs P hv hP
  rw [← h2]
  exact ⟨C15_program_product (unitaryOf n) n _ (fun g hg => (h1 g hg).1),
    C15_program_dagger (unitaryOf n) n _ (fun g hg => (h1 g hg).1) (fun g hg => (h1 g hg).2)⟩

/-- `C15_gate_unitary` for all `n`. -/
theorem C15_gate_unitary_alln (ms : List Modifier) (name : String) (θs : List K) (qs : List Nat) (n : Nat)
    (D : Mat K) (hv : validPlacement qs n = true) (hreal : ∀ θ ∈ θs, star θ = θ)
    (hD : denote n ms name θs qs = some D) :
    toUnitary (toGate (ms, name, θs, qs)) n = .ok (.ok D) ∧
      Sq n D ∧ mul (adjoint D) D = eye (2 ^ n) ∧ mul D (adjoint D) = eye (2 ^ n) := by
  obtain ⟨_, hlt, hnd⟩ := (C14_validPlacement_iff qs n).mp hv
  exact ⟨C15_toUnitary_eq_denote_alln ms name θs qs n D hv hD, denote_unitary ms name θs qs D hlt hnd hreal hD⟩

/-- **Every program unitary is unitary** (any length): the product denoted by a program of well-formed gate
applications with real parameters is unitary (and by `C15_program_eq_denote_alln` it is what `Program::to_unitary`
returns). -/
theorem C15_program_unitary (n : Nat) : ∀ (sgs : List (SpecGate K)) (P : Mat K),
    (∀ sg ∈ sgs, validPlacement sg.2.2.2 n = true) → (∀ sg ∈ sgs, ∀ θ ∈ sg.2.2.1, star θ = θ) →
    denoteProg n sgs = some P →
    Sq n P ∧ mul (adjoint P) P = eye (2 ^ n) ∧ mul P (adjoint P) = eye (2 ^ n) := by
  intro sgs
  induction sgs with
  | nil =>
    intro P _ _ h
    simp only [denoteProg] at h
    injection h with h; subst h
    exact isUnitary_eye n
  | cons sg rest ih =>
    intro P hv hreal h
    obtain ⟨D, R, hd, hr, rfl⟩ := denoteProg_cons_inv h
    obtain ⟨_, hlt, hnd⟩ := (C14_validPlacement_iff _ n).mp (hv sg List.mem_cons_self)
    have uD := denote_unitary _ _ _ _ D hlt hnd (hreal sg List.mem_cons_self) hd
    have uR := ih R (fun sg hsg => hv sg (List.mem_cons_of_mem _ hsg))
      (fun sg hsg => hreal sg (List.mem_cons_of_mem _ hsg)) hr
    exact IsUnitary.mul uR uD

/-- `C15_controlled` for all `n`. -/
theorem C15_controlled_alln (ms : List Modifier) (name : String) (θs : List K) (c : Nat) (qs : List Nat) (n : Nat)
    (D : Mat K) (hv : validPlacement (c :: qs) n = true) (hD : denote n ms name θs qs = some D) :
    toUnitary ((toGate (ms, name, θs, qs)).controlled (.fixed c)) n = .ok (.ok (ctrlSpec c D)) ∧
    ∀ r c', r < 2 ^ n → c' < 2 ^ n →
      (ctrlSpec c D).get r c' = if r.testBit c then D.get r c' else (if r = c' then 1 else 0) := by
  have hdims := (denote_sq hD).2
  refine ⟨C15_toUnitary_eq_denote_alln (.controlled :: ms) name θs (c :: qs) n _ hv (by simp [denote, hD]), ?_⟩
  intro r c' hr hc'
  unfold ctrlSpec
  rw [get_build (by rw [hdims.1]; exact hr) (by rw [hdims.2]; exact hc')]

/-- `C15_forked` for all `n`. -/
theorem C15_forked_alln (ms : List Modifier) (name : String) (θ0 θ1 : List K) (c : Nat) (qs : List Nat) (n : Nat)
    (D0 D1 : Mat K) (hv : validPlacement (c :: qs) n = true) (hlen : θ1.length = θ0.length)
    (hD0 : denote n ms name θ0 qs = some D0) (hD1 : denote n ms name θ1 qs = some D1) :
    (∃ g, (toGate (ms, name, θ0, qs)).forked (.fixed c) (θ1.map Param.num) = some g ∧
      toUnitary g n = .ok (.ok (forkSpec c D0 D1))) ∧
    ∀ r c', r < 2 ^ n → c' < 2 ^ n →
      (forkSpec c D0 D1).get r c' = if r.testBit c then D1.get r c' else D0.get r c' := by
  have hsq := denote_sq hD0
  have hhalf : (θ0 ++ θ1).length / 2 = θ0.length := by simp [hlen]; omega
  have htake : (θ0 ++ θ1).take ((θ0 ++ θ1).length / 2) = θ0 := by rw [hhalf, List.take_left' rfl]
  have hdrop : (θ0 ++ θ1).drop ((θ0 ++ θ1).length / 2) = θ1 := by rw [hhalf, List.drop_left' rfl]
  have heven : ¬ (θ0 ++ θ1).length % 2 ≠ 0 := by simp [hlen]; omega
  refine ⟨⟨toGate (.forked :: ms, name, θ0 ++ θ1, c :: qs), ?_, ?_⟩, ?_⟩
  · simp [Gate.forked, toGate, hlen]
  · exact C15_toUnitary_eq_denote_alln (.forked :: ms) name (θ0 ++ θ1) (c :: qs) n _ hv
      (by simp only [denote, if_neg heven, htake, hdrop, hD0, hD1])
  · exact fun r c' hr hc' => get_forkSpec hsq hr hc'

/-! ## The property's own range, `n ≤ 5`

The statements of this section carry the property's quantifier `n ≤ 5`.  They are the theorems above, which hold for
every `n`; the bound is not used. -/
section Bounded
set_option linter.unusedVariables false

/-- **Modifiers compose as written, for ALL stacks** (no depth bound).
If the specification gives `ms name(θs) qs` a meaning `D` on `n ≤ 5` qubits (`denote`: DAGGER = adjoint;
CONTROLLED = identity where the first remaining qubit is 0, the rest of the stack where it is 1; FORKED =
the first / second half of the parameters where the first remaining qubit is 0 / 1; base = C14's lifted
specification matrix) and `qs` is a valid placement (distinct qubits `< n`, at least one), then `Gate::to_unitary`
returns exactly `D` — no error, no panic, modifiers applied outermost-first, each CONTROLLED/FORKED consuming the
leading qubit. -/
theorem C15_toUnitary_eq_denote (ms : List Modifier) (name : String) (θs : List K) (qs : List Nat) (n : Nat)
    (D : Mat K) (hn : n ≤ 5) (hv : validPlacement qs n = true) (hD : denote n ms name θs qs = some D) :
    toUnitary (toGate (ms, name, θs, qs)) n = .ok (.ok D) :=
  C15_toUnitary_eq_denote_alln ms name θs qs n D hv hD

/-- **DAGGER conjugate-transposes**: `Gate::dagger` of a gate with meaning `D` has meaning `Dᴴ`, and
`to_unitary` returns it. -/
theorem C15_dagger_adjoint (ms : List Modifier) (name : String) (θs : List K) (qs : List Nat) (n : Nat)
    (D : Mat K) (hn : n ≤ 5) (hv : validPlacement qs n = true) (hD : denote n ms name θs qs = some D) :
    toUnitary (toGate (ms, name, θs, qs)).dagger n = .ok (.ok (adjoint D)) :=
  C15_dagger_adjoint_alln ms name θs qs n D hv hD

/-- **CONTROLLED adds a leading control qubit and applies the gate only when it is 1**: entry `(r, c')` of the
result is the base operator's entry when bit `c` of `r` is 1, and the identity's when it is 0. -/
theorem C15_controlled (ms : List Modifier) (name : String) (θs : List K) (c : Nat) (qs : List Nat) (n : Nat)
    (D : Mat K) (hn : n ≤ 5) (hv : validPlacement (c :: qs) n = true) (hD : denote n ms name θs qs = some D) :
    toUnitary ((toGate (ms, name, θs, qs)).controlled (.fixed c)) n = .ok (.ok (ctrlSpec c D)) ∧
    ∀ r c', r < 2 ^ n → c' < 2 ^ n →
      (ctrlSpec c D).get r c' = if r.testBit c then D.get r c' else (if r = c' then 1 else 0) :=
  C15_controlled_alln ms name θs c qs n D hv hD

/-- **FORKED on a leading qubit selects the first or second half of the parameters.** -/
theorem C15_forked (ms : List Modifier) (name : String) (θ0 θ1 : List K) (c : Nat) (qs : List Nat) (n : Nat)
    (D0 D1 : Mat K) (hn : n ≤ 5) (hv : validPlacement (c :: qs) n = true) (hlen : θ1.length = θ0.length)
    (hD0 : denote n ms name θ0 qs = some D0) (hD1 : denote n ms name θ1 qs = some D1) :
    (∃ g, (toGate (ms, name, θ0, qs)).forked (.fixed c) (θ1.map Param.num) = some g ∧
      toUnitary g n = .ok (.ok (forkSpec c D0 D1))) ∧
    ∀ r c', r < 2 ^ n → c' < 2 ^ n →
      (forkSpec c D0 D1).get r c' = if r.testBit c then D1.get r c' else D0.get r c' :=
  C15_forked_alln ms name θ0 θ1 c qs n D0 D1 hv hlen hD0 hD1

/-- **Programs against the specification** (any length): for a gate-only program whose gates are well-formed
applications to distinct qubits `< n ≤ 5`, with `denoteProg` = the product `U_m · … · U_1` of the gates'
denotations: `Program::to_unitary` returns exactly that product, `Program::dagger` succeeds, and the dagger
program's `to_unitary` returns its adjoint. -/
theorem C15_program_eq_denote (n : Nat) (hn : n ≤ 5) (sgs : List (SpecGate K)) (P : Mat K)
    (hv : ∀ sg ∈ sgs, validPlacement sg.2.2.2 n = true) (hP : denoteProg n sgs = some P) :
    progUnitary ((sgs.map toGate).map Instr.gate) n = .ok (.ok P) ∧
    ∃ body, progDagger ((sgs.map toGate).map Instr.gate) = .ok body ∧
      progUnitary body n = .ok (.ok (adjoint P)) :=
  C15_program_eq_denote_alln n sgs P hv hP

/-- **Every computed gate unitary is unitary** (all stacks; real parameters): under the hypotheses of
`C15_toUnitary_eq_denote` and `star θ = θ` for every parameter, the matrix `D` that `Gate::to_unitary`
returns is a well-formed `2^n × 2^n` matrix with `Dᴴ·D = I` and `D·Dᴴ = I`. -/
theorem C15_gate_unitary (ms : List Modifier) (name : String) (θs : List K) (qs : List Nat) (n : Nat)
    (D : Mat K) (hn : n ≤ 5) (hv : validPlacement qs n = true) (hreal : ∀ θ ∈ θs, star θ = θ)
    (hD : denote n ms name θs qs = some D) :
    toUnitary (toGate (ms, name, θs, qs)) n = .ok (.ok D) ∧
      Sq n D ∧ mul (adjoint D) D = eye (2 ^ n) ∧ mul D (adjoint D) = eye (2 ^ n) :=
  C15_gate_unitary_alln ms name θs qs n D hv hreal hD

end Bounded

/-- non-vacuity over `ℂ`: `FORKED CONTROLLED RX(a, b) 2 1 0` on 3 qubits has a denotation, so the theorems
above apply to it (a stack on which the order of peeling shows: `modifiers.pop()` in place of `modifiers.remove(0)` in
`gate_matrix` gives another matrix). -/
example (a b : ℂ) : ∃ D, denote 3 [.forked, .controlled] "RX" [a, b] [2, 1, 0] = some D ∧
    toUnitary (toGate ([.forked, .controlled], "RX", [a, b], [2, 1, 0])) 3 = .ok (.ok D) := by
  have h : (denote 3 [.forked, .controlled] "RX" [a, b] [2, 1, 0]).isSome = true := by
    simp [denote, specMatrix]
  obtain ⟨D, hD⟩ := Option.isSome_iff_exists.mp h
  exact ⟨D, hD, C15_toUnitary_eq_denote _ _ _ _ 3 D (by norm_num) (by decide) hD⟩

/-- non-vacuity of the unitarity theorem over `ℂ` with real angles -/
example (a b : ℝ) : ∃ D, toUnitary (toGate ([.forked, .controlled], "RX", [(a : ℂ), (b : ℂ)], [2, 1, 0])) 3 = .ok (.ok D) ∧
    mul (adjoint D) D = eye (2 ^ 3) := by
  have h : (denote 3 [.forked, .controlled] "RX" [(a : ℂ), (b : ℂ)] [2, 1, 0]).isSome = true := by
    simp [denote, specMatrix]
  obtain ⟨D, hD⟩ := Option.isSome_iff_exists.mp h
  have := C15_gate_unitary _ _ _ _ 3 D (by norm_num) (by decide)
    (by intro θ hθ; simp at hθ; rcases hθ with rfl | rfl <;> exact Complex.conj_ofReal _) hD
  exact ⟨D, this.1, this.2.2.1⟩

end QV.C15
