import QV.C14.Lemmas
import QV.C15.Model
import QV.C15.Spec
import Mathlib.Algebra.Star.BigOperators
/-
C15 lemmas: algebra of `adjoint` and `mul` on `Mat K` (K a commutative star ring with `GateLaws`), the
program-level folds, and unitarity with its closure under adjoint and product.
Names: an equation that needs `h : Sq n A` is `Sq.…` (`h.eye_mul`, `h.mul_assoc`); that the result of an operation is
`Sq` / `IsUnitary` is `sq_<operation>` / `isUnitary_<operation>` (`sq_mul`, `sq_adjoint`, `isUnitary_forkSpec`), not
`Sq.mul`: inside the `Sq.…` declarations `mul` would then stop meaning `Mat.mul`.  (`IsUnitary.mul`, `IsUnitary.adjoint`
are the two older exceptions; nothing after them in that namespace mentions `mul` or `adjoint`.)
-/
namespace QV.C15
open QV.C14 QV.C14.Mat GateFns


section
variable {K : Type} [CommRing K] [StarRing K] [GateFns K] [GateLaws K]

theorem adjoint_eye (n : Nat) : adjoint (eye n : Mat K) = eye n := by
  refine Mat.ext' (A := adjoint (eye n)) (B := eye n) (wf_adjoint _) (wf_eye _) rfl rfl ?_
  intro i j hi hj
  simp only [adjoint_r, adjoint_c, eye_r, eye_c] at hi hj
  rw [get_adjoint (by simpa using hi) (by simpa using hj), get_eye hj hi, get_eye hi hj]
  by_cases h : i = j
  · subst h; simp [QV.C14.conj_one]
  · have : ¬ j = i := fun e => h e.symm
    simp [h, this, QV.C14.conj_zero]

theorem adjoint_mul (A B : Mat K) (h : A.c = B.r) : adjoint (mul A B) = mul (adjoint B) (adjoint A) := by
  refine Mat.ext' (A := adjoint (mul A B)) (B := mul (adjoint B) (adjoint A)) (wf_adjoint _) (wf_mul _ _) rfl rfl ?_
  intro i j hi hj
  simp only [adjoint_r, adjoint_c, mul_r, mul_c] at hi hj
  rw [get_adjoint (by simpa using hi) (by simpa using hj), get_mul hj hi, get_mul (by simpa using hi) (by simpa using hj)]
  rw [GateLaws.conj_eq, star_sum]
  simp only [adjoint_c]
  rw [h]
  apply Finset.sum_congr rfl
  intro k hk
  have hk' : k < B.r := by simpa using hk
  rw [get_adjoint hi hk', get_adjoint (by rw [h]; exact hk') hj, star_mul', GateLaws.conj_eq, GateLaws.conj_eq, mul_comm]

theorem adjoint_adjoint {A : Mat K} (hA : A.WF) : adjoint (adjoint A) = A := by
  refine Mat.ext' (A := adjoint (adjoint A)) (B := A) (wf_adjoint _) hA rfl rfl ?_
  intro i j hi hj
  simp only [adjoint_r, adjoint_c] at hi hj
  rw [get_adjoint (by simpa using hi) (by simpa using hj), get_adjoint hj hi, GateLaws.conj_eq, GateLaws.conj_eq, star_star]


/-- `U_m · … · U_1` for the gate list `[g_1, …, g_m]` and a gate-to-matrix assignment `U` -/
def prodOf (U : Gate K → Mat K) (n : Nat) : List (Gate K) → Mat K
  | [] => eye (2 ^ n)
  | g :: gs => mul (prodOf U n gs) (U g)

def Sq (n : Nat) (A : Mat K) : Prop := A.WF ∧ A.r = 2 ^ n ∧ A.c = 2 ^ n

omit [StarRing K] [GateLaws K] in
theorem sq_eye (n : Nat) : Sq n (eye (2 ^ n) : Mat K) := ⟨wf_eye _, rfl, rfl⟩
omit [StarRing K] [GateLaws K] in
theorem sq_mul {n : Nat} {A B : Mat K} (hA : Sq n A) (hB : Sq n B) : Sq n (mul A B) :=
  ⟨wf_mul _ _, hA.2.1, hB.2.2⟩
omit [StarRing K] [GateLaws K] in
theorem sq_adjoint {n : Nat} {A : Mat K} (hA : Sq n A) : Sq n (adjoint A) :=
  ⟨wf_adjoint _, hA.2.2, hA.2.1⟩

omit [StarRing K] [GateFns K] [GateLaws K] in
theorem Sq.ext {n : Nat} {A B : Mat K} (hA : Sq n A) (hB : Sq n B)
    (h : ∀ r c, r < 2 ^ n → c < 2 ^ n → A.get r c = B.get r c) : A = B :=
  Mat.ext' hA.1 hB.1 (hA.2.1.trans hB.2.1.symm) (hA.2.2.trans hB.2.2.symm)
    fun r c hr hc => h r c (hA.2.1 ▸ hr) (hA.2.2 ▸ hc)

omit [StarRing K] [GateLaws K] in
theorem Sq.eye_mul {n : Nat} {A : Mat K} (h : Sq n A) : mul (eye (2 ^ n)) A = A := by
  have := QV.C14.Mat.eye_mul h.1; rwa [h.2.1] at this
omit [StarRing K] [GateLaws K] in
theorem Sq.mul_eye {n : Nat} {A : Mat K} (h : Sq n A) : mul A (eye (2 ^ n)) = A := by
  have := Mat.mul_eye h.1; rwa [h.2.2] at this
omit [StarRing K] [GateLaws K] in
theorem Sq.mul_assoc {n : Nat} {A B : Mat K} (C : Mat K) (hA : Sq n A) (hB : Sq n B) :
    mul (mul A B) C = mul A (mul B C) :=
  Mat.mul_assoc' (by rw [hA.2.2, hB.2.1])
theorem Sq.adjoint_mul {n : Nat} {A B : Mat K} (hA : Sq n A) (hB : Sq n B) :
    adjoint (mul A B) = mul (adjoint B) (adjoint A) :=
  QV.C15.adjoint_mul _ _ (by rw [hA.2.2, hB.2.1])

omit [StarRing K] [GateLaws K] in
theorem sq_prodOf (U : Gate K → Mat K) (n : Nat) (gs : List (Gate K)) (hU : ∀ g ∈ gs, Sq n (U g)) :
    Sq n (prodOf U n gs) := by
  induction gs with
  | nil => exact sq_eye n
  | cons g gs ih =>
    exact sq_mul (ih fun g' h => hU g' (List.mem_cons_of_mem _ h)) (hU g List.mem_cons_self)

omit [StarRing K] [GateLaws K] in
theorem progUnitaryFrom_gates (U : Gate K → Mat K) (n : Nat) (gs : List (Gate K))
    (hU : ∀ g ∈ gs, toUnitary g n = .ok (.ok (U g)) ∧ Sq n (U g)) (acc : Mat K) (hacc : Sq n acc) :
    progUnitaryFrom n (gs.map Instr.gate) acc = .ok (.ok (mul (prodOf U n gs) acc)) := by
  induction gs generalizing acc with
  | nil => simp only [List.map_nil, progUnitaryFrom, prodOf, hacc.eye_mul]
  | cons g gs ih =>
    have hg := hU g List.mem_cons_self
    have hrest : ∀ g' ∈ gs, toUnitary g' n = .ok (.ok (U g')) ∧ Sq n (U g') :=
      fun g' h => hU g' (List.mem_cons_of_mem _ h)
    simp only [List.map_cons, progUnitaryFrom, hg.1, Outcome.bind]
    rw [ih hrest _ (sq_mul hg.2 hacc)]
    simp only [prodOf]
    rw [(sq_prodOf U n gs fun g' h => (hrest g' h).2).mul_assoc _ hg.2]

omit [StarRing K] [GateLaws K] in
theorem prodOf_append (U : Gate K → Mat K) (n : Nat) (gs : List (Gate K)) (x : Gate K)
    (hU : ∀ g ∈ gs, Sq n (U g)) (hx : Sq n (U x)) :
    prodOf U n (gs ++ [x]) = mul (U x) (prodOf U n gs) := by
  induction gs with
  | nil => simp only [List.nil_append, prodOf, hx.eye_mul, hx.mul_eye]
  | cons g gs ih =>
    have hrest : ∀ g' ∈ gs, Sq n (U g') := fun g' h => hU g' (List.mem_cons_of_mem _ h)
    simp only [List.cons_append, prodOf]
    rw [ih hrest, hx.mul_assoc _ (sq_prodOf U n gs hrest)]

omit [CommRing K] [StarRing K] [GateFns K] [GateLaws K] in
theorem progDaggerFrom_gates (gs : List (Gate K)) (acc : List (Instr K)) :
    progDaggerFrom (gs.map Instr.gate) acc = .ok (acc ++ gs.map fun g => Instr.gate g.dagger) := by
  induction gs generalizing acc with
  | nil => simp [progDaggerFrom]
  | cons g gs ih => simp [progDaggerFrom, ih]

/-- `prodOf` takes a total assignment `Gate → Mat`, so the matrices of a daggered list have to be given as a function
of the daggered gate: `undagger` recovers `g` from `g.dagger`. -/
def undagger (g : Gate K) : Gate K := { g with mods := g.mods.tail }
omit [CommRing K] [StarRing K] [GateFns K] [GateLaws K] in
theorem undagger_dagger (g : Gate K) : undagger g.dagger = g := by
  cases g; rfl

theorem prodOf_dagger (U : Gate K → Mat K) (n : Nat) (gs : List (Gate K)) (hU : ∀ g ∈ gs, Sq n (U g)) :
    prodOf (fun g' => adjoint (U (undagger g'))) n (gs.reverse.map Gate.dagger) = adjoint (prodOf U n gs) := by
  induction gs with
  | nil => simp only [List.reverse_nil, List.map_nil, prodOf, adjoint_eye]
  | cons g t ih =>
    have hg := hU g List.mem_cons_self
    have hrest : ∀ g' ∈ t, Sq n (U g') := fun g' h => hU g' (List.mem_cons_of_mem _ h)
    have hp := sq_prodOf U n t hrest
    rw [List.reverse_cons, List.map_append, List.map_cons, List.map_nil, prodOf_append]
    · rw [ih hrest]
      simp only [undagger_dagger, prodOf]
      rw [hp.adjoint_mul hg]
    · intro g' hg'
      simp only [List.mem_map, List.mem_reverse] at hg'
      obtain ⟨a, ha, rfl⟩ := hg'
      rw [undagger_dagger]; exact sq_adjoint (hrest a ha)
    · rw [undagger_dagger]; exact sq_adjoint hg


def IsUnitary (n : Nat) (D : Mat K) : Prop :=
  Sq n D ∧ mul (adjoint D) D = eye (2 ^ n) ∧ mul D (adjoint D) = eye (2 ^ n)

theorem isUnitary_eye (n : Nat) : IsUnitary n (eye (2 ^ n) : Mat K) := by
  refine ⟨sq_eye n, ?_, ?_⟩ <;> rw [adjoint_eye, (sq_eye n).eye_mul]

theorem IsUnitary.adjoint {n : Nat} {D : Mat K} (h : IsUnitary n D) : IsUnitary n (adjoint D) := by
  refine ⟨sq_adjoint h.1, ?_, ?_⟩
  · rw [adjoint_adjoint h.1.1]; exact h.2.2
  · rw [adjoint_adjoint h.1.1]; exact h.2.1

theorem IsUnitary.mul {n : Nat} {A B : Mat K} (hA : IsUnitary n A) (hB : IsUnitary n B) :
    IsUnitary n (mul A B) := by
  obtain ⟨sA, a1, a2⟩ := hA
  obtain ⟨sB, b1, b2⟩ := hB
  have sAh := sq_adjoint sA
  have sBh := sq_adjoint sB
  refine ⟨sq_mul sA sB, ?_, ?_⟩
  · -- (Bᴴ Aᴴ)(A B) = Bᴴ ((Aᴴ A) B)
    rw [sA.adjoint_mul sB, sBh.mul_assoc _ sAh, ← sAh.mul_assoc _ sA, a1, sB.eye_mul, b1]
  · rw [sA.adjoint_mul sB, sA.mul_assoc _ sB, ← sB.mul_assoc _ sBh, b2, sAh.eye_mul, a2]

omit [StarRing K] [GateLaws K] in
theorem get_adjoint_mul {n : Nat} {D : Mat K} (sD : Sq n D) {r c : Nat} (hr : r < 2 ^ n) (hc : c < 2 ^ n) :
    (mul (adjoint D) D).get r c = ∑ a ∈ Finset.range (2 ^ n), conj (D.get a r) * D.get a c := by
  rw [get_mul (by simp only [adjoint_r]; rw [sD.2.2]; exact hr) (by rw [sD.2.2]; exact hc)]
  simp only [adjoint_c]; rw [sD.2.1]
  refine Finset.sum_congr rfl fun a ha => ?_
  rw [get_adjoint (by rw [sD.2.2]; exact hr) (by rw [sD.2.1]; exact Finset.mem_range.mp ha)]

omit [StarRing K] [GateLaws K] in
theorem get_mul_adjoint {n : Nat} {D : Mat K} (sD : Sq n D) {r c : Nat} (hr : r < 2 ^ n) (hc : c < 2 ^ n) :
    (mul D (adjoint D)).get r c = ∑ x ∈ Finset.range (2 ^ n), D.get r x * conj (D.get c x) := by
  rw [get_mul (by rw [sD.2.1]; exact hr) (by simp only [adjoint_c]; rw [sD.2.1]; exact hc), sD.2.2]
  refine Finset.sum_congr rfl fun x hx => ?_
  rw [get_adjoint (by rw [sD.2.2]; exact Finset.mem_range.mp hx) (by rw [sD.2.1]; exact hc)]

end
end QV.C15
