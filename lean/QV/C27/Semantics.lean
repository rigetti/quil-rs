import QV.C27.Spec
/-
C27, semantic layer: an executable semantics of the classical / measuring / expression-evaluating
instructions, against which Props.lean justifies the operand-role table of Spec.lean (`ConsultsOperand`,
`AssignsOperand`, `ReceivesOperand`, the expression clause).

Memory is `region → index → value`; values are integers; the arithmetic / logic / comparison / conversion
operators and the expression operators are ARBITRARY functions (parameters of the instruction), so the
theorems in Props.lean hold for every interpretation of the operators.  `erase` forgets indices and
operators and gives the projected instruction the rest of C27 talks about.
-/
namespace QV.C27.Sem
open QV.C27

abbrev Val := Int
abbrev Mem := Region → Nat → Val

structure Ref where
  region : Region
  index : Nat
  deriving DecidableEq, Repr

inductive Operand where
  | lit (v : Val)
  | ref (r : Ref)

def Operand.val (m : Mem) : Operand → Val
  | .lit v => v
  | .ref r => m r.region r.index

def Operand.erase : Operand → Option Region
  | .lit _ => none
  | .ref r => some r.region

/-- expressions with indices and (arbitrary) operators -/
inductive Ex where
  | addr (r : Ref)
  | const (v : Val)
  | un (f : Val → Val) (e : Ex)
  | bin (f : Val → Val → Val) (l r : Ex)

def Ex.eval (m : Mem) : Ex → Val
  | .addr r => m r.region r.index
  | .const v => v
  | .un f e => f (e.eval m)
  | .bin f l r => f (l.eval m) (r.eval m)

def Ex.erase : Ex → E
  | .addr r => .addr r.region
  | .const _ => .leaf
  | .un _ e => .un e.erase
  | .bin _ l r => .bin l.erase r.erase

def upd (m : Mem) (r : Ref) (v : Val) : Mem :=
  fun reg k => if reg = r.region ∧ k = r.index then v else m reg k

/-- executable instructions: what the projected `Instr` forgets is kept here -/
inductive XInstr where
  | arithmetic (op : Val → Val → Val) (dst : Ref) (src : Operand)      -- dst := dst ∘ src
  | binaryLogic (op : Val → Val → Val) (dst : Ref) (src : Operand)
  | unaryLogic (op : Val → Val) (x : Ref)                               -- x := ∘ x
  | move (dst : Ref) (src : Operand)
  | convert (conv : Val → Val) (dst src : Ref)
  | exchange (a b : Ref)
  | comparison (op : Val → Val → Val) (dst lhs : Ref) (rhs : Operand)  -- dst := lhs ⋈ rhs
  | load (dst : Ref) (src : Region) (off : Ref)                         -- dst := src[off]
  | store (dst : Region) (off : Ref) (src : Operand)                    -- dst[off] := src
  | measurement (target : Option Ref)                                   -- target := readout
  | capture (target : Ref) (params : List Ex)                           -- target := readout(params)
  | rawCapture (target : Ref) (duration : Ex)
  | jumpWhen (c : Ref)
  | jumpUnless (c : Ref)
  | pulse (params : List Ex)
  | gate (params : List Ex)
  | delay (e : Ex)
  | setFrequency (e : Ex)
  | setPhase (e : Ex)
  | setScale (e : Ex)
  | shiftFrequency (e : Ex)
  | shiftPhase (e : Ex)

def XInstr.erase : XInstr → Instr
  | .arithmetic _ d s => .arithmetic d.region s.erase
  | .binaryLogic _ d s => .binaryLogic d.region s.erase
  | .unaryLogic _ x => .unaryLogic x.region
  | .move d s => .move d.region s.erase
  | .convert _ d s => .convert d.region s.region
  | .exchange a b => .exchange a.region b.region
  | .comparison _ d l r => .comparison d.region l.region r.erase
  | .load d s o => .load d.region s o.region
  | .store d o s => .store d o.region s.erase
  | .measurement t => .measurement (t.map (·.region))
  | .capture t ps => .capture t.region (ps.map Ex.erase)
  | .rawCapture t d => .rawCapture t.region d.erase
  | .jumpWhen c => .jumpWhen c.region
  | .jumpUnless c => .jumpUnless c.region
  | .pulse ps => .pulse (ps.map Ex.erase)
  | .gate ps => .gate (ps.map Ex.erase)
  | .delay e => .delay e.erase
  | .setFrequency e => .setFrequency e.erase
  | .setPhase e => .setPhase e.erase
  | .setScale e => .setScale e.erase
  | .shiftFrequency e => .shiftFrequency e.erase
  | .shiftPhase e => .shiftPhase e.erase

/-- The memory after the instruction.  `readout` is what the quantum side delivers to a MEASURE /
CAPTURE target (a function of the evaluated waveform parameters / duration, arbitrary). -/
def XInstr.exec (readout : List Val → Val) (m : Mem) : XInstr → Mem
  | .arithmetic op d s | .binaryLogic op d s => upd m d (op (m d.region d.index) (s.val m))
  | .unaryLogic op x => upd m x (op (m x.region x.index))
  | .move d s => upd m d (s.val m)
  | .convert conv d s => upd m d (conv (m s.region s.index))
  | .exchange a b => upd (upd m a (m b.region b.index)) b (m a.region a.index)
  | .comparison op d l r => upd m d (op (m l.region l.index) (r.val m))
  | .load d s o => upd m d (m s (m o.region o.index).toNat)
  | .store d o s => upd m ⟨d, (m o.region o.index).toNat⟩ (s.val m)
  | .measurement none => m
  | .measurement (some t) => upd m t (readout [])
  | .capture t ps => upd m t (readout (ps.map (Ex.eval m)))
  | .rawCapture t d => upd m t (readout [d.eval m])
  | _ => m

/-- What the instruction shows to the rest of the machine besides its memory effect: the branch it
takes, or the numbers it hands to the control hardware. -/
def XInstr.observe (m : Mem) : XInstr → List Val
  | .jumpWhen c => [if m c.region c.index ≠ 0 then 1 else 0]
  | .jumpUnless c => [if m c.region c.index = 0 then 1 else 0]
  | .pulse ps | .gate ps | .capture _ ps => ps.map (Ex.eval m)
  | .delay e | .setFrequency e | .setPhase e | .setScale e | .shiftFrequency e | .shiftPhase e
  | .rawCapture _ e => [e.eval m]
  | _ => []

theorem upd_of_ne {m : Mem} {c : Ref} {v : Val} {r : Region} {k : Nat} (h : r ≠ c.region) :
    upd m c v r k = m r k :=
  if_neg fun hc => h hc.1

def AgreeOn (S : Region → Prop) (m m' : Mem) : Prop := ∀ r, S r → ∀ k, m r k = m' r k

/-- The conclusion of non-interference for the memories `n`, `n'` after an instruction run on `m`, `m'`.  `n = n'`
would be too strong: `m` and `m'` may differ outside the regions read, and an untouched cell keeps that difference. -/
def SameOrUntouched (m m' n n' : Mem) : Prop := ∀ r k, n r k = n' r k ∨ (n r k = m r k ∧ n' r k = m' r k)

theorem sameOrUntouched_refl (m m' : Mem) : SameOrUntouched m m' m m' := fun _ _ => Or.inr ⟨rfl, rfl⟩

theorem sameOrUntouched_upd {m m' n n' : Mem} (h : SameOrUntouched m m' n n') (c : Ref) {v v' : Val} (hv : v = v') :
    SameOrUntouched m m' (upd n c v) (upd n' c v') := by
  intro r k
  unfold upd
  by_cases hc : r = c.region ∧ k = c.index
  · simp [hc, hv]
  · simp only [hc, if_false]; exact h r k

theorem upd_same {m m' : Mem} (c : Ref) {v v' : Val} (hv : v = v') :
    SameOrUntouched m m' (upd m c v) (upd m' c v') :=
  sameOrUntouched_upd (sameOrUntouched_refl m m') c hv

/-- an executable expression of shape `e`: indices 0, unary operators the identity, binary `+`.  With `count` below it
is the witness of `C27_sem_eval_tight` (Props.lean): its value counts the occurrences of a region. -/
def liftE : E → Ex
  | .addr r => .addr ⟨r, 0⟩
  | .leaf => .const 0
  | .un e => .un id (liftE e)
  | .bin l r => .bin (· + ·) (liftE l) (liftE r)

/-- number of `Address` leaves of region `r` -/
def count (r : Region) : E → Nat
  | .addr x => if x = r then 1 else 0
  | .leaf => 0
  | .un e => count r e
  | .bin l x => count r l + count r x

end QV.C27.Sem
