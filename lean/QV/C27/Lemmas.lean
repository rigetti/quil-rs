import QV.C27.Spec
import QV.Shared.Chk
/-
The executable specification (`specReads` …, `resolvableB`) decides the declarative one (`Reads` …, `Resolvable`), by
induction through bodies of any depth (`Instr.body_induction`).  The model against the specification's tables: apart
from an unresolved CALL, an instruction reports its own contribution `own` and folds over its body
(`memoryAccesses_eq`); hence it returns the executable specification's three lists, list for list, and fails exactly
when `resolvableB` says so (`memoryAccesses_okWhen`).
-/
namespace QV.C27

/-- the hypotheses have the form `split` leaves in the catch-all arm of a `match` on `i`, so that a caller passes
them as `‹_› ‹_› ‹_›` -/
theorem bodyOf_eq_nil {i : Instr} (h1 : ∀ ps b, i = .calibrationDefinition ps b → False)
    (h2 : ∀ b, i = .circuitDefinition b → False) (h3 : ∀ b, i = .measureCalibrationDefinition b → False) :
    bodyOf i = [] := by
  unfold bodyOf
  split
  · exact absurd rfl (h1 _ _)
  · exact absurd rfl (h2 _)
  · exact absurd rfl (h3 _)
  · rfl

theorem sizeOf_body_lt (i : Instr) (j : Instr) (h : j ∈ bodyOf i) : sizeOf j < sizeOf i := by
  have := List.sizeOf_lt_of_mem h
  unfold bodyOf at this
  split at this
  · rw [Instr.calibrationDefinition.sizeOf_spec]; omega
  · rw [Instr.circuitDefinition.sizeOf_spec]; omega
  · rw [Instr.measureCalibrationDefinition.sizeOf_spec]; omega
  · exact absurd h (by rw [bodyOf_eq_nil ‹_› ‹_› ‹_›]; exact List.not_mem_nil)

theorem Instr.body_induction {P : Instr → Prop} (step : ∀ i, (∀ j, j ∈ bodyOf i → P j) → P i)
    (i : Instr) : P i :=
  step i fun j _ => Instr.body_induction step j
termination_by sizeOf i
decreasing_by exact sizeOf_body_lt i j ‹_›

theorem mem_exprRegions (e : E) (r : Region) : r ∈ exprRegions e ↔ Occurs e r := by
  induction e with
  | addr x =>
    simp only [exprRegions, List.mem_singleton]
    exact ⟨fun h => h ▸ .addr, fun h => by cases h; rfl⟩
  | leaf => simp only [exprRegions]; exact ⟨fun h => by simp at h, fun h => by cases h⟩
  | un e ih =>
    simp only [exprRegions, ih]
    exact ⟨.un, fun h => by cases h; assumption⟩
  | bin l x ihl ihx =>
    simp only [exprRegions, List.mem_append, ihl, ihx]
    constructor
    · rintro (h | h)
      · exact .binL h
      · exact .binR h
    · intro h
      cases h with
      | binL h => exact Or.inl h
      | binR h => exact Or.inr h

theorem mem_exprRegionsAll (es : List E) (r : Region) :
    r ∈ (es.map exprRegions).flatten ↔ ∃ e, e ∈ es ∧ Occurs e r := by
  simp only [List.mem_flatten, List.mem_map]
  constructor
  · rintro ⟨l, ⟨e, he, rfl⟩, hr⟩; exact ⟨e, he, (mem_exprRegions e r).1 hr⟩
  · rintro ⟨e, he, ho⟩; exact ⟨_, ⟨e, he, rfl⟩, (mem_exprRegions e r).2 ho⟩

theorem memRefs_eq (e : E) : memRefs e = exprRegions e := by
  induction e with
  | addr x => rfl
  | leaf => rfl
  | un e ih => exact ih
  | bin l x ihl ihx => simp only [memRefs, exprRegions, ihl, ihx]

theorem memRefsAll_eq (es : List E) : memRefsAll es = (es.map exprRegions).flatten := by
  induction es with
  | nil => rfl
  | cons e es ih => simp only [memRefsAll, memRefs_eq, ih, List.map_cons, List.flatten_cons]

theorem mem_pair {r a b : Region} : r ∈ [a, b] ↔ r = a ∨ r = b := by simp

theorem mem_cons_toList {r a : Region} {o : Option Region} : r ∈ a :: o.toList ↔ r = a ∨ o = some r := by
  simp

theorem mem_consultsOperandL (sigs : Sigs) (i : Instr) (r : Region) :
    r ∈ consultsOperandL sigs i ↔ ConsultsOperand sigs i r := by
  -- on a constructor both tables unfold by `rfl` to the list and the disjunction compared
  cases i with
  | arithmetic _ _ | binaryLogic _ _ | comparison _ _ _ | store _ _ _ => exact mem_cons_toList
  | convert _ _ | unaryLogic _ | jumpWhen _ | jumpUnless _ => exact List.mem_singleton
  | move _ _ => exact Option.mem_toList
  | exchange _ _ | load _ _ _ => exact mem_pair
  | call name args =>
    simp only [consultsOperandL, ConsultsOperand]
    cases sigs.lookup name <;> simp
  | _ => exact iff_of_false List.not_mem_nil id

theorem mem_mutablePassed (params : List Bool) (args : List Arg) (r : Region) :
    r ∈ mutablePassed params args ↔
      ∃ (k : Nat) (a : Arg), args[k]? = some a ∧ params[k]? = some true ∧ passed a = some r := by
  induction args generalizing params with
  | nil => simp [mutablePassed]
  | cons a as ih =>
    cases params with
    | nil => simp [mutablePassed]
    | cons m ms =>
      -- position 0 is `a` under `m`; position `k + 1` is position `k` of the tails
      rw [mutablePassed, List.mem_append, ← Nat.or_exists_add_one, ih]
      refine or_congr ?_ Iff.rfl
      cases m <;> simp

theorem mem_retSlot (b : Bool) (args : List Arg) (r : Region) :
    r ∈ (if b then (args.head?.bind passed).toList else []) ↔
      b = true ∧ ∃ a, args.head? = some a ∧ passed a = some r := by
  cases b <;> simp [Option.bind_eq_some_iff]

theorem mem_assignsOperandL (sigs : Sigs) (i : Instr) (r : Region) :
    r ∈ assignsOperandL sigs i ↔ AssignsOperand sigs i r := by
  cases i with
  | arithmetic _ _ | binaryLogic _ _ | convert _ _ | move _ _ | comparison _ _ _ | load _ _ _
  | store _ _ _ | unaryLogic _ => exact List.mem_singleton
  | exchange _ _ => exact mem_pair
  | call name args =>
    simp only [assignsOperandL, AssignsOperand]
    cases sigs.lookup name with
    | none => simp
    | some sig =>
      -- the arguments after the return slot, indexed from 0, are the arguments indexed from `retSlots sig`
      simp only [List.mem_append, mem_retSlot, mem_mutablePassed, List.getElem?_drop,
        Nat.add_comm (retSlots sig), Option.some.injEq, exists_eq_left']
  | _ => exact iff_of_false List.not_mem_nil id

theorem mem_receivesOperandL (i : Instr) (r : Region) :
    r ∈ receivesOperandL i ↔ ReceivesOperand i r := by
  cases i with
  | capture t _ | rawCapture t _ => exact List.mem_singleton
  | measurement t => exact Option.mem_toList
  | _ => exact iff_of_false List.not_mem_nil id

/-! `specReads`, `specWrites`, `specCaptures`, `resolvableB`, uniformly in the instruction: the catch-all arm
of each is the general formula, because an instruction that is not a definition has no body. -/

theorem specReads_eq (sigs : Sigs) (i : Instr) :
    specReads sigs i = consultsOperandL sigs i ++ ((ownExprs i).map exprRegions).flatten ++
      specReadsAll sigs (bodyOf i) := by
  unfold specReads
  split
  · rfl
  · rfl
  · rfl
  · rw [bodyOf_eq_nil ‹_› ‹_› ‹_›, specReadsAll, List.append_nil]

theorem specWrites_eq (sigs : Sigs) (i : Instr) :
    specWrites sigs i = assignsOperandL sigs i ++ specWritesAll sigs (bodyOf i) := by
  unfold specWrites
  split
  · rfl
  · rfl
  · rfl
  · rw [bodyOf_eq_nil ‹_› ‹_› ‹_›, specWritesAll, List.append_nil]

theorem specCaptures_eq (i : Instr) :
    specCaptures i = receivesOperandL i ++ specCapturesAll (bodyOf i) := by
  unfold specCaptures
  split
  · rfl
  · rfl
  · rfl
  · rw [bodyOf_eq_nil ‹_› ‹_› ‹_›, specCapturesAll, List.append_nil]

/-- `i` is not itself an unresolved CALL, the only instruction on which `memoryAccesses` fails without looking at a
body.  (For a constructor other than `call` it holds by `fun _ _ h => by cases h`; `nofun` does not see through the
nested inductive.) -/
def HeadKnown (sigs : Sigs) (i : Instr) : Prop :=
  ∀ name args, i = .call name args → (sigs.lookup name).isSome = true

theorem resolvableB_eq (sigs : Sigs) (i : Instr) (h : HeadKnown sigs i) :
    resolvableB sigs i = resolvableAllB sigs (bodyOf i) := by
  unfold resolvableB
  split
  · exact h _ _ rfl
  · rfl
  · rfl
  · rfl
  · rw [bodyOf_eq_nil ‹_› ‹_› ‹_›, resolvableAllB]

/-! Reads, writes and captures have one shape: what the instruction contributes itself, and whatever an
instruction of its body does.  `mem_concatAll` and `mem_spec_of_body` are that shape; the three kinds are
instances. -/

theorem mem_concatAll {f : Instr → List Region} {fAll : List Instr → List Region} (hnil : fAll [] = [])
    (hcons : ∀ j js, fAll (j :: js) = f j ++ fAll js) (js : List Instr) (r : Region) :
    r ∈ fAll js ↔ ∃ j, j ∈ js ∧ r ∈ f j := by
  induction js with
  | nil => simp [hnil]
  | cons j js ih => simp [hcons, ih]

theorem mem_specReadsAll (sigs : Sigs) : ∀ js r, r ∈ specReadsAll sigs js ↔ ∃ j, j ∈ js ∧ r ∈ specReads sigs j :=
  mem_concatAll rfl fun _ _ => rfl

theorem mem_specWritesAll (sigs : Sigs) :
    ∀ js r, r ∈ specWritesAll sigs js ↔ ∃ j, j ∈ js ∧ r ∈ specWrites sigs j :=
  mem_concatAll rfl fun _ _ => rfl

theorem mem_specCapturesAll : ∀ js r, r ∈ specCapturesAll js ↔ ∃ j, j ∈ js ∧ r ∈ specCaptures j :=
  mem_concatAll rfl fun _ _ => rfl

theorem mem_spec_of_body {spec own : Instr → List Region} {specAll : List Instr → List Region}
    {Own P : Instr → Region → Prop} (heq : ∀ i, spec i = own i ++ specAll (bodyOf i))
    (hall : ∀ js r, r ∈ specAll js ↔ ∃ j, j ∈ js ∧ r ∈ spec j) (hown : ∀ i r, r ∈ own i ↔ Own i r)
    (hP : ∀ i r, P i r ↔ Own i r ∨ ∃ j, j ∈ bodyOf i ∧ P j r) (i : Instr) (r : Region) :
    r ∈ spec i ↔ P i r := by
  induction i using Instr.body_induction with
  | step i ih =>
    rw [heq, List.mem_append, hown, hall, hP]
    exact or_congr_right (exists_congr fun j => and_congr_right fun hj => ih j hj)

theorem reads_iff {sigs : Sigs} (i : Instr) (r : Region) :
    Reads sigs i r ↔
      (ConsultsOperand sigs i r ∨ ∃ e, e ∈ ownExprs i ∧ Occurs e r) ∨ ∃ j, j ∈ bodyOf i ∧ Reads sigs j r :=
  ⟨fun | .operand h => .inl (.inl h) | .expr he ho => .inl (.inr ⟨_, he, ho⟩) | .body hj h => .inr ⟨_, hj, h⟩,
   fun h => h.elim (fun h => h.elim .operand fun ⟨_, he, ho⟩ => .expr he ho) fun ⟨_, hj, h⟩ => .body hj h⟩

theorem writes_iff {sigs : Sigs} (i : Instr) (r : Region) :
    Writes sigs i r ↔ AssignsOperand sigs i r ∨ ∃ j, j ∈ bodyOf i ∧ Writes sigs j r :=
  ⟨fun | .operand h => .inl h | .body hj h => .inr ⟨_, hj, h⟩,
   fun h => h.elim .operand fun ⟨_, hj, h⟩ => .body hj h⟩

theorem captures_iff (i : Instr) (r : Region) :
    Captures i r ↔ ReceivesOperand i r ∨ ∃ j, j ∈ bodyOf i ∧ Captures j r :=
  ⟨fun | .operand h => .inl h | .body hj h => .inr ⟨_, hj, h⟩,
   fun h => h.elim .operand fun ⟨_, hj, h⟩ => .body hj h⟩

theorem mem_specReads (sigs : Sigs) (i : Instr) (r : Region) :
    r ∈ specReads sigs i ↔ Reads sigs i r :=
  mem_spec_of_body (specReads_eq sigs) (mem_specReadsAll sigs)
    (fun i r => by rw [List.mem_append, mem_consultsOperandL, mem_exprRegionsAll]) reads_iff i r

theorem mem_specWrites (sigs : Sigs) (i : Instr) (r : Region) :
    r ∈ specWrites sigs i ↔ Writes sigs i r :=
  mem_spec_of_body (specWrites_eq sigs) (mem_specWritesAll sigs) (mem_assignsOperandL sigs) writes_iff i r

theorem mem_specCaptures (i : Instr) (r : Region) :
    r ∈ specCaptures i ↔ Captures i r :=
  mem_spec_of_body specCaptures_eq mem_specCapturesAll mem_receivesOperandL captures_iff i r

theorem resolvableAllB_iff (sigs : Sigs) (js : List Instr) :
    resolvableAllB sigs js = true ↔ ∀ j, j ∈ js → resolvableB sigs j = true := by
  induction js with
  | nil => simp [resolvableAllB]
  | cons j js ih => simp [resolvableAllB, ih]

theorem resolvableB_iff (sigs : Sigs) (i : Instr) : resolvableB sigs i = true ↔ Resolvable sigs i := by
  induction i using Instr.body_induction with
  | step i ih =>
    by_cases hcall : ∃ name args, i = .call name args
    · obtain ⟨name, args, rfl⟩ := hcall
      constructor
      · intro h
        obtain ⟨sig, hs⟩ := Option.isSome_iff_exists.1 (show (sigs.lookup name).isSome = true from h)
        exact .call hs
      · intro h
        cases h with
        | call hs => exact (congrArg Option.isSome hs : _)
        | other hne _ => exact absurd rfl (hne name args)
    · have hne : ∀ name args, i ≠ .call name args := fun name args h => hcall ⟨name, args, h⟩
      rw [resolvableB_eq sigs i (fun name args h => absurd h (hne name args)), resolvableAllB_iff]
      constructor
      · exact fun hb => .other hne fun j hj => (ih j hj).1 (hb j hj)
      · intro h
        cases h with
        | call hs => exact absurd rfl (hne _ _)
        | other _ hb => exact fun j hj => (ih j hj).2 (hb j hj)

theorem subsetB_iff (a b : List Region) : subsetB a b = true ↔ ∀ x, x ∈ a → x ∈ b :=
  Chk.all_contains_iff a b

theorem sameSetB_iff (a b : List Region) : sameSetB a b = true ↔ ∀ x, x ∈ a ↔ x ∈ b :=
  Chk.sameSet_iff a b

/-- what the specification's tables give for the instruction itself, apart from its body -/
def own (sigs : Sigs) (i : Instr) : Accesses :=
  ⟨consultsOperandL sigs i ++ memRefsAll (ownExprs i), assignsOperandL sigs i, receivesOperandL i⟩

theorem callLoop_eq (args : List Arg) (ms : List Bool) :
    callLoop args ms = (args.filterMap passed, mutablePassed ms args) := by
  induction args generalizing ms with
  | nil => cases ms <;> rfl
  | cons a as ih =>
    cases ms with
    | nil =>
      have hnil : mutablePassed [] as = [] := by cases as <;> rfl
      cases a <;> simp only [callLoop, ih, List.tail_nil, hnil, passed, List.filterMap_cons, mutablePassed] <;> rfl
    | cons m ms =>
      cases a <;> cases m <;>
        simp only [callLoop, ih, List.tail_cons, passed, List.filterMap_cons, mutablePassed] <;> rfl

theorem callAccesses_eq (sigs : Sigs) (name : String) (args : List Arg) (sig : Sig)
    (h : sigs.lookup name = some sig) :
    callAccesses sigs name args = .ok (own sigs (.call name args)) := by
  simp only [callAccesses, h, callLoop_eq, own, consultsOperandL, assignsOperandL, retSlots, ownExprs,
    memRefsAll, List.append_nil, receivesOperandL]
  cases sig.hasReturn with
  | false => rfl
  | true =>
    cases args with
    | nil => rfl
    | cons a rest => cases a <;> rfl

theorem memRefsAll_append (xs ys : List E) : memRefsAll (xs ++ ys) = memRefsAll xs ++ memRefsAll ys := by
  induction xs with
  | nil => rfl
  | cons e es ih => simp only [List.cons_append, memRefsAll, ih, List.append_assoc]

theorem memRefsAll_flatten (rows : List (List E)) :
    memRefsAll rows.flatten = (rows.map memRefsAll).flatten := by
  induction rows with
  | nil => rfl
  | cons row rows ih => simp only [List.flatten_cons, memRefsAll_append, ih, List.map_cons]

/-- `gates.iter().map(gate_application).fold(none, union)` only accumulates reads -/
theorem foldl_gateApplication (gs : List (List E)) (acc : Accesses) :
    (gs.map gateApplication).foldl Accesses.union acc =
      ⟨acc.reads ++ (gs.map memRefsAll).flatten, acc.writes, acc.captures⟩ := by
  induction gs generalizing acc with
  | nil => simp
  | cons g gs ih => simp [ih, Accesses.union, gateApplication, readAll]

/-- The 40 arms of the model in one statement: the instruction's own contribution by the specification's
tables, folded with its body.  Most arms agree by unfolding; an optional operand needs its two cases, and a
single expression `e` is listed as `memRefs e` by the model and as `memRefsAll [e]` here. -/
theorem memoryAccesses_eq (sigs : Sigs) (i : Instr) (h : HeadKnown sigs i) :
    memoryAccesses sigs i = foldOk sigs (own sigs i) (bodyOf i) := by
  cases i with
  | call name args =>
    obtain ⟨sig, hs⟩ := Option.isSome_iff_exists.1 (h name args rfl)
    exact callAccesses_eq sigs name args sig hs
  | gateDefinition spec =>
    cases spec with
    | matrix rows =>
      exact congrArg (fun l => (.ok ⟨l, [], []⟩ : Except Err Accesses)) (memRefsAll_flatten rows).symm
    | sequence gs =>
      simp only [memoryAccesses, gateSpecAccesses, foldl_gateApplication]
      exact congrArg (fun l => (.ok ⟨l, [], []⟩ : Except Err Accesses)) (memRefsAll_flatten gs).symm
    | _ => rfl
  | arithmetic _ src | binaryLogic _ src | move _ src | comparison _ _ src | store _ _ src
  | measurement src => cases src <;> rfl
  | delay e | setPhase e | setScale e | shiftPhase e | setFrequency e | shiftFrequency e
  | rawCapture _ e =>
    exact congrArg (fun l => (.ok ⟨l, [], _⟩ : Except Err Accesses)) (List.append_nil (memRefs e)).symm
  | _ => rfl

def specAcc (sigs : Sigs) (i : Instr) : Accesses := ⟨specReads sigs i, specWrites sigs i, specCaptures i⟩

def specAccAll (sigs : Sigs) (js : List Instr) : Accesses :=
  ⟨specReadsAll sigs js, specWritesAll sigs js, specCapturesAll js⟩

theorem Accesses.union_assoc (a b c : Accesses) : (a.union b).union c = a.union (b.union c) := by
  simp only [Accesses.union, List.append_assoc]

def OkWhen (x : Except Err Accesses) (b : Bool) (v : Accesses) : Prop :=
  match x with
  | .ok a => b = true ∧ a = v
  | .error _ => b = false

theorem OkWhen.of_ok {x : Except Err Accesses} {b : Bool} {v a : Accesses} (h : OkWhen x b v) (hx : x = .ok a) :
    b = true ∧ a = v := by subst hx; exact h

theorem OkWhen.of_error {x : Except Err Accesses} {b : Bool} {v : Accesses} {e : Err} (h : OkWhen x b v)
    (hx : x = .error e) : b = false := by subst hx; exact h

theorem foldOk_okWhen (sigs : Sigs) : ∀ (body : List Instr),
    (∀ j, j ∈ body → OkWhen (memoryAccesses sigs j) (resolvableB sigs j) (specAcc sigs j)) → ∀ acc,
    OkWhen (foldOk sigs acc body) (resolvableAllB sigs body) (acc.union (specAccAll sigs body))
  | [], _, acc => ⟨rfl, by simp [Accesses.union, specAccAll, specReadsAll, specWritesAll, specCapturesAll]⟩
  | j :: js, h, acc => by
    have hj := h j List.mem_cons_self
    have ih := foldOk_okWhen sigs js (fun k hk => h k (List.mem_cons_of_mem _ hk))
    rw [foldOk, resolvableAllB]
    cases hm : memoryAccesses sigs j with
    | error e => exact (congrArg (· && _) (hj.of_error hm) : _)
    | ok a =>
      obtain ⟨hr, rfl⟩ := hj.of_ok hm
      rw [hr]
      show OkWhen (foldOk sigs (acc.union (specAcc sigs j)) js) (resolvableAllB sigs js)
        (acc.union ((specAcc sigs j).union (specAccAll sigs js)))
      rw [← Accesses.union_assoc]
      exact ih _

/-- **The model computes the executable specification**, list for list, and fails exactly when that says a CALL
does not resolve. -/
theorem memoryAccesses_okWhen (sigs : Sigs) (i : Instr) :
    OkWhen (memoryAccesses sigs i) (resolvableB sigs i) (specAcc sigs i) := by
  induction i using Instr.body_induction with
  | step i ih =>
    by_cases hk : HeadKnown sigs i
    · have : (own sigs i).union (specAccAll sigs (bodyOf i)) = specAcc sigs i := by
        simp only [Accesses.union, own, specAccAll, specAcc, specReads_eq, specWrites_eq, specCaptures_eq, memRefsAll_eq]
      rw [memoryAccesses_eq sigs i hk, resolvableB_eq sigs i hk, ← this]
      exact foldOk_okWhen sigs _ ih _
    · obtain ⟨name, hk⟩ := Classical.not_forall.1 hk
      obtain ⟨args, hk⟩ := Classical.not_forall.1 hk
      obtain ⟨rfl, hs⟩ := Classical.not_imp.1 hk
      simp [memoryAccesses, callAccesses, resolvableB, Option.not_isSome_iff_eq_none.1 hs, OkWhen]

end QV.C27
