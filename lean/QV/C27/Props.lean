import QV.C27.Lemmas
import QV.C27.Semantics
/-
C27 — Reported memory accesses match each instruction's semantics.

Every statement is over ALL instructions (every one of the 40 variants, expressions of any depth, definition
bodies of any length and nesting depth, calls with any number of arguments) and ALL extern-signature maps; nothing
is bounded.  The specification (`Reads / Writes / Captures / Resolvable / Correct`, Spec.lean) is three uniform
clauses (operand positions by Quil semantics, every carried expression, every body instruction), written
independently of the 40 match arms of the model (`memoryAccesses`, Model.lean).

The model mirrors the code with the `fix:` commits 9c5e66f, 595a980, 8044518, under which DEFFRAME attribute
expressions, PAULI-SUM term expressions and CALL arguments beyond the signature are reported as read;
`C27_regression_*` pin these three shapes and `C27_old_answers_rejected` shows that the specification rejects
the answers that omit them.
-/
namespace QV.C27

private def GoalAll (sigs : Sigs) (acc : Accesses) (body : List Instr) : Prop :=
  match foldOk sigs acc body with
  | .error _ => resolvableAllB sigs body = false
  | .ok a => resolvableAllB sigs body = true ∧
      (∀ r, r ∈ a.reads ↔ r ∈ acc.reads ∨ r ∈ specReadsAll sigs body) ∧
      (∀ r, r ∈ a.writes ↔ r ∈ acc.writes ∨ r ∈ specWritesAll sigs body) ∧
      (∀ r, r ∈ a.captures ↔ r ∈ acc.captures ∨ r ∈ specCapturesAll body)

/-- The fold over a body, read as membership.  Nothing below uses it: the property theorems go through
`memoryAccesses_okWhen`. -/
private theorem model_spec_all (sigs : Sigs) : (body : List Instr) → (acc : Accesses) → GoalAll sigs acc body :=
  fun body acc => by
    have h := foldOk_okWhen sigs body (fun j _ => memoryAccesses_okWhen sigs j) acc
    unfold GoalAll
    cases hf : foldOk sigs acc body with
    | error e => exact h.of_error hf
    | ok a =>
      obtain ⟨hr, rfl⟩ := h.of_ok hf
      exact ⟨hr, fun _ => List.mem_append, fun _ => List.mem_append, fun _ => List.mem_append⟩

/-- **C27 (full statement).**  For EVERY instruction and signature map, what
`DefaultHandler::memory_accesses` returns is correct:
* it fails iff some CALL (at any nesting depth) names a function without signature;
* otherwise the regions it reports as read are EXACTLY those whose contents the instruction consults
  (operands in consult position, every region occurring in any expression it carries, and whatever a
  definition body's instructions consult), the regions reported as written are EXACTLY those assigned,
  and those reported as captured are EXACTLY those receiving a measurement / capture result. -/
theorem C27_memoryAccesses_correct (sigs : Sigs) (i : Instr) : Correct sigs i (memoryAccesses sigs i) := by
  have h := memoryAccesses_okWhen sigs i
  cases hm : memoryAccesses sigs i with
  | error e => exact fun hr => Bool.false_ne_true ((h.of_error hm).symm.trans ((resolvableB_iff sigs i).2 hr))
  | ok a =>
    obtain ⟨hr, rfl⟩ := h.of_ok hm
    exact ⟨(resolvableB_iff sigs i).1 hr, mem_specReads sigs i, mem_specWrites sigs i, mem_specCaptures i⟩

/-- the statement's CALL sentence, spelled out: if `name` has a signature, the handler succeeds, every
passed region is read (also those passed beyond the signature's parameters), the return slot and every
region passed to a mutable parameter are written, nothing is captured — and nothing else is read or
written. -/
theorem C27_call (sigs : Sigs) (name : String) (args : List Arg) (sig : Sig)
    (hs : sigs.lookup name = some sig) :
    ∃ a, memoryAccesses sigs (.call name args) = .ok a ∧
      (∀ r, r ∈ a.reads ↔ ∃ x, x ∈ args ∧ passed x = some r) ∧
      (∀ r, r ∈ a.writes ↔
        (sig.hasReturn = true ∧ ∃ x, args.head? = some x ∧ passed x = some r) ∨
        (∃ (k : Nat) (x : Arg), args[k + retSlots sig]? = some x ∧ sig.params[k]? = some true ∧
          passed x = some r)) ∧
      a.captures = [] := by
  refine ⟨_, callAccesses_eq sigs name args sig hs, fun r => ?_, fun r => ?_, rfl⟩
  · show r ∈ consultsOperandL sigs (.call name args) ++ [] ↔ _
    rw [List.append_nil, mem_consultsOperandL]
    exact ⟨fun ⟨_, x, _, hx, hp⟩ => ⟨x, hx, hp⟩, fun ⟨x, hx, hp⟩ => ⟨sig, x, hs, hx, hp⟩⟩
  · show r ∈ assignsOperandL sigs (.call name args) ↔ _
    rw [mem_assignsOperandL]
    exact ⟨fun ⟨sig', hs', h⟩ => by cases hs.symm.trans hs'; exact h, fun h => ⟨sig, hs, h⟩⟩

theorem C27_call_unknown (sigs : Sigs) (name : String) (args : List Arg) (hs : sigs.lookup name = none) :
    ∃ e, memoryAccesses sigs (.call name args) = .error e := by
  simp [memoryAccesses, callAccesses, hs]

/-- `MemoryAccesses::union` (the fold step of every definition body, also driven directly by the harness)
is the componentwise set union. -/
theorem C27_union_spec (a b : Accesses) (r : Region) :
    (r ∈ (a.union b).reads ↔ r ∈ a.reads ∨ r ∈ b.reads) ∧
    (r ∈ (a.union b).writes ↔ r ∈ a.writes ∨ r ∈ b.writes) ∧
    (r ∈ (a.union b).captures ↔ r ∈ a.captures ∨ r ∈ b.captures) := by
  simp [Accesses.union]

/-- `checkB` (evaluated by the driver on the IMPLEMENTATION's reported sets) decides `Correct`. -/
theorem C27_checkB_iff (sigs : Sigs) (i : Instr) (res : Except Err Accesses) :
    checkB sigs i res = true ↔ Correct sigs i res := by
  cases res with
  | error e => simp [checkB, Correct, ← resolvableB_iff]
  | ok a =>
    simp only [checkB, Correct, Bool.and_eq_true, sameSetB_iff, resolvableB_iff, mem_specReads,
      mem_specWrites, mem_specCaptures, and_assoc]

theorem C27_checkB_model (sigs : Sigs) (i : Instr) : checkB sigs i (memoryAccesses sigs i) = true :=
  (C27_checkB_iff sigs i _).2 (C27_memoryAccesses_correct sigs i)

/-! ### the three shapes named in the head comment, as concrete instructions -/

/-- `DEFFRAME 0 "f": INITIAL-FREQUENCY: a[0]` reads `a`. -/
theorem C27_regression_defframe :
    memoryAccesses [] (.frameDefinition [.addr "a"]) = .ok ⟨["a"], [], []⟩ := by rfl

/-- `DEFGATE pg p AS PAULI-SUM: X(a[0]) p` reads `a`. -/
theorem C27_regression_paulisum :
    memoryAccesses [] (.gateDefinition (.pauliSum [.addr "a"])) = .ok ⟨["a"], [], []⟩ := by rfl

/-- `EXTERN f : INTEGER (p0 : INTEGER)`; `CALL f a b[0] c[0]`: `c`, passed beyond the signature, is
read and not written. -/
theorem C27_regression_call :
    memoryAccesses [("f", ⟨true, [false]⟩)] (.call "f" [.ident "a", .memref "b", .memref "c"])
      = .ok ⟨["a", "b", "c"], ["a"], []⟩ := by rfl

/-- the specification rejects the answers that omit these reads (so the checker flags them) -/
theorem C27_old_answers_rejected :
    ¬ Correct [] (.frameDefinition [.addr "a"]) (.ok ⟨[], [], []⟩) ∧
    ¬ Correct [] (.gateDefinition (.pauliSum [.addr "a"])) (.ok ⟨[], [], []⟩) ∧
    ¬ Correct [("f", ⟨true, [false]⟩)] (.call "f" [.ident "a", .memref "b", .memref "c"])
        (.ok ⟨["a", "b"], ["a"], []⟩) := by
  refine ⟨?_, ?_, ?_⟩ <;> (rw [← C27_checkB_iff]; decide)

private def sigsFG : Sigs := [("f", ⟨true, [false]⟩), ("g", ⟨false, [true, false]⟩)]

example : memoryAccesses sigsFG (.arithmetic "a" (some "b")) = .ok ⟨["a", "b"], ["a"], []⟩ := by rfl
example : memoryAccesses sigsFG (.load "a" "b" "c") = .ok ⟨["b", "c"], ["a"], []⟩ := by rfl
example : memoryAccesses sigsFG (.store "a" "b" none) = .ok ⟨["b"], ["a"], []⟩ := by rfl
example : memoryAccesses sigsFG (.capture "c" [.bin (.addr "a") (.un (.addr "b")), .leaf])
    = .ok ⟨["a", "b"], [], ["c"]⟩ := by rfl
example : memoryAccesses sigsFG (.call "f" [.ident "a", .memref "b"]) = .ok ⟨["a", "b"], ["a"], []⟩ := by rfl
example : memoryAccesses sigsFG (.call "g" [.ident "a", .memref "b"]) = .ok ⟨["a", "b"], ["a"], []⟩ := by rfl
example : memoryAccesses sigsFG (.call "h" [.ident "a"]) = .error (.noMatchingExtern "h") := by rfl
example : memoryAccesses sigsFG
    (.calibrationDefinition [.addr "c"] [.measurement (some "b"), .circuitDefinition [.move "a" (some "b")]])
    = .ok ⟨["c", "b"], ["a"], ["b"]⟩ := by rfl
example : Reads sigsFG (.calibrationDefinition [] [.circuitDefinition [.gate [.un (.addr "a")]]]) "a" :=
  .body (j := .circuitDefinition [.gate [.un (.addr "a")]]) (by simp [bodyOf])
    (.body (j := .gate [.un (.addr "a")]) (by simp [bodyOf]) (.expr (e := .un (.addr "a")) (by simp [ownExprs]) (.un .addr)))
example : ¬ Resolvable sigsFG (.circuitDefinition [.halt, .call "h" []]) := by
  rw [← resolvableB_iff]; decide

/-! ### semantic justification of the specification's role table

`Reads / Writes / Captures` are not merely asserted: against the executable semantics of
Semantics.lean (arbitrary operator interpretations, arbitrary readout function),
* an instruction changes only cells of regions it `Writes` or `Captures` (frame property);
* what it does — its observable action and every cell it changes — depends only on the contents of
  the regions it `Reads` (non-interference);
hence, with `C27_memoryAccesses_correct`, the same holds for the sets the handler REPORTS
(`C27_sem_reported_sets_sound`): this is exactly what a scheduler that reorders instructions with
disjoint accesses relies on. -/

open Sem in
/-- an expression's value depends only on the regions occurring in it -/
theorem C27_sem_eval (e : Ex) (m m' : Mem) (h : AgreeOn (Occurs e.erase) m m') : e.eval m = e.eval m' := by
  induction e with
  | addr r => exact h r.region .addr r.index
  | const v => rfl
  | un f e ih =>
    simp only [Ex.eval]
    rw [ih (fun r hr k => h r (.un hr) k)]
  | bin f l x ihl ihx =>
    simp only [Ex.eval]
    rw [ihl (fun r hr k => h r (.binL hr) k), ihx (fun r hr k => h r (.binR hr) k)]

open Sem in
/-- **frame property**: a region that the instruction neither `Writes` nor `Captures` is left unchanged,
whatever the operators and the readout are. -/
theorem C27_sem_frame (sigs : Sigs) (i : XInstr) (readout : List Val → Val) (m : Mem) (r : Region)
    (hw : ¬ Writes sigs i.erase r) (hc : ¬ Captures i.erase r) (k : Nat) :
    i.exec readout m r k = m r k := by
  -- every cell updated by `exec` lies in a region that the role tables assign or fill
  cases i with
  | arithmetic _ d _ | binaryLogic _ d _ | unaryLogic _ d | move d _ | convert _ d _ | comparison _ d _ _
  | load d _ _ | store d _ _ => exact upd_of_ne fun e => hw (.operand e)
  | exchange a b =>
    exact (upd_of_ne fun e => hw (.operand (.inr e))).trans (upd_of_ne fun e => hw (.operand (.inl e)))
  | measurement t =>
    cases t with
    | none => rfl
    | some t => exact upd_of_ne fun e => hc (.operand (congrArg some e.symm))
  | capture t _ | rawCapture t _ => exact upd_of_ne fun e => hc (.operand e)
  | _ => rfl

open Sem in
/-- **non-interference**: if two memories agree on every region the instruction `Reads`, the
instruction's observable action is the same in both, and every cell ends up either with the same
content in both or untouched in both — whatever the operators and the readout are. -/
theorem C27_sem_noninterference (sigs : Sigs) (i : XInstr) (readout : List Val → Val) (m m' : Mem)
    (h : AgreeOn (Reads sigs i.erase) m m') :
    i.observe m = i.observe m' ∧ SameOrUntouched m m' (i.exec readout m) (i.exec readout m') := by
  -- each arm: the cells and expressions `exec` / `observe` look at are in consult position or carried
  have cell : ∀ x : Ref, ConsultsOperand sigs i.erase x.region → m x.region x.index = m' x.region x.index :=
    fun x hx => h _ (.operand hx) _
  have opd : ∀ s : Operand, (∀ r, s.erase = some r → ConsultsOperand sigs i.erase r) → s.val m = s.val m' := by
    intro s hs
    cases s with
    | lit v => rfl
    | ref x => exact cell x (hs _ rfl)
  have exprs : ∀ ps : List Ex, (∀ e ∈ ps.map Ex.erase, e ∈ ownExprs i.erase) →
      ps.map (Ex.eval m) = ps.map (Ex.eval m') :=
    fun ps hps => List.map_congr_left fun p hp =>
      C27_sem_eval p m m' fun r ho => h r (.expr (hps _ (List.mem_map_of_mem hp)) ho)
  cases i with
  | arithmetic op l s | binaryLogic op l s | comparison op _ l s =>
    exact ⟨rfl, upd_same _ (congr (congrArg op (cell l (.inl rfl))) (opd s fun r hr => .inr hr))⟩
  | unaryLogic op x | convert op _ x => exact ⟨rfl, upd_same _ (congrArg op (cell x rfl))⟩
  | move d s => exact ⟨rfl, upd_same d (opd s fun r hr => hr)⟩
  | exchange a b => exact ⟨rfl, sameOrUntouched_upd (upd_same a (cell b (.inr rfl))) b (cell a (.inl rfl))⟩
  | load d s o =>
    refine ⟨rfl, upd_same d ?_⟩
    rw [cell o (.inr rfl), h s (.operand (.inl rfl))]
  | store d o s =>
    refine ⟨rfl, ?_⟩
    simp only [XInstr.exec]
    rw [cell o (.inl rfl)]
    exact upd_same _ (opd s fun r hr => .inr hr)
  | measurement t =>
    cases t with
    | none => exact ⟨rfl, sameOrUntouched_refl _ _⟩
    | some t => exact ⟨rfl, upd_same t rfl⟩
  | capture t ps =>
    have hps := exprs ps fun _ he => he
    exact ⟨hps, upd_same t (congrArg readout hps)⟩
  | rawCapture t d =>
    have hd := exprs [d] fun _ he => he
    exact ⟨hd, upd_same t (congrArg readout hd)⟩
  | jumpWhen c | jumpUnless c =>
    refine ⟨?_, sameOrUntouched_refl _ _⟩
    simp only [XInstr.observe]
    rw [cell c rfl]
  | pulse ps | gate ps => exact ⟨exprs ps fun _ he => he, sameOrUntouched_refl _ _⟩
  | delay e | setFrequency e | setPhase e | setScale e | shiftFrequency e | shiftPhase e =>
    exact ⟨exprs [e] fun _ he => he, sameOrUntouched_refl _ _⟩

open Sem in
/-- the same two guarantees for the sets the handler REPORTS: with `a = memory_accesses(i)`,
a region outside `a.writes ∪ a.captures` is unchanged, and memories agreeing on `a.reads` give the same
observable action and the same / untouched cells. -/
theorem C27_sem_reported_sets_sound (sigs : Sigs) (i : XInstr) (readout : List Val → Val) (a : Accesses)
    (ha : memoryAccesses sigs i.erase = .ok a) :
    (∀ m r, r ∉ a.writes → r ∉ a.captures → ∀ k, i.exec readout m r k = m r k) ∧
    (∀ m m', (∀ r, r ∈ a.reads → ∀ k, m r k = m' r k) →
      i.observe m = i.observe m' ∧ SameOrUntouched m m' (i.exec readout m) (i.exec readout m')) := by
  have hc := C27_memoryAccesses_correct sigs i.erase
  rw [ha] at hc
  obtain ⟨_, hr, hw, hcap⟩ := hc
  constructor
  · intro m r h1 h2 k
    exact C27_sem_frame sigs i readout m r (fun h => h1 ((hw r).2 h)) (fun h => h2 ((hcap r).2 h)) k
  · intro m m' h
    exact C27_sem_noninterference sigs i readout m m' (fun r hr' k => h r ((hr r).2 hr') k)

open Sem in
private theorem liftE_erase (e : E) : (liftE e).erase = e := by
  induction e <;> simp_all [liftE, Ex.erase]

open Sem in
private theorem eval_liftE (e : E) (r : Region) :
    (liftE e).eval (fun _ _ => 0) = 0 ∧
    (liftE e).eval (fun reg _ => if reg = r then 1 else 0) = (count r e : Int) := by
  induction e with
  | addr x => by_cases h : x = r <;> simp [liftE, Ex.eval, count, h]
  | leaf => simp [liftE, Ex.eval, count]
  | un e ih => simpa [liftE, Ex.eval, count] using ih
  | bin l x ihl ihx => simp [liftE, Ex.eval, count, ihl.1, ihl.2, ihx.1, ihx.2]

open Sem in
private theorem count_pos (e : E) (r : Region) (h : Occurs e r) : 0 < count r e := by
  induction h with
  | addr => simp [count]
  | un _ ih => simpa [count] using ih
  | binL _ ih => simp only [count]; omega
  | binR _ ih => simp only [count]; omega

open Sem in
/-- **tightness of the expression clause**: for every expression shape and every region occurring in
it there is an executable expression of that shape and two memories that differ ONLY in that region on
which it evaluates differently — so no region reported through an expression is superfluous. -/
theorem C27_sem_eval_tight (e : E) (r : Region) (h : Occurs e r) :
    ∃ (x : Ex) (m m' : Mem), x.erase = e ∧ (∀ r', r' ≠ r → ∀ k, m r' k = m' r' k) ∧ x.eval m ≠ x.eval m' := by
  refine ⟨liftE e, fun _ _ => 0, fun reg _ => if reg = r then 1 else 0, liftE_erase e, ?_, ?_⟩
  · intro r' hr k; simp [hr]
  · rw [(eval_liftE e r).1, (eval_liftE e r).2]
    have hpos := count_pos e r h
    intro heq
    have h2 : (0 : Int) < (count r e : Int) := Int.natCast_pos.2 hpos
    rw [← heq] at h2
    exact absurd h2 (by decide)

end QV.C27
