import QV.C17.Spec
/-! The code's instantiation of a calibration body against the generic traversals of the specification: the
binders (`lookup_qubitExpansions`, `lookup_variableExpansions`), plain instructions kind by kind, the formal
target of a measurement calibration, and definitions nested in a body. -/
namespace QV.C17
open QV QV.Ast

theorem bindQ_cons (cq gq : Qubit) (cqs gqs : List Qubit) (n : String) :
    bindQ (cq :: cqs) (gq :: gqs) n =
      (bindQ cqs gqs n).or (if cq = .variable n then some gq else none) := by
  simp only [bindQ, List.zip_cons_cons, List.reverse_cons, List.find?_append]
  cases h : List.find? (fun p => decide (p.1 = Qubit.variable n)) (cqs.zip gqs).reverse with
  | some p => simp
  | none =>
    by_cases hc : cq = .variable n <;> simp [hc]

theorem lookup_qubitExpansions (cqs gqs : List Qubit) (acc : List (String × Qubit)) (n : String) :
    (qubitExpansions cqs gqs acc).lookup n = (bindQ cqs gqs n).or (acc.lookup n) := by
  induction cqs generalizing gqs acc with
  | nil => simp [qubitExpansions, bindQ]
  | cons cq cqs ih =>
    cases gqs with
    | nil => cases cq <;> simp [qubitExpansions, bindQ]
    | cons gq gqs =>
      rw [bindQ_cons]
      rcases cq with k | k | name
      · simp only [qubitExpansions, ih]; rw [if_neg nofun, Option.or_none]
      · simp only [qubitExpansions, ih]; rw [if_neg nofun, Option.or_none]
      · simp only [qubitExpansions, ih, List.lookup_cons]
        by_cases hn : n = name
        · subst hn; cases bindQ cqs gqs n <;> simp
        · have : ¬ (Qubit.variable name = Qubit.variable n) := by
            intro h; injection h with h; exact hn h.symm
          have hb : (n == name) = false := by simp [hn]
          cases bindQ cqs gqs n <;> simp [hb, this]

theorem bindP_cons (cp gp : PExpr) (cps gps : List PExpr) (n : String) :
    bindP (cp :: cps) (gp :: gps) n =
      (bindP cps gps n).or (if cp = .var n then some gp else none) := by
  simp only [bindP, List.zip_cons_cons, List.reverse_cons, List.find?_append]
  cases h : List.find? (fun p => decide (p.1 = Expr.var n)) (cps.zip gps).reverse with
  | some p => simp
  | none =>
    by_cases hc : cp = .var n <;> simp [hc]

theorem lookup_variableExpansions (cps gps : List PExpr) (acc : List (String × PExpr)) (n : String) :
    (variableExpansions cps gps acc).lookup n = (bindP cps gps n).or (acc.lookup n) := by
  induction cps generalizing gps acc with
  | nil => simp [variableExpansions, bindP]
  | cons cp cps ih =>
    cases gps with
    | nil => cases cp <;> simp [variableExpansions, bindP]
    | cons gp gps =>
      rw [bindP_cons]
      cases cp
      case var name =>
        simp only [variableExpansions, ih, List.lookup_cons]
        by_cases hn : n = name
        · subst hn; cases bindP cps gps n <;> simp
        · have : ¬ ((Expr.var name : PExpr) = Expr.var n) := by
            intro h; injection h with h; exact hn h.symm
          have hb : (n == name) = false := by simp [hn]
          cases bindP cps gps n <;> simp [hb, this]
      all_goals simp only [variableExpansions, ih]; rw [if_neg nofun, Option.or_none]

theorem substituteQubitVariable_eq (σ : List (String × Qubit)) :
    substituteQubitVariable σ = substQ (fun n => σ.lookup n) := by
  funext q
  rcases q with k | k | name <;> simp only [substituteQubitVariable, substQ]
  cases List.lookup name σ <;> rfl

/-- the Rust `match` of `substitute_qubit_variables` lists instruction kinds one by one; a plain kind it forgot would
fail here (`rfl` kind by kind) -/
theorem substituteQubitVariables_eq (σ : List (String × Qubit)) (i : Instruction) (h : plainB i = true) :
    substituteQubitVariables σ i = mapQubits (substQ (fun n => σ.lookup n)) i := by
  rw [← substituteQubitVariable_eq]
  cases i
  case reset r => rcases r with ⟨_ | q⟩ <;> rfl
  all_goals first | rfl | cases h

theorem applyToExpressions_eq (f : PExpr → PExpr) (i : Instruction) (h : plainB i = true) :
    applyToExpressions f i = mapExprs f i := by
  cases i <;> first | rfl | cases h

theorem plainB_mapQubits (f : Qubit → Qubit) (i : Instruction) (h : plainB i = true) :
    plainB (mapQubits f i) = true := by
  cases i <;> first | rfl | cases h

theorem map_id_of_forall {α : Type} (g : α → α) (l : List α) (h : ∀ e ∈ l, g e = e) : l.map g = l :=
  (List.map_congr_left h).trans (List.map_id l)

theorem retarget_of_ne {formal : String} {actual r : MemRef} (h : r.name ≠ formal) :
    retarget formal actual r = r := by simp [retarget, h]

theorem mapAddr_id (ρ : MemRef → MemRef) (e : PExpr) (h : ∀ r ∈ e.addrs, ρ r = r) : mapAddr ρ e = e := by
  induction e with
  | address r => simp [mapAddr, h r (by simp [Expr.addrs])]
  | call f e ih => simp [mapAddr, ih (by simpa [Expr.addrs] using h)]
  | bin l o r ihl ihr =>
    simp only [Expr.addrs, List.mem_append] at h
    simp [mapAddr, ihl (fun r hr => h r (Or.inl hr)), ihr (fun r hr => h r (Or.inr hr))]
  | number z => rfl
  | pi => rfl
  | pre o e ih => simp [mapAddr, ih (by simpa [Expr.addrs] using h)]
  | var x => rfl

theorem map_mapAddr_id (ρ : MemRef → MemRef) (es : List PExpr) (h : ∀ r ∈ es.flatMap (·.addrs), ρ r = r) :
    es.map (mapAddr ρ) = es :=
  map_id_of_forall _ _ fun e he => mapAddr_id ρ e fun r hr => h r (List.mem_flatMap.mpr ⟨e, he, hr⟩)

theorem mapInvocation_id (ρ : MemRef → MemRef) (w : WaveformInvocation) (h : ∀ r ∈ invocationAddrs w, ρ r = r) :
    mapInvocation (mapAddr ρ) w = w := by
  obtain ⟨name, ps⟩ := w
  refine congrArg _ (map_id_of_forall _ ps fun kv hkv => ?_)
  rw [mapAddr_id ρ _ fun r hr => h r (List.mem_flatMap.mpr ⟨kv, hkv, hr⟩)]

theorem mapArithOperand_id (ρ : MemRef → MemRef) (o : ArithmeticOperand) (h : ∀ r ∈ refsOfArith o, ρ r = r) :
    mapArithOperand ρ o = o := by
  cases o
  case memoryReference r => exact congrArg _ (h r (.head _))
  all_goals rfl

theorem mapBinaryOperand_id (ρ : MemRef → MemRef) (o : BinaryOperand) (h : ∀ r ∈ refsOfBinary o, ρ r = r) :
    mapBinaryOperand ρ o = o := by
  cases o
  case memoryReference r => exact congrArg _ (h r (.head _))
  all_goals rfl

theorem mapComparisonOperand_id (ρ : MemRef → MemRef) (o : ComparisonOperand)
    (h : ∀ r ∈ refsOfComparison o, ρ r = r) : mapComparisonOperand ρ o = o := by
  cases o
  case memoryReference r => exact congrArg _ (h r (.head _))
  all_goals rfl

theorem mapCallArguments_id (ρ : MemRef → MemRef) (as : List UnresolvedCallArgument)
    (h : ∀ r ∈ as.flatMap refsOfCallArg, ρ r = r) : as.map (mapCallArgument ρ) = as := by
  refine map_id_of_forall _ _ fun x hx => ?_
  replace hx : ∀ r ∈ refsOfCallArg x, ρ r = r := fun r hr => h r (List.mem_flatMap.mpr ⟨x, hx, hr⟩)
  cases x
  case memoryReference r => exact congrArg _ (hx r (.head _))
  all_goals rfl

/-- in every position the code does not rewrite (`otherRefs`) `retarget` meets a name other than the formal one and
changes nothing -/
theorem measureTargetSubst_eq (f : String) (a : MemRef) (j : Instruction) (hp : plainB j = true)
    (hc : formalCoveredB (some f) j = true) :
    measureTargetSubst (some f) (some a) j = retargetInstr f a j := by
  replace hc : ∀ r ∈ otherRefs j, retarget f a r = r := fun r hr =>
    retarget_of_ne ((by simpa [formalCoveredB] using hc : ∀ r ∈ otherRefs j, r.name ≠ f) r hr)
  cases j
  -- the three kinds whose expressions `mapExprs` visits although `otherRefs` does not list them; `plainB` excludes them
  case calibrationDefinition | frameDefinition | gateDefinition => cases hp
  all_goals simp only [measureTargetSubst, retargetInstr, retargetPragma, mapMemRefs, mapDirectRefs, mapExprs,
    mapGateE]
  case arithmetic | move | store => rw [hc _ (.head _), mapArithOperand_id _ _ fun r hr => hc r (.tail _ hr)]
  case binaryLogic => rw [hc _ (.head _), mapBinaryOperand_id _ _ fun r hr => hc r (.tail _ hr)]
  case comparison =>
    rw [hc _ (.head _), hc _ (.tail _ (.head _)),
      mapComparisonOperand_id _ _ fun r hr => hc r (.tail _ (.tail _ hr))]
  case convert | exchange | load => rw [hc _ (.head _), hc _ (.tail _ (.head _))]
  case jumpUnless | jumpWhen | unaryLogic => rw [hc _ (.head _)]
  case call => rw [mapCallArguments_id _ _ hc]
  case pulse => rw [mapInvocation_id _ _ hc]
  case gate | waveformDefinition => rw [map_mapAddr_id _ _ hc]
  case delay | setFrequency | setPhase | setScale | shiftFrequency | shiftPhase =>
    rw [mapAddr_id _ _ hc]
  case capture x =>
    rw [mapInvocation_id _ _ hc]
    by_cases hn : x.memoryReference.name = f <;> simp [hn, retarget]
  case rawCapture x =>
    rw [mapAddr_id _ _ hc]
    by_cases hn : x.memoryReference.name = f <;> simp [hn, retarget]
  case measurement x =>
    rcases x with ⟨nm, q, _ | t⟩
    · rfl
    · by_cases hn : t.name = f <;> simp [hn, retarget]
  case pragma x =>
    by_cases h1 : x.name = "LOAD-MEMORY" <;> by_cases h2 : x.data = some f <;> simp [h1, h2]

theorem measureTargetSubst_none (formal : Option String) (j : Instruction) :
    measureTargetSubst formal none j = j := by
  cases j
  case measurement m => rcases m with ⟨_, _, _ | t⟩ <;> simp only [measureTargetSubst, ite_self]
  case pragma | capture | rawCapture => simp only [measureTargetSubst, ite_self]
  all_goals rfl

theorem otherRefs_mapQubits (f : Qubit → Qubit) (i : Instruction) (h : plainB i = true) :
    otherRefs (mapQubits f i) = otherRefs i := by
  cases i <;> first | rfl | cases h

theorem lookup_measQubitExpansions (c : MCalDef) (m : Measurement) (n : String) :
    (measQubitExpansions c.identifier.qubit m.qubit).lookup n = measBindQ c m n := by
  unfold measBindQ measQubitExpansions
  rcases hq : c.identifier.qubit with k | k | name <;> simp
  by_cases hn : n = name
  · subst hn; simp
  · have : ¬ name = n := fun h => hn h.symm
    simp [hn, this]

theorem find?_zip_reverse_none {α β : Type} (cs : List α) (gs : List β) (p : α → Bool)
    (h : ∀ c ∈ cs, p c = false) : (cs.zip gs).reverse.find? (fun q => p q.1) = none :=
  List.find?_eq_none.mpr fun q hq => by
    rw [h q.1 (List.of_mem_zip (List.mem_reverse.mp hq)).1]; exact Bool.false_ne_true

theorem bindQ_none (cqs gqs : List Qubit) (n : String) (h : n ∉ qubitVarNames cqs) :
    bindQ cqs gqs n = none := by
  rw [bindQ, find?_zip_reverse_none cqs gqs (fun c => decide (c = .variable n))]; · rfl
  exact fun c hc => decide_eq_false fun e => h (List.mem_filterMap.mpr ⟨c, hc, by rw [e]⟩)

theorem bindP_none (cps gps : List PExpr) (n : String) (h : n ∉ paramVarNames cps) :
    bindP cps gps n = none := by
  rw [bindP, find?_zip_reverse_none cps gps (fun c => decide (c = .var n))]; · rfl
  exact fun c hc => decide_eq_false fun e => h (List.mem_filterMap.mpr ⟨c, hc, by rw [e]⟩)

theorem subst_id (σ : String → Option PExpr) (e : PExpr) (h : ∀ x ∈ e.vars, σ x = none) :
    QV.subst σ e = e := by
  induction e with
  | address r => rfl
  | call f e ih => simp [QV.subst, ih (by simpa [Expr.vars] using h)]
  | bin l o r ihl ihr =>
    simp only [Expr.vars, List.mem_append] at h
    simp [QV.subst, ihl (fun x hx => h x (Or.inl hx)), ihr (fun x hx => h x (Or.inr hx))]
  | number z => rfl
  | pi => rfl
  | pre o e ih => simp [QV.subst, ih (by simpa [Expr.vars] using h)]
  | var x => simp [QV.subst, h x (by simp [Expr.vars])]

theorem substQ_free (σ : String → Option Qubit) (qn : List String) (hσ : ∀ n, n ∉ qn → σ n = none)
    (q : Qubit) (h : qubitFree qn q = true) : substQ σ q = q := by
  rcases q with k | k | n <;> simp_all [substQ, qubitFree]

theorem map_substQ_free (σ : String → Option Qubit) (qn : List String) (hσ : ∀ n, n ∉ qn → σ n = none)
    (qs : List Qubit) (h : qs.all (qubitFree qn) = true) : qs.map (substQ σ) = qs :=
  map_id_of_forall _ _ fun q hq => substQ_free σ qn hσ q (List.all_eq_true.mp h q hq)

theorem subst_free (σ : String → Option PExpr) (pn : List String) (hσ : ∀ n, n ∉ pn → σ n = none)
    (e : PExpr) (h : exprFree pn e = true) : QV.subst σ e = e := by
  apply subst_id
  intro x hx
  apply hσ
  simp only [exprFree, List.all_eq_true, Bool.not_eq_true', List.contains_eq_mem, decide_eq_false_iff_not] at h
  exact h x hx

@[elab_as_elim]
theorem nestedOk_cases {qn pn : List String} {P : (i : Instruction) → nestedOkB qn pn i = true → Prop}
    (i : Instruction) (h : nestedOkB qn pn i = true)
    (frame : ∀ fd h, P (.frameDefinition fd) h)
    (cal : ∀ id is h, P (.calibrationDefinition id is) h)
    (mcal : ∀ id is h, P (.measureCalibrationDefinition id is) h)
    (circuit : ∀ n ps qs is, P (.circuitDefinition n ps qs is) rfl)
    (gate : ∀ gd h, P (.gateDefinition gd) h) : P i h := by
  cases i
  case frameDefinition fd => exact frame fd h
  case calibrationDefinition id is => exact cal id is h
  case measureCalibrationDefinition id is => exact mcal id is h
  case circuitDefinition n ps qs is => exact circuit n ps qs is
  case gateDefinition gd => exact gate gd h
  all_goals cases h

theorem nested_untouched {qn pn : List String} {i : Instruction} (hk : nestedOkB qn pn i = true) :
    (∀ σ, substituteQubitVariables σ i = i) ∧ (∀ fo ao, measureTargetSubst fo ao i = i) ∧
      (∀ ρ, mapDirectRefs ρ i = i) ∧ ∀ f a, retargetPragma f a i = i := by
  induction i, hk using nestedOk_cases <;> exact ⟨fun _ => rfl, fun _ _ => rfl, fun _ => rfl, fun _ _ => rfl⟩

theorem mapQubits_nested_id (σ : String → Option Qubit) {qn pn : List String} (hσ : ∀ n, n ∉ qn → σ n = none)
    {i : Instruction} (hk : nestedOkB qn pn i = true) : mapQubits (substQ σ) i = i := by
  induction i, hk using nestedOk_cases with
  | frame fd h => simp only [mapQubits, mapFrameQ, map_substQ_free σ qn hσ _ h]
  | cal id is h => simp only [mapQubits, map_substQ_free σ qn hσ _ h]
  | mcal id is h => simp only [mapQubits, substQ_free σ qn hσ _ h]
  | circuit => rfl
  | gate gd h =>
    obtain ⟨name, params, spec⟩ := gd
    cases spec with
    | sequence s =>
      have : s.gates.map (mapGateQ (substQ σ)) = s.gates := map_id_of_forall _ _ fun t ht => by
        have := List.all_eq_true.mp h t ht
        simp only [gateFree, Bool.and_eq_true] at this
        simp only [mapGateQ, map_substQ_free σ qn hσ _ this.1]
      simp only [mapQubits, this]
    | _ => rfl

/-- on an admitted nested definition `apply_to_expressions` differs from the generic expression traversal only
in positions (PAULI-SUM terms, SEQUENCE gates) whose expressions `f` fixes -/
theorem applyToExpressions_nested (f : PExpr → PExpr) {qn pn : List String}
    (hf : ∀ e, exprFree pn e = true → f e = e) {i : Instruction} (hk : nestedOkB qn pn i = true) :
    applyToExpressions f i = mapExprs f i := by
  induction i, hk using nestedOk_cases with
  | gate gd h =>
    obtain ⟨name, params, spec⟩ := gd
    cases spec with
    | pauliSum s =>
      have : s.terms.map (fun t => { t with expression := f t.expression }) = s.terms :=
        map_id_of_forall _ _ fun t ht => by rw [hf _ (List.all_eq_true.mp h t ht)]
      simp only [applyToExpressions, mapExprs, mapSpecE, this]
    | sequence s =>
      have : s.gates.map (mapGateE f) = s.gates := map_id_of_forall _ _ fun t ht => by
        have := List.all_eq_true.mp h t ht
        simp only [gateFree, Bool.and_eq_true] at this
        simp only [mapGateE, map_id_of_forall f _ fun e he => hf e (List.all_eq_true.mp this.2 e he)]
      simp only [applyToExpressions, mapExprs, mapSpecE, this]
    | _ => rfl
  | _ => rfl

theorem gateSubstCode_eq_nested (c : CalDef) (g : Gate) (i : Instruction)
    (h : nestedOkB (qubitVarNames c.identifier.qubits) (paramVarNames c.identifier.parameters) i = true) :
    gateSubstCode c g i = gateSubstSpec c g i := by
  have hσp : (fun x => List.lookup x (variableExpansions c.identifier.parameters g.parameters [])) =
      bindP c.identifier.parameters g.parameters := by funext x; simp [lookup_variableExpansions]
  rw [gateSubstCode, gateSubstSpec, hσp, (nested_untouched h).1,
    mapQubits_nested_id _ (fun n hn => bindQ_none _ _ n hn) h]
  exact applyToExpressions_nested _ (fun e he => subst_free _ _ (fun n hn => bindP_none _ _ n hn) e he) h

theorem map_attr_id (g : PExpr → PExpr) (attrs : List (String × AttributeValue))
    (h : ∀ e ∈ attrs.filterMap (fun kv => match kv.2 with | .expression e => some e | _ => none), g e = e) :
    attrs.map (mapAttribute g) = attrs := by
  refine map_id_of_forall _ _ fun kv hkv => ?_
  obtain ⟨k, v⟩ := kv
  cases v with
  | string s => rfl
  | expression e => simp only [mapAttribute, h e (List.mem_filterMap.mpr ⟨_, hkv, rfl⟩)]

theorem mapExprs_nested_id (g : PExpr → PExpr) {qn pn : List String} {i : Instruction}
    (hk : nestedOkB qn pn i = true) (h : ∀ e ∈ nestedExprs i, g e = e) : mapExprs g i = i := by
  induction i, hk using nestedOk_cases with
  | frame fd _ => simp only [mapExprs, map_attr_id g _ h]
  | cal id is _ => simp only [mapExprs, map_id_of_forall g id.parameters h]
  | mcal | circuit => rfl
  | gate gd _ =>
    obtain ⟨name, params, spec⟩ := gd
    cases spec with
    | matrix rows =>
      have : rows.map (fun r => r.map g) = rows := map_id_of_forall _ _ fun r hr =>
        map_id_of_forall g r fun e he => h e (List.mem_flatten.mpr ⟨r, hr, he⟩)
      simp only [mapExprs, mapSpecE, this]
    | permutation perm => rfl
    | pauliSum s =>
      have : s.terms.map (fun t => { t with expression := g t.expression }) = s.terms :=
        map_id_of_forall _ _ fun t ht => by rw [h t.expression (List.mem_map_of_mem ht)]
      simp only [mapExprs, mapSpecE, this]
    | sequence s =>
      have : s.gates.map (mapGateE g) = s.gates := map_id_of_forall _ _ fun t ht => by
        simp only [mapGateE, map_id_of_forall g t.parameters fun e he => h e (List.mem_flatMap.mpr ⟨t, ht, he⟩)]
      simp only [mapExprs, mapSpecE, this]

theorem measBindQ_none (c : MCalDef) (m : Measurement) (n : String)
    (h : n ∉ qubitVarNames [c.identifier.qubit]) : measBindQ c m n = none := by
  unfold measBindQ
  split
  · rename_i hq
    exfalso; apply h
    simp [qubitVarNames, hq]
  · rfl

/-- an admitted nested definition in a measurement calibration body is left as written by the code and by the
specification alike -/
theorem measSubstCode_eq_nested (c : MCalDef) (m : Measurement) (i : Instruction)
    (hk : nestedOkB (qubitVarNames [c.identifier.qubit]) [] i = true)
    (hf : ∀ f, c.identifier.target = some f →
      ∀ e ∈ nestedExprs i, ∀ r ∈ e.addrs, r.name ≠ f) :
    measSubstCode c m i = measSubstSpec c m i := by
  obtain ⟨hq, ht, hd, hpr⟩ := nested_untouched hk
  rw [measSubstCode, measSubstSpec, hq, ht,
    mapQubits_nested_id _ (fun n hn => measBindQ_none c m n hn) hk]
  cases hft : c.identifier.target with
  | none => rfl
  | some f =>
    cases m.target with
    | none => rfl
    | some a =>
      have he : mapExprs (mapAddr (retarget f a)) i = i :=
        mapExprs_nested_id _ hk fun e he => mapAddr_id _ e fun r hr => retarget_of_ne (hf f hft e he r hr)
      simp only [retargetInstr, mapMemRefs, hd, he, hpr]

end QV.C17
