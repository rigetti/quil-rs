import QV.C17.Matching
import QV.C17.Container
/-! The expansion algorithm against the big-step relation `Expands`.  One walk (`expandSeq`) serves both levels: a
level of `expand_inner` that finds a match is the walk over the instantiated body, mapped by `some`
(`expandInnerWith_of_some`); `expand_calibrations_inner` is the walk over the program body with no breadcrumbs, mapped by
`add_instructions` (`expandLoop_fst`).  What holds of the walk is proved once (`expandSeq_*`). -/
namespace QV.C17
open QV QV.Ast

section
variable {κ : Type} (E : Env κ) {S : Subst} {cals : Cals}

theorem Expands.append {xs o ys os : List Instruction}
    (h1 : Expands E S cals xs o) (h2 : Expands E S cals ys os) :
    Expands E S cals (xs ++ ys) (o ++ os) := by
  induction h1 with
  | nil => simpa using h2
  | keep hn _ ih => exact Expands.keep hn ih
  | gate hw hb _ _ ih =>
    rw [List.cons_append, List.append_assoc]
    exact Expands.gate hw hb ih
  | meas hw hb _ _ ih =>
    rw [List.cons_append, List.append_assoc]
    exact Expands.meas hw hb ih

theorem Expands.fixpoint {is out : List Instruction} (h : Expands E S cals is out) :
    Fixpoint E cals out := by
  induction h with
  | nil => intro i hi; cases hi
  | keep hn _ ih =>
    intro i hi
    rcases List.mem_cons.mp hi with rfl | hi
    · exact hn
    · exact ih i hi
  | gate _ _ _ ihb ih =>
    intro i hi
    rcases List.mem_append.mp hi with hi | hi
    · exact ihb i hi
    · exact ih i hi
  | meas _ _ _ ihb ih =>
    intro i hi
    rcases List.mem_append.mp hi with hi | hi
    · exact ihb i hi
    · exact ih i hi

theorem Expands.sublist {is out : List Instruction} (h : Expands E S cals is out) :
    ∀ sub : List Instruction, sub.Sublist is → (∀ i ∈ sub, NoMatch E cals i) → sub.Sublist out := by
  induction h with
  | nil => intro sub hs _; exact hs
  | keep hn _ ih =>
    intro sub hs hall
    cases hs with
    | cons _ hs => exact (ih _ hs hall).cons _
    | cons_cons _ hs => exact (ih _ hs (fun i hi => hall i (List.mem_cons_of_mem _ hi))).cons_cons _
  | gate hw _ _ _ ih =>
    intro sub hs hall
    cases hs with
    | cons _ hs => exact (ih _ hs hall).trans (List.sublist_append_right _ _)
    | cons_cons _ hs => exact absurd (hall _ (List.mem_cons_self ..)) (gateWinner_not_noMatch E hw)
  | meas hw _ _ _ ih =>
    intro sub hs hall
    cases hs with
    | cons _ hs => exact (ih _ hs hall).trans (List.sublist_append_right _ _)
    | cons_cons _ hs => exact absurd (hall _ (List.mem_cons_self ..)) (measWinner_not_noMatch E hw)

theorem Expands.congr {S' : Subst} {is out : List Instruction}
    (hg : ∀ c g i, GateWinner E cals.cals g c → i ∈ c.instructions → S.gate c g i = S'.gate c g i)
    (hm : ∀ c m i, MeasWinner cals.mcals m c → i ∈ c.instructions → S.meas c m i = S'.meas c m i)
    (h : Expands E S cals is out) : Expands E S' cals is out := by
  induction h with
  | nil => exact Expands.nil
  | keep hn _ ih => exact Expands.keep hn ih
  | @gate g c _ _ _ hw _ _ ihb ih =>
    have : c.instructions.map (S.gate c g) = c.instructions.map (S'.gate c g) :=
      List.map_congr_left (fun i hi => hg c g i hw hi)
    rw [this] at ihb
    exact Expands.gate hw ihb ih
  | @meas m c _ _ _ hw _ _ ihb ih =>
    have : c.instructions.map (S.meas c m) = c.instructions.map (S'.meas c m) :=
      List.map_congr_left (fun i hi => hm c m i hw hi)
    rw [this] at ihb
    exact Expands.meas hw ihb ih

theorem Expands.deterministic {is o1 : List Instruction} (h1 : Expands E S cals is o1) :
    ∀ o2, Expands E S cals is o2 → o1 = o2 := by
  induction h1 with
  | nil => intro o2 h2; cases h2; rfl
  | keep hn _ ih =>
    intro o2 h2
    cases h2 with
    | keep _ h2' => rw [ih _ h2']
    | gate hw _ _ => exact absurd hn (gateWinner_not_noMatch E hw)
    | meas hw _ _ => exact absurd hn (measWinner_not_noMatch E hw)
  | gate hw _ _ ihb ih =>
    intro o2 h2
    cases h2 with
    | keep hn _ => exact absurd hn (gateWinner_not_noMatch E hw)
    | gate hw' hb' hr' =>
      cases GateWinner.unique E hw hw'
      rw [ihb _ hb', ih _ hr']
  | meas hw _ _ ihb ih =>
    intro o2 h2
    cases h2 with
    | keep hn _ => exact absurd hn (measWinner_not_noMatch E hw)
    | meas hw' hb' hr' =>
      cases MeasWinner.unique hw hw'
      rw [ihb _ hb', ih _ hr']

end

def Outcome.map {α β : Type} (f : α → β) : Outcome α → Outcome β
  | .ok a => .ok (f a)
  | .recursiveCalibration i => .recursiveCalibration i
  | .outOfFuel => .outOfFuel

section
variable {α β : Type} (f : α → β) (o : Outcome α)

@[simp] theorem Outcome.map_eq_ok {y : β} : o.map f = .ok y ↔ ∃ x, o = .ok x ∧ f x = y := by
  cases o <;> simp [Outcome.map]

@[simp] theorem Outcome.map_eq_recursiveCalibration {j : Instruction} :
    o.map f = .recursiveCalibration j ↔ o = .recursiveCalibration j := by
  cases o <;> simp [Outcome.map]

@[simp] theorem Outcome.map_eq_outOfFuel : o.map f = .outOfFuel ↔ o = .outOfFuel := by
  cases o <;> simp [Outcome.map]

end

/-- the two successful arms of the loop differ only in what the instruction contributes -/
theorem expandSeq_cons (rec : Instruction → Outcome (Option (List Instruction))) (i : Instruction)
    (rest : List Instruction) :
    expandSeq rec (i :: rest) =
      match rec i, expandSeq rec rest with
      | .ok o, .ok outs => .ok (o.getD [i] ++ outs)
      | .ok _, .recursiveCalibration j => .recursiveCalibration j
      | .ok _, .outOfFuel => .outOfFuel
      | .recursiveCalibration j, _ => .recursiveCalibration j
      | .outOfFuel, _ => .outOfFuel := by
  rw [expandSeq]
  cases rec i with
  | ok o => cases o <;> cases expandSeq rec rest <;> rfl
  | _ => rfl

section
variable {rec : Instruction → Outcome (Option (List Instruction))}

theorem expandSeq_ne_outOfFuel {body : List Instruction} (hall : ∀ j ∈ body, rec j ≠ .outOfFuel) :
    expandSeq rec body ≠ .outOfFuel := by
  induction body with
  | nil => intro h; cases h
  | cons i rest ih =>
    have hi := hall i (List.mem_cons_self ..)
    have hr := ih fun j hj => hall j (List.mem_cons_of_mem _ hj)
    rw [expandSeq_cons]
    cases h1 : rec i with
    | outOfFuel => exact absurd h1 hi
    | recursiveCalibration j => intro h; cases h
    | ok o =>
      cases h2 : expandSeq rec rest with
      | outOfFuel => exact absurd h2 hr
      | _ => intro h; cases h

theorem expandSeq_ok_all {body out : List Instruction} (h : expandSeq rec body = .ok out) :
    ∀ j ∈ body, ∃ r, rec j = .ok r := by
  induction body generalizing out with
  | nil => intro j hj; cases hj
  | cons i rest ih =>
    rw [expandSeq_cons] at h
    cases h1 : rec i <;> cases h2 : expandSeq rec rest <;> simp only [h1, h2] at h <;> try cases h
    intro j hj
    rcases List.mem_cons.mp hj with rfl | hj
    · exact ⟨_, h1⟩
    · exact ih h2 j hj

theorem expandSeq_recursive {body : List Instruction} {j : Instruction}
    (h : expandSeq rec body = .recursiveCalibration j) : ∃ k ∈ body, rec k = .recursiveCalibration j := by
  induction body with
  | nil => cases h
  | cons i rest ih =>
    rw [expandSeq_cons] at h
    cases h1 : rec i <;> cases h2 : expandSeq rec rest <;> simp only [h1, h2] at h <;> try cases h
    -- the head returned: the failure comes from the rest
    · obtain ⟨k, hk, hr⟩ := ih h2
      exact ⟨k, List.mem_cons_of_mem _ hk, hr⟩
    all_goals exact ⟨i, List.mem_cons_self .., h1⟩

end

section
variable {κ : Type} [DecidableEq κ] {E : Env κ} {S : Subst} {cals : Cals}

omit [DecidableEq κ] in
theorem oneStep_none {i : Instruction} (h : oneStep E S cals i = none) : NoMatch E cals i := by
  cases i
  case gate g =>
    simp only [oneStep] at h
    split at h
    · cases h
    · rename_i hn; exact getMatchForGate_none E hn
  case measurement m =>
    simp only [oneStep] at h
    split at h
    · cases h
    · rename_i hn; exact getMatchForMeasurement_none hn
  all_goals trivial

omit [DecidableEq κ] in
theorem oneStep_some {i : Instruction} {body : List Instruction} {src : CalSource}
    (h : oneStep E S cals i = some (body, src)) :
    (∃ g c, i = .gate g ∧ GateWinner E cals.cals g c ∧ body = c.instructions.map (S.gate c g)) ∨
    (∃ m c, i = .measurement m ∧ MeasWinner cals.mcals m c ∧ body = c.instructions.map (S.meas c m)) := by
  cases i
  case gate g =>
    simp only [oneStep] at h
    split at h
    · rename_i c hc
      simp only [Option.some.injEq, Prod.mk.injEq] at h
      exact .inl ⟨g, c, rfl, getMatchForGate_some E hc, h.1.symm⟩
    · cases h
  case measurement m =>
    simp only [oneStep] at h
    split at h
    · rename_i c hc
      simp only [Option.some.injEq, Prod.mk.injEq] at h
      exact .inr ⟨m, c, rfl, getMatchForMeasurement_some hc, h.1.symm⟩
    · cases h
  all_goals cases h

end

section
variable {κ : Type} [DecidableEq κ] (E : Env κ) (S : Subst) (cals : Cals)

/-- what one successful call of the expansion means -/
def SoundAt (i : Instruction) : Option (List Instruction) → Prop
  | none => NoMatch E cals i
  | some out => Expands E S cals [i] out

variable {E S cals}

theorem expandSeq_sound {rec : Instruction → Outcome (Option (List Instruction))}
    (hrec : ∀ i r, rec i = .ok r → SoundAt E S cals i r) {body out : List Instruction}
    (h : expandSeq rec body = .ok out) : Expands E S cals body out := by
  induction body generalizing out with
  | nil =>
    simp only [expandSeq, Outcome.ok.injEq] at h
    subst h; exact Expands.nil
  | cons i rest ih =>
    rw [expandSeq_cons] at h
    cases ho : rec i <;> cases hrest : expandSeq rec rest <;> simp only [ho, hrest, Outcome.ok.injEq, reduceCtorEq] at h
    subst h
    rename_i o outs
    cases o with
    | none => exact Expands.keep (hrec i _ ho) (ih hrest)
    | some out => simpa using Expands.append E (hrec i _ ho) (ih hrest)

end

section
variable {κ : Type} [DecidableEq κ] {E : Env κ} {S : Subst} {cals : Cals}

theorem expandInnerWith_of_mem {prev : List κ} {i : Instruction} (hm : E.key i ∈ prev) (fuel : Nat) :
    expandInnerWith E S cals (fuel + 1) prev i = .recursiveCalibration i := by
  rw [expandInnerWith]; simp [hm]

theorem expandInnerWith_of_none {prev : List κ} {i : Instruction} (hm : E.key i ∉ prev)
    (hs : oneStep E S cals i = none) (fuel : Nat) :
    expandInnerWith E S cals (fuel + 1) prev i = .ok none := by
  rw [expandInnerWith]; simp [hm, hs]

theorem expandInnerWith_of_some {prev : List κ} {i : Instruction} {body : List Instruction} {src : CalSource}
    (hm : E.key i ∉ prev) (hs : oneStep E S cals i = some (body, src)) (fuel : Nat) :
    expandInnerWith E S cals (fuel + 1) prev i =
      (expandSeq (expandInnerWith E S cals fuel (E.key i :: prev)) body).map some := by
  rw [expandInnerWith]; simp only [List.contains_eq_mem, hm, decide_false, Bool.false_eq_true, if_false, hs]
  cases expandSeq (expandInnerWith E S cals fuel (E.key i :: prev)) body <;> rfl

end

section
variable {κ : Type} [DecidableEq κ] {E : Env κ} {S : Subst} {cals : Cals}

theorem expandInnerWith_sound {fuel : Nat} {prev : List κ} {i : Instruction} {r : Option (List Instruction)}
    (h : expandInnerWith E S cals fuel prev i = .ok r) : SoundAt E S cals i r := by
  induction fuel generalizing prev i r with
  | zero => cases h
  | succ fuel ih =>
    by_cases hm : E.key i ∈ prev
    · rw [expandInnerWith_of_mem hm] at h; cases h
    cases hs : oneStep E S cals i with
    | none =>
      rw [expandInnerWith_of_none hm hs] at h
      cases h
      exact oneStep_none hs
    | some b =>
      obtain ⟨body, src⟩ := b
      rw [expandInnerWith_of_some hm hs, Outcome.map_eq_ok] at h
      obtain ⟨out, hseq, rfl⟩ := h
      have hb := expandSeq_sound (fun _ _ => ih) hseq
      rcases oneStep_some hs with ⟨g, c, rfl, hw, rfl⟩ | ⟨m, c, rfl, hw, rfl⟩
      · simpa [SoundAt] using Expands.gate (E := E) hw hb Expands.nil
      · simpa [SoundAt] using Expands.meas (E := E) hw hb Expands.nil

end

section
variable {κ : Type} [DecidableEq κ] (E : Env κ) (S : Subst) (cals : Cals)

theorem expandLoop_fst (src : Prog) (fuel : Nat) :
    ∀ (is : List Instruction) (idx : Nat) (np : Prog) (sm : Option (List Entry)),
      (expandLoop E S src fuel is idx np sm).map (·.1) =
        (expandSeq (expandInnerWith E S src.cals fuel []) is).map np.addMany := by
  intro is
  induction is with
  | nil => intro idx np sm; rfl
  | cons i rest ih =>
    intro idx np sm
    rw [expandLoop, expandSeq_cons]
    cases expandInnerWith E S src.cals fuel [] i with
    | ok o =>
      cases o with
      | some out =>
        simp only [ih, appendExpansion_fst]
        cases expandSeq (expandInnerWith E S src.cals fuel []) rest <;> simp [Outcome.map, addMany_append]
      | none =>
        simp only [ih]
        cases expandSeq (expandInnerWith E S src.cals fuel []) rest <;> simp [Outcome.map, addMany_cons]
    | _ => rfl

theorem expandCalibrationsWith_fst (p : Prog) (fuel : Nat) (withMap : Bool) :
    (expandCalibrationsWith E S p fuel withMap).map (·.1) =
      (expandSeq (expandInnerWith E S p.cals fuel []) p.instructions).map p.cloneWithoutBody.addMany :=
  expandLoop_fst E S p fuel _ _ _ _

theorem expandCalibrations_eq (p : Prog) (fuel : Nat) :
    expandCalibrations E p fuel =
      (expandSeq (expandInnerWith E codeSubst p.cals fuel []) p.instructions).map p.cloneWithoutBody.addMany := by
  rw [← expandCalibrationsWith_fst E codeSubst p fuel false, expandCalibrations]
  cases expandCalibrationsWith E codeSubst p fuel false <;> rfl

end

end QV.C17
