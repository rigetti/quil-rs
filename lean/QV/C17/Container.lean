import QV.C17.Spec
import QV.C16.Lemmas
import QV.Shared.Upsert
/-! `Program::add_instruction` in C17's model: where each kind is stored (`definition_cases`,
`add_of_not_definition`), which key it adds (`mem_add_keys`), and the with-source-map loop of
`append_calibration_expansion_output_inner` against `add_instructions`. -/
namespace QV.C17
open QV QV.Ast

@[elab_as_elim]
theorem definition_cases {P : (i : Instruction) → isDefinition i = true → Prop} (i : Instruction)
    (h : isDefinition i = true)
    (cal : ∀ id is, P (.calibrationDefinition id is) rfl)
    (circuit : ∀ n ps qs is, P (.circuitDefinition n ps qs is) rfl)
    (frame : ∀ f, P (.frameDefinition f) rfl)
    (decl : ∀ d, P (.declaration d) rfl)
    (gate : ∀ g, P (.gateDefinition g) rfl)
    (mcal : ∀ id is, P (.measureCalibrationDefinition id is) rfl)
    (wave : ∀ w, P (.waveformDefinition w) rfl)
    (extern : ∀ pr (he : (pr.name == "EXTERN") = true), P (.pragma pr) he) : P i h := by
  cases i
  case calibrationDefinition id is => exact cal id is
  case circuitDefinition n ps qs is => exact circuit n ps qs is
  case frameDefinition f => exact frame f
  case declaration d => exact decl d
  case gateDefinition g => exact gate g
  case measureCalibrationDefinition id is => exact mcal id is
  case waveformDefinition w => exact wave w
  case pragma pr => exact extern pr h
  all_goals cases h

theorem add_of_not_definition (p : Prog) {i : Instruction} (h : isDefinition i = false) :
    p.add i = { p with instructions := p.instructions ++ [i] } := by
  cases i
  case pragma pr => simp only [Prog.add]; rw [if_neg]; simpa [isDefinition] using h
  all_goals first | rfl | cases h

theorem add_instructions_of_definition (p : Prog) {i : Instruction} (h : isDefinition i = true) :
    (p.add i).instructions = p.instructions := by
  induction i, h using definition_cases with
  | extern pr he => simp only [Prog.add, he, if_true]
  | _ => rfl

theorem add_instructions (p : Prog) (i : Instruction) :
    (p.add i).instructions = if isDefinition i then p.instructions else p.instructions ++ [i] := by
  cases h : isDefinition i
  · rw [add_of_not_definition p h]; rfl
  · exact add_instructions_of_definition p h

theorem add_cals (p : Prog) (i : Instruction) (h : plainB i = true) : (p.add i).cals = p.cals := by
  cases hd : isDefinition i
  · rw [add_of_not_definition p hd]
  · induction i, hd using definition_cases with
    | decl | wave => rfl
    | extern pr he => simp only [Prog.add, he, if_true]
    | _ => cases h

theorem addMany_append (p : Prog) (xs ys : List Instruction) :
    p.addMany (xs ++ ys) = (p.addMany xs).addMany ys := by
  simp [Prog.addMany, List.foldl_append]

theorem addMany_cons (p : Prog) (x : Instruction) (xs : List Instruction) :
    p.addMany (x :: xs) = (p.add x).addMany xs := rfl

theorem addMany_instructions (p : Prog) (is : List Instruction) :
    (p.addMany is).instructions = p.instructions ++ is.filter (fun i => !isDefinition i) := by
  induction is generalizing p with
  | nil => simp [Prog.addMany]
  | cons i is ih =>
    rw [addMany_cons, ih, add_instructions]
    cases h : isDefinition i <;> simp [h]

theorem upsert_eq {K V : Type} [DecidableEq K] (m : List (K × V)) (k : K) (v : V) :
    upsert m k v = upsertBy Prod.fst m (k, v) := by
  induction m with
  | nil => rfl
  | cons a as ih => simp only [upsert, upsertBy, ih]

theorem upsert_value_mem {K V : Type} [DecidableEq K] (m : List (K × V)) (k : K) (v : V) :
    v ∈ (upsert m k v).map (·.2) :=
  List.mem_map_of_mem (f := (·.2)) (upsert_eq m k v ▸ mem_upsertBy_self Prod.fst m (k, v))

/-- `f` is there because `Prog.keys` wraps the key of each container in that container's constructor of `DefKey` -/
theorem upsert_keys {K V β : Type} [DecidableEq K] (f : K → β) (m : List (K × V)) (k : K) (v : V) (x : β) :
    x ∈ (upsert m k v).map (fun kv => f kv.1) ↔ f k = x ∨ x ∈ m.map (fun kv => f kv.1) := by
  rw [upsert_eq]; exact mem_map_keys_upsertBy Prod.fst f m (k, v) x

theorem add_definition_stored (p : Prog) (i : Instruction) (h : isDefinition i = true) :
    i ∈ (p.add i).definitions := by
  induction i, h using definition_cases with
  | cal id is =>
    simp only [Prog.add, Prog.definitions, Cals.toInstructions, List.mem_append]
    exact .inl (.inl (.inr (.inl (List.mem_map_of_mem (f := fun d : CalDef => _) (C16.replace_mem _ _ ⟨id, is⟩)))))
  | mcal id is =>
    simp only [Prog.add, Prog.definitions, Cals.toInstructions, List.mem_append]
    exact .inl (.inl (.inr (.inr (List.mem_map_of_mem (f := fun d : MCalDef => _) (C16.replace_mem _ _ ⟨id, is⟩)))))
  | extern pr he => simp only [Prog.add, he, if_true, Prog.definitions, List.mem_append, upsert_value_mem, true_or]
  | _ => simp only [Prog.add, Prog.definitions, List.mem_append, upsert_value_mem, true_or, or_true]

theorem defKey_isSome_iff (i : Instruction) : (defKey i).isSome = isDefinition i := by
  cases i
  case pragma pr => simp only [defKey, isDefinition]; split <;> simp_all
  all_goals rfl

/-- moves an equation among the disjuncts to the front (`or_left_comm` itself would permute all of them) -/
theorem or_eq_left_comm {α : Type} (u v : α) (a b : Prop) : (a ∨ u = v ∨ b) ↔ (u = v ∨ a ∨ b) := or_left_comm

theorem mem_add_keys (p : Prog) (i : Instruction) (k : DefKey) :
    k ∈ (p.add i).keys ↔ defKey i = some k ∨ k ∈ p.keys := by
  cases hd : isDefinition i
  · have : defKey i = none := by
      have := defKey_isSome_iff i
      rw [hd] at this
      cases h : defKey i
      · rfl
      · rw [h] at this; cases this
    rw [add_of_not_definition p hd, this]
    exact ⟨.inr, fun h => h.elim nofun id⟩
  · simp only [Prog.keys, List.mem_append, or_assoc]
    induction i, hd using definition_cases with
    | extern pr he =>
      simp only [Prog.add, defKey, he, if_true, upsert_keys, Option.some.injEq, or_eq_left_comm]
    | _ =>
      simp only [Prog.add, defKey, upsert_keys, C16.replace_sigs (fun c : CalDef => c.identifier),
        C16.replace_sigs (fun c : MCalDef => c.identifier), Option.some.injEq, or_assoc, or_eq_left_comm]

theorem mem_addMany_keys (p : Prog) (is : List Instruction) (k : DefKey) :
    k ∈ (p.addMany is).keys ↔ (∃ i ∈ is, defKey i = some k) ∨ k ∈ p.keys := by
  induction is generalizing p with
  | nil => exact ⟨.inr, fun h => h.elim (fun ⟨_, hi, _⟩ => nomatch hi) id⟩
  | cons j is ih =>
    rw [addMany_cons, ih, mem_add_keys]
    constructor
    · rintro (⟨i, hi, h⟩ | h | h)
      · exact .inl ⟨i, .tail _ hi, h⟩
      · exact .inl ⟨j, .head _, h⟩
      · exact .inr h
    · rintro (⟨i, hi, h⟩ | h)
      · rcases List.mem_cons.mp hi with rfl | hi
        · exact .inr (.inl h)
        · exact .inl ⟨i, hi, h⟩
      · exact .inr (.inr h)

theorem region_mem_keys (p : Prog) (n : String) :
    DefKey.region n ∈ p.keys ↔ n ∈ p.memoryRegions.map (·.1) := by
  simp [Prog.keys]

theorem appendLoop_fst (previous : Nat) :
    ∀ (out : List Instruction) (p : Prog) (removed : List Nat),
      (Prog.appendLoop previous p out removed).1 = p.addMany out := by
  intro out
  induction out with
  | nil => intro p removed; rfl
  | cons i rest ih =>
    intro p removed
    simp only [Prog.appendLoop]
    split <;> exact ih _ _

theorem appendExpansion_fst (p : Prog) (out : List Instruction) (src : Nat) (sm : Option (List Entry)) :
    (p.appendExpansion out src sm).1 = p.addMany out := by
  cases sm with
  | none => rfl
  | some es => simp [Prog.appendExpansion, appendLoop_fst]

/-- the relative target indices the with-source-map loop must remove: the position (among the instructions that
land in the body) of every hoisted instruction -/
def removedSpec : Nat → List Instruction → List Nat
  | _, [] => []
  | k, i :: rest => if isDefinition i then k :: removedSpec k rest else removedSpec (k + 1) rest

theorem appendLoop_removed (previous : Nat) :
    ∀ (out : List Instruction) (p : Prog) (removed : List Nat), previous ≤ p.instructions.length →
      (Prog.appendLoop previous p out removed).2 =
        removed ++ removedSpec (p.instructions.length - previous) out := by
  intro out
  induction out with
  | nil => intro p removed _; simp [Prog.appendLoop, removedSpec]
  | cons i rest ih =>
    intro p removed hle
    simp only [Prog.appendLoop, removedSpec]
    cases hd : isDefinition i
    · have hlen : (p.add i).instructions.length = p.instructions.length + 1 := by
        rw [add_of_not_definition p hd]; simp
      rw [if_neg (by rw [hlen]; simp), ih _ _ (by omega), hlen]
      congr 2
      omega
    · have hlen : (p.add i).instructions.length = p.instructions.length := by
        rw [add_instructions_of_definition p hd]
      rw [if_pos (by rw [hlen]; simp), ih _ _ (by omega), hlen]
      simp

end QV.C17
