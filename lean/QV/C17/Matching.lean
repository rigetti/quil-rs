import QV.C17.Spec
import QV.C16.Props
/-! Calibration lookup in C17's model: C16's answer on the indexed projection read back through `cs[i]?`
(`GateWinner`, `MeasWinner`, `NoMatch`), and C16's matching relation on the projection restated on the real
identifiers (`gateMatches_iff`, `measMatches_iff`). -/
namespace QV.C17
open QV QV.Ast

section
variable {κ : Type} (E : Env κ)

theorem getMatchForGate_some {cs : List CalDef} {g : Gate} {c : CalDef}
    (h : getMatchForGate E cs g = some c) : GateWinner E cs g c := by
  unfold getMatchForGate at h
  have hs := C16.getMatchForGate_spec (toCals16 E cs g) (toGate16 E (paramUniverse E cs g) g)
  split at h
  · rename_i i hi
    rw [hi] at hs
    exact ⟨i, hs, h⟩
  · cases h

theorem getMatchForGate_none {cs : List CalDef} {g : Gate}
    (h : getMatchForGate E cs g = none) :
    ∀ d ∈ toCals16 E cs g, ¬ C16.GateMatches d (toGate16 E (paramUniverse E cs g) g) := by
  unfold getMatchForGate at h
  split at h
  · rename_i i hi
    have hs := C16.getMatchForGate_spec (toCals16 E cs g) (toGate16 E (paramUniverse E cs g) g)
    rw [hi] at hs
    obtain ⟨c16, hc, _, _⟩ := hs
    -- C16's index is in range, so the read-back `cs[i]?` is not `none`
    have hlt : i < cs.length := by
      have := (List.getElem?_eq_some_iff.mp hc).1
      simpa [toCals16] using this
    rw [List.getElem?_eq_getElem hlt] at h
    cases h
  · rename_i hn
    exact (C16.getMatchForGate_none_iff _ _).mp hn

theorem getMatchForMeasurement_some {cs : List MCalDef} {m : Measurement} {c : MCalDef}
    (h : getMatchForMeasurement cs m = some c) : MeasWinner cs m c := by
  unfold getMatchForMeasurement at h
  have hs := C16.getMatchForMeasurement_spec (toMCals16 cs) (toMeas16 m)
  split at h
  · rename_i i hi
    rw [hi] at hs
    exact ⟨i, hs, h⟩
  · cases h

theorem getMatchForMeasurement_none {cs : List MCalDef} {m : Measurement}
    (h : getMatchForMeasurement cs m = none) :
    ∀ d ∈ toMCals16 cs, ¬ C16.MeasMatches d (toMeas16 m) := by
  unfold getMatchForMeasurement at h
  split at h
  · rename_i i hi
    have hs := C16.getMatchForMeasurement_spec (toMCals16 cs) (toMeas16 m)
    rw [hi] at hs
    obtain ⟨c16, hc, _, _⟩ := hs
    have hlt : i < cs.length := by
      have := (List.getElem?_eq_some_iff.mp hc).1
      simpa [toMCals16] using this
    rw [List.getElem?_eq_getElem hlt] at h
    cases h
  · rename_i hn
    exact (C16.getMatchForMeasurement_none_iff _ _).mp hn

theorem gateWinner_not_noMatch {cals : Cals} {g : Gate} {c : CalDef}
    (h : GateWinner E cals.cals g c) : ¬ NoMatch E cals (.gate g) := by
  obtain ⟨i, ⟨c16, hc, hm, _⟩, _⟩ := h
  intro hn
  exact hn c16 (List.mem_of_getElem? hc) hm

theorem measWinner_not_noMatch {cals : Cals} {m : Measurement} {c : MCalDef}
    (h : MeasWinner cals.mcals m c) : ¬ NoMatch E cals (.measurement m) := by
  obtain ⟨i, ⟨c16, hc, hm, _⟩, _⟩ := h
  intro hn
  exact hn c16 (List.mem_of_getElem? hc) hm

theorem GateWinner.unique {cs : List CalDef} {g : Gate} {c c' : CalDef}
    (h : GateWinner E cs g c) (h' : GateWinner E cs g c') : c = c' := by
  obtain ⟨i, hi, hc⟩ := h
  obtain ⟨j, hj, hc'⟩ := h'
  cases C16.gateWinner_unique _ _ i j hi hj
  exact Option.some.inj (hc.symm.trans hc')

theorem MeasWinner.unique {cs : List MCalDef} {m : Measurement} {c c' : MCalDef}
    (h : MeasWinner cs m c) (h' : MeasWinner cs m c') : c = c' := by
  obtain ⟨i, hi, hc⟩ := h
  obtain ⟨j, hj, hc'⟩ := h'
  cases C16.measWinner_unique _ _ i j hi hj
  exact Option.some.inj (hc.symm.trans hc')

end

theorem forall_getElem?_map₂ {α α' β β' : Type} (f : α → α') (g : β → β') (xs : List α) (ys : List β)
    (R' : α' → β' → Prop) (R : α → β → Prop) (h : ∀ a ∈ xs, ∀ b, R' (f a) (g b) ↔ R a b) :
    (∀ (i : Nat) a' b', (xs.map f)[i]? = some a' → (ys.map g)[i]? = some b' → R' a' b') ↔
      ∀ (i : Nat) a b, xs[i]? = some a → ys[i]? = some b → R a b := by
  simp only [List.getElem?_map, Option.map_eq_some_iff]
  exact ⟨fun H i a b ha hb => (h a (List.mem_of_getElem? ha) b).mp (H i _ _ ⟨a, ha, rfl⟩ ⟨b, hb, rfl⟩),
    fun H i a' b' ⟨a, ha, e1⟩ ⟨b, hb, e2⟩ =>
      e1 ▸ e2 ▸ (h a (List.mem_of_getElem? ha) b).mpr (H i a b ha hb)⟩

theorem idxOf_eq_iff {α : Type} [DecidableEq α] (l : List α) (a b : α) (ha : a ∈ l) :
    l.idxOf a = l.idxOf b ↔ a = b := by
  constructor
  · intro h
    have h1 : l.idxOf a < l.length := List.idxOf_lt_length_iff.mpr ha
    have h2 : l[l.idxOf a]'h1 = a := List.getElem_idxOf h1
    have h3 : l.idxOf b < l.length := h ▸ h1
    have h4 : l[l.idxOf b]'h3 = b := List.getElem_idxOf h3
    rw [← h2, ← h4]
    congr 1
  · intro h; rw [h]

section
variable {κ : Type} (E : Env κ)

theorem toMod16_injective : Function.Injective toMod16 := by
  intro a b h; cases a <;> cases b <;> simp_all [toMod16]

theorem qubitOk_iff (cq gq : Qubit) : C16.QubitOk (toQubit16 cq) (toQubit16 gq) ↔ QubitOkAst cq gq := by
  rcases cq with a | a | a <;> rcases gq with b | b | b <;> simp [C16.QubitOk, QubitOkAst, toQubit16]

theorem toParam16_simp_var (univ : List PExpr) {e : PExpr} {v : String} (h : E.simp e = .var v) :
    (toParam16 E univ e).simp = .variable := by
  simp only [toParam16, h]

theorem toParam16_simp_other (univ : List PExpr) {e : PExpr} (h : ∀ v, E.simp e ≠ .var v) :
    (toParam16 E univ e).simp = .other (classOf univ (E.simp e)) := by
  unfold toParam16
  cases hs : E.simp e <;> first | rfl | exact absurd hs (h _)

/-- the two class numbers agree exactly when the simplified expressions do because `E.simp cp` is in the
universe (`idxOf_eq_iff`) -/
theorem paramOk_iff (univ : List PExpr) (cp gp : PExpr) (hc : E.simp cp ∈ univ) :
    C16.ParamOk (toParam16 E univ cp) (toParam16 E univ gp) ↔
      ((∃ v, E.simp cp = .var v) ∨ E.simp cp = E.simp gp) := by
  unfold C16.ParamOk
  by_cases hv : ∃ v, E.simp cp = .var v
  · exact ⟨fun _ => .inl hv, fun _ => .inl (hv.elim fun _ h => toParam16_simp_var E univ h)⟩
  · rw [toParam16_simp_other E univ fun v h => hv ⟨v, h⟩]
    by_cases hg : ∃ w, E.simp gp = .var w
    · obtain ⟨w, hw⟩ := hg
      rw [toParam16_simp_var E univ hw]
      exact ⟨fun h => h.elim nofun nofun, fun h => h.elim (absurd · hv) fun h => absurd ⟨w, h.trans hw⟩ hv⟩
    · rw [toParam16_simp_other E univ fun w h => hg ⟨w, h⟩]
      simp only [reduceCtorEq, false_or, C16.SimpClass.other.injEq, classOf, idxOf_eq_iff univ _ _ hc, hv]

theorem simp_mem_universe (cs : List CalDef) (g : Gate) (c : CalDef) (hc : c ∈ cs) (cp : PExpr)
    (hp : cp ∈ c.identifier.parameters) : E.simp cp ∈ paramUniverse E cs g := by
  simp only [paramUniverse, List.mem_append, List.mem_map, List.mem_flatMap]
  exact Or.inr ⟨cp, Or.inl ⟨c, hc, hp⟩, rfl⟩

theorem gateMatches_iff (cs : List CalDef) (g : Gate) (c : CalDef) (hc : c ∈ cs) (idx : Nat) :
    C16.GateMatches (toCal16 E (paramUniverse E cs g) c idx) (toGate16 E (paramUniverse E cs g) g) ↔
      GateMatchesAst E c g := by
  unfold C16.GateMatches GateMatchesAst
  simp only [toCal16, toGate16, List.length_map]
  rw [List.map_inj_right toMod16_injective,
    forall_getElem?_map₂ toQubit16 toQubit16 _ _ _ QubitOkAst fun a _ b => qubitOk_iff a b,
    forall_getElem?_map₂ (toParam16 E _) (toParam16 E _) _ _ _
      (fun cp gp => (∃ v, E.simp cp = .var v) ∨ E.simp cp = E.simp gp) fun cp hcp gp =>
        paramOk_iff E _ cp gp (simp_mem_universe E cs g c hc cp hcp)]

theorem measMatches_iff (c : MCalDef) (m : Measurement) (idx : Nat) :
    C16.MeasMatches (toMCal16 c idx) (toMeas16 m) ↔ MeasMatchesAst c m := by
  unfold C16.MeasMatches MeasMatchesAst
  simp only [toMCal16, toMeas16, Option.isSome_map]
  rcases hq : c.identifier.qubit with a | a | a <;> rcases hm : m.qubit with b | b | b <;>
    simp [toQubit16]

end

end QV.C17
