import QV.C17.Expansion
import QV.C17.Substitution
/-
C17 — Calibration expansion is a complete, faithful substitution.

All theorems hold for every simplifier oracle and every instruction key (`Env`).

The statement is FALSE of the code in one respect (known finding `C17/formal-target-in-other-instructions`):
"its target replaces uses of the target name" — the code replaces the formal target of a `DEFCAL MEASURE` only
in the `memory_reference` of CAPTURE / RAW-CAPTURE, in the target of a nested MEASURE and in the data of
`PRAGMA LOAD-MEMORY`; in any other position (`MOVE addr 1`, `addr[0]` inside an expression, LOAD / STORE /
EXCHANGE operands, JUMP-WHEN conditions …) the formal name survives.  The full statement is therefore proved
as `…_partial` under the decidable hypothesis `coveredB cals` (calibration bodies use formal targets only in those
four positions; a definition nested in a body — only the API builds one that is not plain — keeps the enclosing
calibration's variables out of the positions the code does not visit, `nestedOkB`), and its negation is proved on
the minimal witness (`measurement_substitution_counterexample`, `expand_counterexample`).  Everything else is proved
without that hypothesis.
-/
namespace QV.C17
open QV QV.Ast

section
variable {κ : Type} [DecidableEq κ] (E : Env κ)

/-- the index `gate.qubits[index]` of `expand_inner` (calibration.rs:413) is in bounds: a matching
calibration has as many qubits (and parameters) as the gate -/
theorem getMatchForGate_lengths (cs : List CalDef) (g : Gate) (c : CalDef)
    (h : getMatchForGate E cs g = some c) :
    c.identifier.qubits.length = g.qubits.length ∧ c.identifier.parameters.length = g.parameters.length := by
  obtain ⟨i, ⟨c16, hc, hm, _⟩, hi⟩ := getMatchForGate_some E h
  have : (toCals16 E cs g)[i]? = some (toCal16 E (paramUniverse E cs g) c i) := by
    simp [toCals16, List.getElem?_map, List.getElem?_zipIdx, hi]
  rw [this] at hc
  cases hc
  obtain ⟨_, _, hp, hq, _⟩ := hm
  simp only [toCal16, toGate16, List.length_map] at hp hq
  exact ⟨hq, hp⟩

private theorem forall_mem_zipIdx_map {α β : Type} {cs : List α} {f : α × Nat → β} {P : β → Prop} {Q : α → Prop}
    (h : ∀ c ∈ cs, ∀ i, P (f (c, i)) ↔ Q c) : (∀ d ∈ cs.zipIdx.map f, P d) ↔ ∀ c ∈ cs, Q c := by
  constructor
  · intro H c hc
    obtain ⟨i, hi, rfl⟩ := List.getElem_of_mem hc
    exact (h _ hc i).mp (H _ (List.mem_map_of_mem (List.mem_zipIdx_iff_getElem?.mpr (List.getElem?_eq_getElem hi))))
  · intro H d hd
    obtain ⟨⟨c, i⟩, hci, rfl⟩ := List.mem_map.mp hd
    have hc := List.mem_of_getElem? (List.mem_zipIdx_iff_getElem?.mp hci)
    exact (h c hc i).mpr (H c hc)

theorem noMatch_gate_iff (cals : Cals) (g : Gate) :
    NoMatch E cals (.gate g) ↔ ∀ c ∈ cals.cals, ¬ GateMatchesAst E c g :=
  forall_mem_zipIdx_map fun c hc i => not_congr (gateMatches_iff E cals.cals g c hc i)

theorem noMatch_measurement_iff (cals : Cals) (m : Measurement) :
    NoMatch E cals (.measurement m) ↔ ∀ c ∈ cals.mcals, ¬ MeasMatchesAst c m :=
  forall_mem_zipIdx_map fun c _ i => not_congr (measMatches_iff c m i)

/-- **"with the gate's qubits and parameters substituted for the calibration's variables"**: on every plain
instruction (anything but a nested definition with an identifier of its own) the code's instantiation
(`substitute_qubit_variables`, which lists instruction kinds one by one, then `apply_to_expressions`) IS the
generic one: every qubit position and every expression of the instruction is rewritten, a variable standing
for the gate's qubit / parameter at the last position where the calibration's identifier names it.  (False of
quil-rs before its fix 93b5b59, which added MEASURE, RESET and SWAP-PHASES to the listed kinds.) -/
theorem gate_substitution_faithful (c : CalDef) (g : Gate) (i : Instruction) (h : plainB i = true) :
    gateSubstCode c g i = gateSubstSpec c g i := by
  simp only [gateSubstCode, gateSubstSpec]
  rw [substituteQubitVariables_eq _ _ h, applyToExpressions_eq _ _ (plainB_mapQubits _ _ h)]
  congr 1
  · funext x; simp [lookup_variableExpansions]
  · congr 1; funext n; simp [lookup_qubitExpansions]

/- FULL STATEMENT (false of the code for nested definitions, see `nested_definition_counterexample`):
     ∀ c g i, gateSubstCode c g i = gateSubstSpec c g i -/
/-- **nested definitions admitted**: the same holds of a definition nested in the calibration body — DEFFRAME,
DEFCAL, DEFCAL MEASURE, DEFGATE (matrix / permutation / PAULI-SUM / SEQUENCE), DEFCIRCUIT — provided the positions
of it that the code's substitution does NOT visit (identifier qubits of a nested DEFFRAME / DEFCAL / DEFCAL
MEASURE, PAULI-SUM term expressions, the gates of a SEQUENCE) mention none of the enclosing calibration's
variables (`nestedOkB`, decidable).  Every definition the parser can put into a calibration body (DECLARE, PRAGMA
EXTERN, DEFWAVEFORM) is plain. -/
theorem gate_substitution_faithful_partial (c : CalDef) (g : Gate) (i : Instruction)
    (h : admitB (qubitVarNames c.identifier.qubits) (paramVarNames c.identifier.parameters) i = true) :
    gateSubstCode c g i = gateSubstSpec c g i := by
  simp only [admitB, Bool.or_eq_true] at h
  rcases h with h | h
  · exact gate_substitution_faithful c g i h
  · exact gateSubstCode_eq_nested c g i h

/-- `DEFCAL X q: DEFFRAME q "xy"` (an API-built body; the parser cannot nest a DEFFRAME) used for `X 0` -/
def nestedCal : CalDef :=
  { identifier := { modifiers := [], name := "X", parameters := [], qubits := [Qubit.variable "q"] }
    instructions := [.frameDefinition ⟨⟨"xy", [Qubit.variable "q"]⟩, []⟩] }
def nestedGate : Gate := { name := "X", parameters := [], qubits := [.fixed 0], modifiers := [] }

/-- **why the excluded nested definitions must stay excluded**: the code leaves the qubit variable in the
identifier of a nested DEFFRAME (`DEFFRAME q "xy"` stays as written, `substitute_qubit_variables` has no arm for
it), the generic traversal instantiates it (`DEFFRAME 0 "xy"`).  Replayed on the real code by the harness
(`nested_with_variables`, tag `excluded-nested-definition`). -/
theorem nested_definition_counterexample :
    gateSubstCode nestedCal nestedGate (.frameDefinition ⟨⟨"xy", [Qubit.variable "q"]⟩, []⟩)
      = .frameDefinition ⟨⟨"xy", [Qubit.variable "q"]⟩, []⟩ ∧
    gateSubstSpec nestedCal nestedGate (.frameDefinition ⟨⟨"xy", [Qubit.variable "q"]⟩, []⟩)
      = .frameDefinition ⟨⟨"xy", [.fixed 0]⟩, []⟩ ∧
    nestedOkB (qubitVarNames nestedCal.identifier.qubits) (paramVarNames nestedCal.identifier.parameters)
      (.frameDefinition ⟨⟨"xy", [Qubit.variable "q"]⟩, []⟩) = false := by
  refine ⟨?_, ?_, ?_⟩
  · simp [gateSubstCode, nestedCal, nestedGate, substituteQubitVariables, applyToExpressions]
  · simp [gateSubstSpec, nestedCal, nestedGate, mapQubits, mapExprs, mapFrameQ, substQ, bindQ]
  · simp [nestedOkB, nestedCal, qubitVarNames, qubitFree]

/-- `DEFGATE G(%t) p AS PAULI-SUM: X(%t) p` nested in `DEFCAL RX(%t) 0`, used for `RX(0.5) 0` -/
def nestedPauli : Instruction :=
  .gateDefinition ⟨"G", ["t"], .pauliSum ⟨["p"], [⟨[(.x, "p")], .var "t"⟩]⟩⟩
def nestedPauliCal : CalDef :=
  { identifier := { modifiers := [], name := "RX", parameters := [.var "t"], qubits := [.fixed 0] }
    instructions := [nestedPauli] }
def nestedPauliGate : Gate :=
  { name := "RX", parameters := [.number ⟨0x3FE0000000000000, 0⟩], qubits := [.fixed 0], modifiers := [] }

/-- the expression side of the exclusion: `apply_to_expressions` does not enter a PAULI-SUM specification, the
generic traversal does (and would capture the definition's own formal parameter) -/
theorem nested_paulisum_counterexample :
    gateSubstCode nestedPauliCal nestedPauliGate nestedPauli = nestedPauli ∧
    gateSubstSpec nestedPauliCal nestedPauliGate nestedPauli ≠ nestedPauli ∧
    nestedOkB (qubitVarNames nestedPauliCal.identifier.qubits)
      (paramVarNames nestedPauliCal.identifier.parameters) nestedPauli = false := by
  refine ⟨?_, ?_, ?_⟩
  · simp [gateSubstCode, nestedPauli, substituteQubitVariables, applyToExpressions]
  · simp [gateSubstSpec, nestedPauli, nestedPauliCal, nestedPauliGate, mapQubits, mapExprs, mapSpecE, bindP,
      QV.subst]
  · simp [nestedOkB, nestedPauli, nestedPauliCal, paramVarNames, exprFree, Expr.vars]

/- FULL STATEMENT (false of the code):
     ∀ c m i, plainB i → c.identifier.target.isSome = m.target.isSome →
       measSubstCode c m i = measSubstSpec c m i -/
/-- **"its qubit replaces the qubit variable and its target replaces uses of the target name, and other
memory references stay as written"**, PARTIAL: for a body instruction that uses the formal target only in
CAPTURE / RAW-CAPTURE memory references, nested MEASURE targets and PRAGMA LOAD-MEMORY data. -/
theorem measurement_substitution_faithful_partial (c : MCalDef) (m : Measurement) (i : Instruction)
    (hp : plainB i = true) (hc : formalCoveredB c.identifier.target i = true)
    (hm : c.identifier.target.isSome = m.target.isSome) :
    measSubstCode c m i = measSubstSpec c m i := by
  simp only [measSubstCode, measSubstSpec]
  rw [substituteQubitVariables_eq _ _ hp]
  have hσ : (fun n => List.lookup n (measQubitExpansions c.identifier.qubit m.qubit)) = measBindQ c m := by
    funext n; exact lookup_measQubitExpansions c m n
  rw [hσ]
  cases hf : c.identifier.target with
  | none =>
    cases ha : m.target with
    | none => simp [measureTargetSubst_none]
    | some a => simp [hf, ha] at hm
  | some f =>
    cases ha : m.target with
    | none => simp [hf, ha] at hm
    | some a =>
      show measureTargetSubst (some f) (some a) _ = retargetInstr f a _
      apply measureTargetSubst_eq _ _ _ (plainB_mapQubits _ _ hp)
      rw [hf] at hc
      simpa [formalCoveredB, otherRefs_mapQubits _ _ hp] using hc

/-- **nested definitions admitted in measurement calibrations**: a plain instruction covered as above, or a
nested definition whose unvisited positions do not mention the calibration's qubit variable and whose
expressions do not refer to the formal target (`admitMB`). -/
theorem measurement_substitution_faithful_admit_partial (c : MCalDef) (m : Measurement) (i : Instruction)
    (h : admitMB (qubitVarNames [c.identifier.qubit]) c.identifier.target i = true)
    (hm : c.identifier.target.isSome = m.target.isSome) :
    measSubstCode c m i = measSubstSpec c m i := by
  simp only [admitMB, Bool.or_eq_true, Bool.and_eq_true] at h
  rcases h with ⟨hp, hc⟩ | ⟨hk, hf⟩
  · exact measurement_substitution_faithful_partial c m i hp hc hm
  · apply measSubstCode_eq_nested c m i hk
    intro f hft e he r hr
    rw [hft] at hf
    simp only [List.all_eq_true, bne_iff_ne, ne_eq] at hf
    exact hf e he r hr

/-- the witness of the known finding: `DEFCAL MEASURE 0 addr: MOVE addr 1`, used for `MEASURE 0 ro[2]` -/
def kfCal : MCalDef :=
  { identifier := { name := none, qubit := .fixed 0, target := some "addr" }
    instructions := [.move { destination := ⟨"addr", 0⟩, source := .literalInteger 1 }] }
def kfMeasure : Measurement := { name := none, qubit := .fixed 0, target := some ⟨"ro", 2⟩ }

/-- **negation of the full statement on the witness**: the code keeps `MOVE addr[0] 1`, the statement
demands `MOVE ro[2] 1`. -/
theorem measurement_substitution_counterexample :
    ¬ (∀ (c : MCalDef) (m : Measurement) (i : Instruction), plainB i = true →
        c.identifier.target.isSome = m.target.isSome → measSubstCode c m i = measSubstSpec c m i) := by
  intro h
  have := h kfCal kfMeasure (.move { destination := ⟨"addr", 0⟩, source := .literalInteger 1 }) rfl rfl
  simp [measSubstCode, measSubstSpec, kfCal, kfMeasure, measQubitExpansions, substituteQubitVariables,
    measureTargetSubst, mapQubits, retargetInstr, retargetPragma, mapMemRefs, mapDirectRefs, mapExprs,
    retarget, mapArithOperand] at this

/-- **soundness of the algorithm, for any way `S` of instantiating a body**: a successful expansion is
related to its input by the big-step semantics; "no expansion" means nothing matches. -/
theorem expand_sound_with (S : Subst) (cals : Cals) (fuel : Nat) (prev : List κ) (i : Instruction) :
    (∀ out, expandInnerWith E S cals fuel prev i = .ok (some out) → Expands E S cals [i] out) ∧
    (expandInnerWith E S cals fuel prev i = .ok none → NoMatch E cals i) :=
  ⟨fun _ h => expandInnerWith_sound h, fun h => expandInnerWith_sound h⟩

/-- restricted to WINNING calibrations because of the measurement half: a calibration that matched `m` has a formal
target iff `m` has a target, which `measurement_substitution_faithful_admit_partial` needs (`hm`) -/
theorem codeSubst_eq_specSubst (cals : Cals) (hcov : coveredB cals = true) :
    (∀ c g i, GateWinner E cals.cals g c → i ∈ c.instructions → codeSubst.gate c g i = specSubst.gate c g i) ∧
    (∀ c m i, MeasWinner cals.mcals m c → i ∈ c.instructions → codeSubst.meas c m i = specSubst.meas c m i) := by
  simp only [coveredB, Bool.and_eq_true, List.all_eq_true] at hcov
  constructor
  · rintro c g i ⟨k, _, hk⟩ hi
    exact gate_substitution_faithful_partial c g i (hcov.1 c (List.mem_of_getElem? hk) i hi)
  · rintro c m i ⟨k, ⟨c16, hc, hm, _⟩, hk⟩ hi
    have hci := hcov.2 c (List.mem_of_getElem? hk) i hi
    have : (toMCals16 cals.mcals)[k]? = some (toMCal16 c k) := by
      simp [toMCals16, List.getElem?_map, List.getElem?_zipIdx, hk]
    rw [this] at hc
    cases hc
    have htgt : c.identifier.target.isSome = m.target.isSome := by
      have := hm.2.1
      simpa [toMCal16, toMeas16] using this
    exact measurement_substitution_faithful_admit_partial c m i hci htgt

/- FULL STATEMENT (false of the code, see the file header):
     expandInner E cals fuel prev i = .ok (some out) → Expands E specSubst cals [i] out -/
/-- **C17 (expansion is the specified substitution), PARTIAL**: on covered calibration sets a successful
`Calibrations::expand` is related to its input by the SPECIFICATION's big-step semantics: each instruction
with a match is replaced by the body of the calibration C16's precedence rules select, instantiated by the
generic substitution, recursively; instructions without a match are kept. -/
theorem expand_sound_partial (cals : Cals) (hcov : coveredB cals = true) (fuel : Nat)
    (prev : List Instruction) (i : Instruction) (out : List Instruction)
    (h : expandInner E cals fuel prev i = .ok (some out)) : Expands E specSubst cals [i] out := by
  have hs := expandInnerWith_sound h
  obtain ⟨hg, hm⟩ := codeSubst_eq_specSubst E cals hcov
  exact Expands.congr E hg hm hs

/-- **"Expansion repeats until no body instruction has a match"**: the result of a successful expansion is
a fixpoint — none of its instructions has a matching calibration.  (No hypothesis on the calibrations.) -/
theorem expand_fixpoint (cals : Cals) (fuel : Nat) (prev : List Instruction) (i : Instruction)
    (out : List Instruction) (h : expandInner E cals fuel prev i = .ok (some out)) : Fixpoint E cals out :=
  Expands.fixpoint E (expandInnerWith_sound h)

theorem expand_none_noMatch (cals : Cals) (fuel : Nat) (prev : List Instruction) (i : Instruction)
    (h : expandInner E cals fuel prev i = .ok none) : NoMatch E cals i :=
  expandInnerWith_sound h

/-- the specification determines the expansion: the big-step relation relates an instruction list to at most
one result (the winner is unique by C16, everything else is a function of it) -/
theorem expands_deterministic (S : Subst) (cals : Cals) (is o1 o2 : List Instruction)
    (h1 : Expands E S cals is o1) (h2 : Expands E S cals is o2) : o1 = o2 :=
  Expands.deterministic E h1 o2 h2

/-- **the relation determines what the algorithm returns**: whenever the expansion returns (no error, enough
fuel), its result — `[i]` itself for "no expansion" — is THE list the big-step semantics relates to the
instruction.  Soundness + determinism. -/
theorem expand_complete_with (S : Subst) (cals : Cals) (fuel : Nat) (prev : List κ) (i : Instruction)
    (r : Option (List Instruction)) (out : List Instruction)
    (h : expandInnerWith E S cals fuel prev i = .ok r) (hspec : Expands E S cals [i] out) :
    r.getD [i] = out := by
  have hs := expandInnerWith_sound h
  cases r with
  | none => exact Expands.deterministic E (Expands.keep hs Expands.nil) _ hspec
  | some o => exact Expands.deterministic E hs _ hspec

def kfCals : Cals := { cals := [], mcals := [kfCal] }
def kfMove (r : MemRef) : Instruction := .move { destination := r, source := .literalInteger 1 }

theorem kf_match : getMatchForMeasurement kfCals.mcals kfMeasure = some kfCal := by
  simp [getMatchForMeasurement, kfCals, C16.getMatchForMeasurement, toMCals16, toMCal16, toMeas16, kfCal,
    kfMeasure, C16.measScan, C16.measClass, toQubit16, C16.firstExtend, List.zipIdx]

/-- **negation of the full statement on the whole pipeline**: for `DEFCAL MEASURE 0 addr: MOVE addr 1` the
code expands `MEASURE 0 ro[2]` to `MOVE addr[0] 1`, which the specification does NOT relate to it (it relates
`MOVE ro[2] 1`, and only that).  For every simplifier oracle and every faithful instruction key. -/
theorem expand_counterexample (hkey : Function.Injective E.key) :
    expandInner E kfCals 2 [] (.measurement kfMeasure) = .ok (some [kfMove ⟨"addr", 0⟩]) ∧
    ¬ Expands E specSubst kfCals [.measurement kfMeasure] [kfMove ⟨"addr", 0⟩] := by
  have hne : E.key (kfMove ⟨"addr", 0⟩) ≠ E.key (.measurement kfMeasure) := by
    intro h; have := hkey h; simp [kfMove] at this
  constructor
  · have h1 : oneStep E codeSubst kfCals (.measurement kfMeasure) =
        some ([kfMove ⟨"addr", 0⟩], .measureCalibration kfCal.identifier) := by
      simp only [oneStep, kf_match]
      simp [kfCal, codeSubst, measSubstCode, measQubitExpansions, substituteQubitVariables,
        measureTargetSubst, kfMeasure, kfMove]
    have h2 : oneStep E codeSubst kfCals (kfMove ⟨"addr", 0⟩) = none := by simp [oneStep, kfMove]
    have hc : ([E.key (.measurement kfMeasure)] : List κ).contains (E.key (kfMove ⟨"addr", 0⟩)) = false := by
      simpa using hne
    simp only [expandInner, List.map_nil]
    unfold expandInnerWith
    simp only [List.contains_nil, Bool.false_eq_true, if_false, h1, expandSeq]
    unfold expandInnerWith
    simp only [hc, Bool.false_eq_true, if_false, h2]
  · intro hbad
    have hw : MeasWinner kfCals.mcals kfMeasure kfCal := getMatchForMeasurement_some kf_match
    have hbody : Expands E specSubst kfCals (kfCal.instructions.map (specSubst.meas kfCal kfMeasure))
        [kfMove ⟨"ro", 2⟩] := by
      have : kfCal.instructions.map (specSubst.meas kfCal kfMeasure) = [kfMove ⟨"ro", 2⟩] := by
        simp [kfCal, specSubst, measSubstSpec, kfMeasure, mapQubits, retargetInstr, retargetPragma, mapMemRefs,
          mapDirectRefs, mapExprs, retarget, mapArithOperand, kfMove]
      rw [this]
      exact Expands.keep (by simp [kfMove, NoMatch]) Expands.nil
    have hgood := Expands.meas (E := E) (S := specSubst) (cals := kfCals) hw hbody Expands.nil
    have := Expands.deterministic E hbad _ hgood
    simp [kfMove] at this

/-- the expanded program is the source program without its body, plus — through `add_instruction` — the
instructions `flat` that the big-step semantics relates to the source body -/
theorem program_expand_sound_with (S : Subst) (p : Prog) (fuel : Nat) (withMap : Bool)
    (r : Prog × Option (List Entry)) (h : expandCalibrationsWith E S p fuel withMap = .ok r) :
    ∃ flat, Expands E S p.cals p.instructions flat ∧ r.1 = p.cloneWithoutBody.addMany flat := by
  have hw := expandCalibrationsWith_fst E S p fuel withMap
  rw [h] at hw
  obtain ⟨flat, hs, hr⟩ := (Outcome.map_eq_ok _ _).mp hw.symm
  exact ⟨flat, expandSeq_sound (fun _ _ => expandInnerWith_sound) hs, hr.symm⟩

theorem program_expand_flat (p : Prog) (fuel : Nat) (q : Prog) (h : expandCalibrations E p fuel = .ok q) :
    ∃ flat, Expands E codeSubst p.cals p.instructions flat ∧ q = p.cloneWithoutBody.addMany flat := by
  rw [expandCalibrations_eq, Outcome.map_eq_ok] at h
  obtain ⟨flat, hs, rfl⟩ := h
  exact ⟨flat, expandSeq_sound (fun _ _ => expandInnerWith_sound) hs, rfl⟩

/-- **C17 at the program level, PARTIAL** (hypothesis `coveredB`, see `expand_sound_partial`) -/
theorem program_expand_sound_partial (p : Prog) (hcov : coveredB p.cals = true) (fuel : Nat) (q : Prog)
    (h : expandCalibrations E p fuel = .ok q) :
    ∃ flat, Expands E specSubst p.cals p.instructions flat ∧ q = p.cloneWithoutBody.addMany flat := by
  obtain ⟨flat, hf, hq⟩ := program_expand_flat E p fuel q h
  obtain ⟨hg, hm⟩ := codeSubst_eq_specSubst E p.cals hcov
  exact ⟨flat, Expands.congr E hg hm hf, hq⟩

/-- **fixpoint at the program level**: no instruction of the expanded body has a matching calibration in the SOURCE's
calibration set `p.cals` (the result's own set may have gained a DEFCAL hoisted out of a calibration body) -/
theorem program_expand_fixpoint (p : Prog) (fuel : Nat) (q : Prog)
    (h : expandCalibrations E p fuel = .ok q) : Fixpoint E p.cals q.instructions := by
  obtain ⟨flat, hf, rfl⟩ := program_expand_flat E p fuel q h
  intro i hi
  rw [addMany_instructions] at hi
  simp only [Prog.cloneWithoutBody, List.nil_append, List.mem_filter] at hi
  exact Expands.fixpoint E hf i hi.1

/-- **"hoists declarations out of the body"**: the expanded body holds no definition; it is exactly the
non-definitions of the expansion, in order; and every `DECLARE` the expansion produced is a memory region of
the expanded program. -/
theorem declarations_hoisted (p : Prog) (fuel : Nat) (q : Prog) (h : expandCalibrations E p fuel = .ok q) :
    Hoisted q.instructions ∧
    ∃ flat, Expands E codeSubst p.cals p.instructions flat ∧
      q.instructions = flat.filter (fun i => !isDefinition i) ∧
      ∀ d, Instruction.declaration d ∈ flat → d.name ∈ q.memoryRegions.map (·.1) := by
  obtain ⟨flat, hf, rfl⟩ := program_expand_flat E p fuel q h
  have hb : (p.cloneWithoutBody.addMany flat).instructions = flat.filter (fun i => !isDefinition i) := by
    rw [addMany_instructions]; simp [Prog.cloneWithoutBody]
  refine ⟨?_, flat, hf, hb, fun d hd =>
    (region_mem_keys _ _).mp ((mem_addMany_keys _ _ _).mpr (.inl ⟨_, hd, rfl⟩))⟩
  intro i hi
  rw [hb] at hi
  simpa using (List.mem_filter.mp hi).2

/-- **hoisting, for every kind of definition**: every definition the expansion produced — DECLARE, DEFFRAME,
DEFWAVEFORM, DEFGATE, DEFCIRCUIT, DEFCAL, DEFCAL MEASURE, `PRAGMA EXTERN` — is stored in the expanded program under
its key (as itself, or as a later definition with the same key that replaced it), and nothing the source program
stored is forgotten. -/
theorem definitions_hoisted_all_kinds (p : Prog) (fuel : Nat) (q : Prog)
    (h : expandCalibrations E p fuel = .ok q) :
    (∀ k ∈ p.keys, k ∈ q.keys) ∧
    ∃ flat, Expands E codeSubst p.cals p.instructions flat ∧
      ∀ i ∈ flat, ∀ k, defKey i = some k → k ∈ q.keys := by
  obtain ⟨flat, hf, rfl⟩ := program_expand_flat E p fuel q h
  exact ⟨fun k hk => (mem_addMany_keys _ _ k).mpr (.inr hk), flat, hf,
    fun i hi k hk => (mem_addMany_keys _ _ k).mpr (.inl ⟨i, hi, hk⟩)⟩

/-- so `definitions_hoisted_all_kinds`, which speaks of the instructions that have a key, leaves out no hoisted kind -/
theorem defKey_isSome_iff_definition (i : Instruction) : (defKey i).isSome = isDefinition i :=
  defKey_isSome_iff i

/-- **"keeps unmatched instructions in order"**: every subsequence of the source body made of instructions
without a match is a subsequence of the expanded body (the source body of a `Program` holds no definitions:
`fromInstructions_hoisted`). -/
theorem unmatched_kept_in_order (p : Prog) (hp : Hoisted p.instructions) (fuel : Nat) (q : Prog)
    (h : expandCalibrations E p fuel = .ok q) (sub : List Instruction) (hsub : sub.Sublist p.instructions)
    (hno : ∀ i ∈ sub, NoMatch E p.cals i) : sub.Sublist q.instructions := by
  obtain ⟨flat, hf, rfl⟩ := program_expand_flat E p fuel q h
  rw [addMany_instructions]
  simp only [Prog.cloneWithoutBody, List.nil_append]
  have h1 := Expands.sublist E hf sub hsub hno
  have h2 := h1.filter (fun i => !isDefinition i)
  have h3 : sub.filter (fun i => !isDefinition i) = sub := by
    apply List.filter_eq_self.mpr
    intro i hi
    simp [hp i (hsub.subset hi)]
  rwa [h3] at h2

theorem fromInstructions_hoisted (is : List Instruction) : Hoisted (Prog.fromInstructions is).instructions := by
  intro i hi
  simp only [Prog.fromInstructions] at hi
  rw [addMany_instructions] at hi
  simp only [List.nil_append, List.mem_filter] at hi
  simpa using hi.2

/-! ### "gives the same program with or without a source map", kind by kind

`append_calibration_expansion_output_inner` has two branches: with a source map each instruction is added on its
own and is recognised as hoisted by `start_length == end_length`; without, `add_instructions`. -/

/-- **hoisting is decided by `add_instruction`'s routing, for every instruction kind**: the body length is
unchanged by `add_instruction` exactly for DEFCAL, DEFCAL MEASURE, DEFCIRCUIT, DEFFRAME, DECLARE, DEFGATE,
DEFWAVEFORM and `PRAGMA EXTERN` … -/
theorem hoisted_iff_definition (p : Prog) (i : Instruction) :
    (p.add i).instructions.length = p.instructions.length ↔ isDefinition i = true := by
  rw [add_instructions]
  cases isDefinition i <;> simp

/-- … each of which is then listed among the program's definitions (it is stored, not dropped) and leaves the
body untouched … -/
theorem definition_routed (p : Prog) (i : Instruction) (h : isDefinition i = true) :
    i ∈ (p.add i).definitions ∧ (p.add i).instructions = p.instructions := by
  exact ⟨add_definition_stored p i h, add_instructions_of_definition p h⟩

/-- … while every other instruction is appended to the body and touches no definition. -/
theorem nondefinition_routed (p : Prog) (i : Instruction) (h : isDefinition i = false) :
    (p.add i).definitions = p.definitions ∧ (p.add i).instructions = p.instructions ++ [i] := by
  rw [add_of_not_definition p h]; exact ⟨rfl, rfl⟩

/-- **both branches of `append_calibration_expansion_output_inner` build the same program** -/
theorem append_with_map_eq_without (p : Prog) (out : List Instruction) (source : Nat) (entries : List Entry) :
    (p.appendExpansion out source (some entries)).1 = (p.appendExpansion out source none).1 := by
  rw [appendExpansion_fst, appendExpansion_fst]

/-- the target indices the with-source-map branch removes from the expansion's detail are exactly the positions
(among the instructions that land in the body) of the hoisted instructions, for every kind -/
theorem with_map_removed_indices (p : Prog) (out : List Instruction) :
    (Prog.appendLoop p.instructions.length p out []).2 = removedSpec 0 out := by
  have := appendLoop_removed p.instructions.length out p [] (Nat.le_refl _)
  simpa using this

/-- the range the with-source-map branch records covers exactly the non-definitions of the output -/
theorem with_map_range (p : Prog) (out : List Instruction) :
    ((Prog.appendLoop p.instructions.length p out []).1).instructions.length =
      p.instructions.length + (out.filter (fun i => !isDefinition i)).length := by
  rw [appendLoop_fst, addMany_instructions]; simp

/-- non-vacuity: `DECLARE`, `NOP`, `PRAGMA EXTERN`, `DEFFRAME`, `WAIT` — three kinds are hoisted, at relative
positions 0, 1, 1 -/
example : removedSpec 0 [.declaration ⟨"a", ⟨.bit, 1⟩, none⟩, .nop,
    .pragma ⟨"EXTERN", [.identifier "f"], some "INTEGER"⟩,
    .frameDefinition ⟨⟨"xy", [.fixed 0]⟩, []⟩, .wait] = [0, 1, 1] := by
  simp [removedSpec, isDefinition]

/-- **"gives the same program with or without a source map"** (any fuel, any outcome: the same expanded
program, the same error, or both out of fuel) -/
theorem with_map_eq_without (p : Prog) (fuel : Nat) :
    (expandCalibrationsWithSourceMap E p fuel).map (·.1) = expandCalibrations E p fuel := by
  rw [expandCalibrations_eq, ← expandCalibrationsWith_fst E codeSubst p fuel true, expandCalibrationsWithSourceMap]
  cases expandCalibrationsWith E codeSubst p fuel true <;> rfl

theorem noMatchB_iff (cals : Cals) (i : Instruction) : noMatchB E cals i = true ↔ NoMatch E cals i := by
  cases i
  case gate g =>
    simp only [noMatchB, NoMatch, List.all_eq_true, Bool.not_eq_true', ← Bool.not_eq_true, C16.gateMatchesB_iff]
  case measurement m =>
    simp only [noMatchB, NoMatch, List.all_eq_true, Bool.not_eq_true', ← Bool.not_eq_true, C16.measMatchesB_iff]
  all_goals exact ⟨fun _ => trivial, fun _ => rfl⟩

theorem fixpointB_iff (cals : Cals) (is : List Instruction) :
    fixpointB E cals is = true ↔ Fixpoint E cals is := by
  simp [fixpointB, Fixpoint, List.all_eq_true, noMatchB_iff]

end

theorem hoistedB_iff (body : List Instruction) : hoistedB body = true ↔ Hoisted body := by
  simp [hoistedB, Hoisted, List.all_eq_true]

/-- `RESET q` in the body of `DEFCAL X q`, used for `X 2` (one of the kinds of fix 93b5b59) -/
example : gateSubstSpec
    { identifier := { modifiers := [], name := "X", parameters := [], qubits := [.variable "q"] }
      instructions := [] }
    { name := "X", parameters := [], qubits := [.fixed 2], modifiers := [] }
    (.reset { qubit := some (.variable "q") }) = .reset { qubit := some (.fixed 2) } := by
  simp [gateSubstSpec, mapQubits, mapExprs, substQ, bindQ]

/-- `CAPTURE q "ro_rx" flat addr[0]` -/
def exCapture : Instruction :=
  let fr : FrameIdentifier := FrameIdentifier.mk "ro_rx" [Qubit.variable "q"]
  let wf : WaveformInvocation := WaveformInvocation.mk "flat" []
  .capture (Capture.mk true fr (MemRef.mk "addr" 0) wf)

/-- the hypotheses of `measurement_substitution_faithful_partial` hold of a CAPTURE into the formal target -/
example : plainB exCapture = true ∧ formalCoveredB (some "addr") exCapture = true := by
  simp [exCapture, plainB, formalCoveredB, otherRefs, invocationAddrs]

/-- … and fail of the known finding's witness -/
example : formalCoveredB (some "addr")
    (.move { destination := ⟨"addr", 0⟩, source := .literalInteger 1 }) = false := by
  simp [formalCoveredB, otherRefs, refsOfArith]

/-- `coveredB` is satisfiable by a non-trivial calibration set -/
example : coveredB { cals := [{ identifier := { modifiers := [], name := "X", parameters := [], qubits := [.variable "q"] },
                                instructions := [.fence { qubits := [.variable "q"] }, .nop] }],
                     mcals := [{ identifier := { name := none, qubit := .variable "q", target := some "addr" },
                                 instructions := [.fence { qubits := [.variable "q"] }] }] } = true := by
  simp [coveredB, admitB, admitMB, plainB, formalCoveredB, otherRefs]

/-- … and by one with an admitted nested definition: `DEFCAL X q: DEFFRAME 0 "xy"; DEFCIRCUIT C: NOP` -/
example : coveredB { cals := [{ identifier := { modifiers := [], name := "X", parameters := [], qubits := [.variable "q"] },
                                instructions := [.frameDefinition ⟨⟨"xy", [.fixed 0]⟩, []⟩,
                                                 .circuitDefinition "C" [] [] [.nop]] }],
                     mcals := [] } = true := by
  simp [coveredB, admitB, plainB, nestedOkB, qubitFree]

/-- … and a measurement calibration with an admitted nested definition: `DEFCAL MEASURE q addr: DEFFRAME 0 "xy"` -/
example : coveredB { cals := [],
                     mcals := [{ identifier := { name := none, qubit := .variable "q", target := some "addr" },
                                 instructions := [.frameDefinition ⟨⟨"xy", [.fixed 0]⟩, []⟩] }] } = true := by
  simp [coveredB, admitMB, plainB, nestedOkB, qubitFree, nestedExprs]

end QV.C17
