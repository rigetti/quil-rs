import QV.Shared.SchedLemmas
import QV.Shared.Chk
import QV.C23.Spec
import QV.C23.Lemmas
import QV.Shared.HandlerLemmas
/-
C23 — Memory accesses are sequentially consistent in the dependency graph.
The supporting invariant (`QInv`, `QInv.step`, `QInv.run`) lives in `QV.Shared.SchedLemmas`, its use on the state of
`build` (`build_facts`) in `QV.Shared.SchedFrames`.
-/
namespace QV.C23
open QV.Sched

/-- **C23, block level.** Whenever `build` succeeds on a block, its graph satisfies the
memory-consistency specification: conflicting accesses to a region are ordered (transitively) by
`AwaitMemoryAccess` edges, and every such edge links a conflicting pair, earlier to later. -/
theorem C23_build_memSpec (b : Block) (es : List Edge) (h : buildBlock b = .ok es) : MemSpec b es := by
  obtain ⟨st, rfl, inv⟩ := build_facts h
  constructor
  · exact (pairwise_of_accLog inv.mem.ordered).imp fun hpq r k1 k2 h1 h2 hc => hpq (r, k1) h1 (r, k2) h2 rfl hc
  · intro e he k hk
    rcases inv.origin e (finish_await he hk) with h1 | ⟨_, _, _, _, rfl⟩ | ⟨_, _, _, _, rfl⟩ | ⟨_, _, rfl⟩
    · -- a memory edge never joins a node to itself, so its source is logged by an earlier item
      obtain ⟨a, d, ha, hne, rfl, hc, ⟨hin, hpos⟩ | hin⟩ := h1.earlier memInit_ok.1 memInit_ok.2
        (items_sorted b) fun _ _ => List.pairwise_of_forall fun _ _ => trivial
      · cases hk
        exact ⟨hpos.resolve_left fun h => hne h.1, a.res, a.kind, mem_accLog.1 hin, mem_accLog.1 ha, hc⟩
      · cases hin
    all_goals cases hk

/-- index form of clause (1): instruction `i` before instruction `j`, both touching region `r`, one of them
writing or capturing — then `j` is reachable from `i` through memory edges. -/
theorem C23_instructions_ordered (b : Block) (es : List Edge) (h : buildBlock b = .ok es)
    (i j : Nat) (hij : i < j) (x y : Instr) (hx : b.instrs[i]? = some x) (hy : b.instrs[j]? = some y)
    (r : Nat) (k1 k2 : Kind) (h1 : (r, k1) ∈ memAccesses x) (h2 : (r, k2) ∈ memAccesses y)
    (hc : Conflict k1 k2) : Reach es isAwait (.instr i) (.instr j) :=
  items_pairwise_index (C23_build_memSpec b es h).ordered hij hx hy r k1 k2 h1 h2 hc

/-- the block terminator is ordered after every body instruction that conflicts with it on a region
(`JUMP-WHEN`/`JUMP-UNLESS` read their condition) -/
theorem C23_terminator_ordered (b : Block) (es : List Edge) (h : buildBlock b = .ok es)
    (p : Node × Instr) (hp : p ∈ enumFrom 0 b.instrs) (t : Instr) (ht : b.term = some t)
    (r : Nat) (k1 k2 : Kind) (h1 : (r, k1) ∈ memAccesses p.2) (h2 : (r, k2) ∈ memAccesses t)
    (hc : Conflict k1 k2) : Reach es isAwait p.1 .stop := by
  have hspec := (C23_build_memSpec b es h).ordered
  unfold Block.items at hspec
  rw [ht] at hspec
  exact (List.pairwise_append.1 hspec).2.2 p hp (.stop, t) (by simp) r k1 k2 h1 h2 hc

/-- **C23, last clause (per region, see DESIGN.md §7).** In any graph satisfying the specification, let `u`
be a node that does not write/capture region `r`, and suppose no node positioned from `u` to `v` writes or
captures `r`.  Then no path made of memory edges that `r` justifies leads from `u` to a different node `v`:
two reads with no write between them are not ordered on account of that region. -/
theorem C23_reads_unordered (b : Block) (es : List Edge) (hs : MemSpec b es) (r : Nat) (u v : Node)
    (hne : u ≠ v)
    (hbetween : ∀ x k, Touches b x r k → u.pos b.instrs.length ≤ x.pos b.instrs.length →
      x.pos b.instrs.length ≤ v.pos b.instrs.length → k = .read) :
    ¬ ReachVia es (JustBy b r) u v :=
  ReachVia.not_between_reads (T := fun x k => Touches b x r k)
    (fun e he ⟨k, k2, hk, t1, t2, hc⟩ => ⟨(hs.justified e he k hk).1, k, k2, t1, t2, hc⟩) hne hbetween

private theorem orderedB_sound (fuel : Nat) (es : List Edge) : ∀ (items : List (Node × Instr)),
    orderedB fuel es items = true →
    items.Pairwise fun p q => ∀ r k1 k2, (r, k1) ∈ memAccesses p.2 → (r, k2) ∈ memAccesses q.2 →
      Conflict k1 k2 → Reach es isAwait p.1 q.1 :=
  pairwise_of_checkB (fun _ _ => rfl) fun p q h r k1 k2 h1 h2 hc => by
    simp only [List.all_eq_true] at h
    exact reachFrom_sound (Chk.guard_iff.1 (h (r, k1) h1 (r, k2) h2) (conflictB_iff.2 ⟨rfl, hc⟩))

private theorem mem_accessesOf {b : Block} {x : Node} {a : Nat × Kind} (h : a ∈ accessesOf b x) :
    Touches b x a.1 a.2 := by
  simp only [accessesOf, List.mem_flatMap] at h
  obtain ⟨p, hp, hin⟩ := h
  split at hin
  · rename_i hpx
    exact ⟨p.2, hpx ▸ hp, hin⟩
  · simp at hin

theorem C23_checker_sound (b : Block) (es : List Edge) (h : memSpecB b es = true) : MemSpec b es := by
  simp only [memSpecB, Bool.and_eq_true] at h
  refine ⟨orderedB_sound _ _ _ h.1, ?_⟩
  intro e he k hk
  have := h.2
  simp only [justifiedB, List.all_eq_true] at this
  have := this e he
  rw [hk] at this
  simp only [Bool.and_eq_true, decide_eq_true_eq, List.any_eq_true, Bool.or_eq_true] at this
  obtain ⟨hlt, a, ha, hak, c, hc, hca, hconf⟩ := this
  exact ⟨hlt, a.1, c.2, hak ▸ mem_accessesOf ha, hca ▸ mem_accessesOf hc, hconf⟩

private theorem historyEdges_eq (m : QMap) : ∀ (h : List Access),
    historyEdges m h = depsEdges h (runHistory m h).2 := by
  intro h
  induction h generalizing m with
  | nil => rfl
  | cons a rest ih => simp [historyEdges, runHistory, depsEdges, ih]

private theorem history_justified (init : Queue) : ∀ (h : List Access) (m : QMap) (pre : List Access),
    QInv init m (fun _ _ => True) pre → DepsJustified init pre h (runHistory m h).2 := by
  intro h
  induction h with
  | nil => intro m pre _; simp [runHistory, DepsJustified]
  | cons a rest ih =>
    intro m pre hq
    simp only [runHistory, DepsJustified]
    refine ⟨?_, ih _ _ ?_⟩
    · intro d hd
      have := hq.deps_justified a.res a.node a.kind d hd
      exact ⟨this.1, this.2.symm⟩
    · exact hq.step a.res a.node a.kind (fun _ => trivial) (fun _ _ _ _ _ => trivial) fun _ _ => trivial

/-- **C23, queue level.** Driving a fresh map of memory queues with a history `h` reports dependencies such that
(1) every two accesses of the history to the same region of which one is a write/capture are ordered by the induced
edges and (2) every reported dependency is an earlier conflicting access to the same region. -/
theorem C23_history (h : List Access) :
    HistSpec Queue.memInit h (runHistory (QMap.empty Queue.memInit) h).2 := by
  constructor
  · exact (history_qinv (C := anyLabel) memInit_ok.1 memInit_ok.2 (fun _ => rfl) (fun _ _ h => h) fun e he => by
      rw [← historyEdges_eq]; exact mem_historyEdges.2 he).ordered
  · exact history_justified _ h _ [] (QInv.empty _ memInit_ok.1 memInit_ok.2 _)

private theorem histOrderedB_sound (fuel : Nat) (es : List Edge) : ∀ (h : List Access),
    histOrderedB fuel es h = true →
    h.Pairwise fun a c => a.res = c.res → Conflict a.kind c.kind → Reach es anyLabel a.node c.node :=
  pairwise_of_checkB (fun _ _ => rfl) fun _ _ h hres hconf =>
    reachFrom_sound (Chk.guard_iff.1 h (conflictB_iff.2 ⟨hres, hconf⟩))

private theorem depsJustifiedB_sound (init : Queue) : ∀ (h : List Access) (pre : List Access)
    (dss : List (List Dep)), depsJustifiedB init pre h dss = true → DepsJustified init pre h dss := by
  intro h
  induction h with
  | nil => intro pre dss hb; cases dss <;> simp_all [depsJustifiedB, DepsJustified]
  | cons a rest ih =>
    intro pre dss hb
    cases dss with
    | nil => simp [depsJustifiedB] at hb
    | cons ds dss =>
      simp only [depsJustifiedB, Bool.and_eq_true, List.all_eq_true, Bool.or_eq_true,
        decide_eq_true_eq] at hb
      exact ⟨fun d hd => ⟨(hb.1 d hd).1, (hb.1 d hd).2⟩, ih _ _ hb.2⟩

theorem C23_history_checker_sound (init : Queue) (h : List Access) (dss : List (List Dep))
    (hb : histSpecB init h dss = true) : HistSpec init h dss := by
  simp only [histSpecB, Bool.and_eq_true] at hb
  exact ⟨histOrderedB_sound _ _ _ hb.1, depsJustifiedB_sound _ _ _ _ hb.2⟩

/-- **C23, queue level, exact.** At every step of any history the memory queue reports *exactly*:
the most recent earlier write/capture of the region (nothing if there is none), plus — when the access is
itself a write or capture — every read of the region since that write. In particular reads never depend on
reads, and nothing older than the last write is ever reported. (Independent specification: `IsLastWrite`,
`ReadSince` are stated by list decomposition, not by running a queue.) -/
theorem C23_history_exact (h : List Access) :
    AllExact Queue.memInit [] h (runHistory (QMap.empty Queue.memInit) h).2 :=
  history_exact _ h _ [] (Exact.empty _ rfl)

/-! ### Composition with C27: the memory clause over the SPECIFICATION of what an instruction accesses

`HandlerFromAst.answersOf` computes the default handler's answers from the shared full AST through C27's proved
model of `memory_accesses`; `AccessesA p i r k` is C27's specification (`Reads` / `Writes` / `Captures` of the
projected instruction) for the region NAMED `r`.  Nothing about the handler is assumed. -/

open QV.HandlerFromAst in
/-- the memory clause of C23 for a block of an AST program, with access sets given by C27's specification -/
structure AstMemSpec (p : AProgram) (ab : ABlock) (es : List Edge) : Prop where
  /-- of two instructions in block order that C27's specification says access one region, one of them writing or
  capturing it, the later is reachable from the earlier through `AwaitMemoryAccess` edges -/
  ordered : ab.items.Pairwise fun x y => ∀ r k1 k2, AccessesA p x.2 r k1 → AccessesA p y.2 r k2 →
    Conflict k1 k2 → Reach es isAwait x.1 y.1
  /-- every `AwaitMemoryAccess(k)` edge goes forward and joins two instructions of which the specification says:
  the source performs `k` on some region, the target accesses the same region, and the two conflict -/
  justified : ∀ e ∈ es, ∀ k, e.label = .await k →
    e.src.pos ab.instrs.length < e.dst.pos ab.instrs.length ∧
    ∃ r k2 i j, (e.src, i) ∈ ab.items ∧ (e.dst, j) ∈ ab.items ∧ AccessesA p i r k ∧ AccessesA p j r k2 ∧
      Conflict k k2

open QV.HandlerFromAst in
private theorem touches_region_ast {p : AProgram} {ab : ABlock} (hab : ab ∈ astBlocks p)
    (hok : ∀ q ∈ (schedBlock p ab).items, q.2.memErr = false) {x : Node} {rid : Nat} {k : Kind}
    (h : Touches (schedBlock p ab) x rid k) :
    ∃ r i, rid = regionId p r ∧ r ∈ regionUniverse p ∧ (x, i) ∈ ab.items ∧ AccessesA p i r k := by
  obtain ⟨ins, hi, hm⟩ := h
  obtain ⟨i, hxi, rfl⟩ := mem_schedBlock_items.1 hi
  have hoki := hok _ hi
  obtain ⟨r, hr, hacc⟩ := (mem_memAccesses_answers p i (rid, k) hoki).1 hm
  exact ⟨r, i, hr, mem_universe p ab hab i (mem_items_all hxi) hoki r k hacc, hxi, hacc⟩

open QV.HandlerFromAst in
/-- **C23 ∘ C27 (every AST program, every block).** For any program given as the list of instructions added to it
(plus its extern signature map), any basic block C28's model of the CFG yields, and the graph `build` produces
from the default handler's answers COMPUTED from the AST: the memory clause holds with "reads / writes /
captures region r" meaning C27's specification of the instruction. -/
theorem C23_ast_memSpec (p : AProgram) (ab : ABlock) (hab : ab ∈ astBlocks p) (es : List Edge)
    (h : buildBlock (schedBlock p ab) = .ok es) : AstMemSpec p ab es := by
  have hspec := C23_build_memSpec _ es h
  obtain ⟨_, -, inv⟩ := build_facts h
  have hok : ∀ q ∈ (schedBlock p ab).items, q.2.memErr = false := fun q hq => (inv.roles q hq).1
  have toMem : ∀ x ∈ ab.items, ∀ r k, AccessesA p x.2 r k → (regionId p r, k) ∈ memAccesses (answersOf p x.2) :=
    fun x hx r k hacc => (mem_memAccesses_answers p x.2 _
      (hok (x.1, answersOf p x.2) (mem_schedBlock_items.2 ⟨x.2, hx, rfl⟩))).2 ⟨r, rfl, hacc⟩
  constructor
  · have ho := hspec.ordered
    rw [schedBlock_items, List.pairwise_map] at ho
    refine ho.imp_of_mem ?_
    intro x y hx hy hxy r k1 k2 h1 h2 hc
    exact hxy (regionId p r) k1 k2 (toMem x hx r k1 h1) (toMem y hy r k2 h2) hc
  · intro e he k hk
    obtain ⟨hpos, rid, k2, t1, t2, hc⟩ := hspec.justified e he k hk
    obtain ⟨r, i, hr, hu, hi, h1⟩ := touches_region_ast hab hok t1
    obtain ⟨r', j, hr', hu', hj, h2⟩ := touches_region_ast hab hok t2
    obtain rfl : r = r' := indexIn_inj _ r r' hu hu' (hr.symm.trans hr')
    refine ⟨?_, r, k2, i, j, hi, hj, h1, h2, hc⟩
    exact schedBlock_length p ab ▸ hpos

/-- read a; write a (by an instruction that also reads a); read a and b; capture a; read b; the terminator reads a -/
private def exBlock : Block :=
  { instrs := [
      ⟨.classical, false, false, [0], [], [], none⟩,
      ⟨.classical, false, false, [0], [0], [], none⟩,
      ⟨.classical, false, false, [0, 1], [], [], none⟩,
      ⟨.rf, true, false, [], [], [0], some ([0], [])⟩,
      ⟨.classical, false, false, [1], [], [], none⟩],
    term := some ⟨.controlFlow, false, false, [0], [], [], none⟩ }

example : ∃ es, buildBlock exBlock = .ok es ∧ memSpecB exBlock es = true ∧
    (⟨.instr 0, .instr 1, .await .read⟩ : Edge) ∈ es ∧ (⟨.instr 3, .stop, .await .capture⟩ : Edge) ∈ es :=
  ⟨_, rfl, by decide +kernel, by decide +kernel, by decide +kernel⟩

/-- the checker is not trivially true: dropping the edge 1 → 2 (write then read) is rejected -/
example : ∃ es, buildBlock exBlock = .ok es ∧
    memSpecB exBlock (es.filter fun e => e ≠ ⟨.instr 1, .instr 2, .await .write⟩) = false :=
  ⟨_, rfl, by decide +kernel⟩

/-- … and so is an extra read → read edge -/
example : ∃ es, buildBlock exBlock = .ok es ∧
    memSpecB exBlock (⟨.instr 2, .instr 4, .await .read⟩ :: es) = false :=
  ⟨_, rfl, by decide +kernel⟩

example : histSpecB Queue.memInit
    [⟨.instr 0, 0, .read⟩, ⟨.instr 1, 0, .read⟩, ⟨.instr 1, 0, .write⟩, ⟨.instr 2, 0, .read⟩]
    (runHistory (QMap.empty Queue.memInit)
      [⟨.instr 0, 0, .read⟩, ⟨.instr 1, 0, .read⟩, ⟨.instr 1, 0, .write⟩, ⟨.instr 2, 0, .read⟩]).2 = true := by
  decide +kernel

end QV.C23
