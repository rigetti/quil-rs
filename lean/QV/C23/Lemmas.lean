import QV.Shared.SchedLemmas
import QV.C23.Spec
/-! `Exact`: along any history a map of queues holds, per resource, exactly the last writer and the reads since.
`ReachVia.not_between_reads` is the last clause of C23 and of C24. -/
namespace QV.C23
open QV.Sched

theorem split_snoc {α : Type} (pre log post : List α) (a x : α) (h : log ++ [a] = pre ++ x :: post) :
    (post = [] ∧ pre = log ∧ x = a) ∨ ∃ post', post = post' ++ [a] ∧ log = pre ++ x :: post' := by
  rcases List.eq_nil_or_concat post with rfl | ⟨post', b, rfl⟩
  · obtain ⟨h1, h2⟩ := List.append_inj' h rfl
    exact .inl ⟨rfl, h1.symm, (List.singleton_inj.1 h2).symm⟩
  · rw [List.concat_eq_append, ← List.cons_append, ← List.append_assoc] at h
    obtain ⟨h1, h2⟩ := List.append_inj' h rfl
    obtain rfl := List.singleton_inj.1 h2
    exact .inr ⟨post', List.concat_eq_append, h1⟩

theorem noWriteOn_snoc {r : Nat} {log : List Access} {a : Access} :
    NoWriteOn r (log ++ [a]) ↔ NoWriteOn r log ∧ (a.res = r → a.kind.isWrite = false) := by
  simp only [NoWriteOn, List.mem_append, List.mem_singleton]
  exact ⟨fun h => ⟨fun c hc => h c (.inl hc), h a (.inr rfl)⟩,
    fun ⟨h1, h2⟩ c hc => hc.elim (h1 c) fun e => e ▸ h2⟩

/-- what `IsLastWrite` and `ReadSince` share: `IsLastWrite log r d` is `Since` of the write `d` to `r` (and `d` is a
write), `ReadSince log r n` is `Since` of the read of `r` by `n`, both by unfolding -/
def Since (log : List Access) (r : Nat) (c : Access) : Prop :=
  ∃ pre post, log = pre ++ c :: post ∧ NoWriteOn r post

theorem since_snoc {log : List Access} {a c : Access} {r : Nat} :
    Since (log ++ [a]) r c ↔ c = a ∨ (Since log r c ∧ (a.res = r → a.kind.isWrite = false)) := by
  constructor
  · rintro ⟨pre, post, heq, hnw⟩
    rcases split_snoc pre log post a c heq with ⟨_, _, h3⟩ | ⟨post', h1, h2⟩
    · exact .inl h3
    · rw [h1, noWriteOn_snoc] at hnw
      exact .inr ⟨⟨pre, post', h2, hnw.1⟩, hnw.2⟩
  · rintro (rfl | ⟨⟨pre, post, heq, hnw⟩, ha⟩)
    · exact ⟨log, [], rfl, fun _ h => nomatch h⟩
    · exact ⟨pre, post ++ [a], by rw [heq, List.append_assoc, List.cons_append], noWriteOn_snoc.2 ⟨hnw, ha⟩⟩

theorem isLastWrite_snoc {log : List Access} {a : Access} {r : Nat} {d : Dep} :
    IsLastWrite (log ++ [a]) r d ↔ (a.res = r ∧ a.kind.isWrite = true ∧ d = ⟨a.kind, a.node⟩) ∨
      (IsLastWrite log r d ∧ (a.res = r → a.kind.isWrite = false)) := by
  show d.kind.isWrite = true ∧ Since (log ++ [a]) r _ ↔ _ ∨ ((d.kind.isWrite = true ∧ Since log r _) ∧ _)
  rw [since_snoc]
  constructor
  · rintro ⟨hk, rfl | hs⟩
    · exact .inl ⟨rfl, hk, rfl⟩
    · exact .inr ⟨⟨hk, hs.1⟩, hs.2⟩
  · rintro (⟨rfl, hk, rfl⟩ | ⟨⟨hk, hs⟩, ha⟩)
    · exact ⟨hk, .inl rfl⟩
    · exact ⟨hk, .inr ⟨hs, ha⟩⟩

theorem readSince_snoc {log : List Access} {a : Access} {r : Nat} {x : Node} :
    ReadSince (log ++ [a]) r x ↔ (a.res = r ∧ a.kind = .read ∧ x = a.node) ∨
      (ReadSince log r x ∧ (a.res = r → a.kind.isWrite = false)) := by
  show Since (log ++ [a]) r _ ↔ _ ∨ (Since log r _ ∧ _)
  rw [since_snoc]
  refine or_congr_left ⟨?_, ?_⟩
  · rintro rfl
    exact ⟨rfl, rfl, rfl⟩
  · rintro ⟨rfl, hk, rfl⟩
    rw [← hk]

structure Exact (init : Queue) (m : QMap) (log : List Access) : Prop where
  wr : ∀ r d, (m.get r).write = some d ↔ (IsLastWrite log r d ∨ (init.write = some d ∧ NoWriteOn r log))
  rd : ∀ r n, n ∈ (m.get r).reads ↔ ReadSince log r n

theorem Exact.empty (init : Queue) (hi : init.reads = []) : Exact init (QMap.empty init) [] where
  wr := by
    intro r d
    simp only [QMap.empty]
    constructor
    · intro h; exact .inr ⟨h, by simp [NoWriteOn]⟩
    · rintro (⟨_, pre, post, h, _⟩ | ⟨h, _⟩)
      · cases pre <;> simp at h
      · exact h
  rd := by
    intro r n
    simp only [QMap.empty, hi, List.not_mem_nil, false_iff]
    rintro ⟨pre, post, h, _⟩
    cases pre <;> simp at h

theorem Exact.step {init : Queue} {m : QMap} {log : List Access} (h : Exact init m log) (a : Access) :
    Exact init (m.record a.res a.node a.kind).1 (log ++ [a]) := by
  constructor
  · intro r d
    rw [isLastWrite_snoc, noWriteOn_snoc, QMap.record_get]
    by_cases hr : r = a.res
    · subst hr
      rw [if_pos rfl, Queue.record_write]
      -- a write becomes the writer, and it is the last write of the longer log; a read leaves both as they were
      by_cases hw : a.kind.isWrite = true
      · rw [if_pos hw]
        simp [hw, eq_comm]
      · rw [if_neg hw, h.wr]
        simp [hw]
    · have hr' : ¬ a.res = r := fun e => hr e.symm
      simp only [if_neg hr, hr', false_and, false_or, false_implies, and_true, h.wr]
  · intro r n
    rw [readSince_snoc, QMap.record_get]
    by_cases hr : r = a.res
    · subst hr
      rw [if_pos rfl, Queue.mem_record_reads, h.rd]
      -- a read joins the pending reads, as a read since the last write; a write empties them, and no read is since it
      by_cases hk : a.kind = .read
      · simp [hk, Kind.isWrite, or_comm]
      · have hw : a.kind.isWrite = true := Decidable.byContradiction fun h => hk (Kind.eq_read_of_not_isWrite h)
        simp [hk, hw]
    · have hr' : ¬ a.res = r := fun e => hr e.symm
      simp only [if_neg hr, hr', false_and, false_or, false_implies, and_true, h.rd]

theorem Exact.deps {init : Queue} {m : QMap} {log : List Access} (h : Exact init m log) (a : Access) :
    ExactDeps init log a (m.record a.res a.node a.kind).2 := by
  intro d
  rw [QMap.record_deps, Queue.mem_record_deps, h.wr, h.rd]

theorem history_exact (init : Queue) : ∀ (h : List Access) (m : QMap) (pre : List Access),
    Exact init m pre → AllExact init pre h (runHistory m h).2 := by
  intro h
  induction h with
  | nil => intro m pre _; simp [runHistory, AllExact]
  | cons a rest ih =>
    intro m pre hq
    simp only [runHistory, AllExact]
    exact ⟨hq.deps a, ih _ _ (hq.step a)⟩

theorem ReachVia.measure_le {E : List Edge} {P : Edge → Prop} (μ : Node → Nat)
    (hμ : ∀ e ∈ E, P e → μ e.src < μ e.dst) {u v : Node} (h : ReachVia E P u v) : u = v ∨ μ u < μ v := by
  induction h with
  | refl => exact .inl rfl
  | step _ he hp ih =>
    rcases ih with rfl | ih
    · exact .inr (hμ _ he hp)
    · exact .inr (Nat.lt_trans ih (hμ _ he hp))

theorem ReachVia.head {E : List Edge} {P : Edge → Prop} {u v : Node} (h : ReachVia E P u v) :
    u = v ∨ ∃ e ∈ E, P e ∧ e.src = u ∧ ReachVia E P e.dst v := by
  induction h with
  | refl => exact .inl rfl
  | @step e' _ he hp ih =>
    rcases ih with rfl | ⟨e, he', hpe, hs, hr⟩
    · exact .inr ⟨e', he, hp, rfl, .refl _⟩
    · exact .inr ⟨e, he', hpe, hs, .step hr he hp⟩

theorem ReachVia.blocked {E : List Edge} {P : Edge → Prop} (μ : Node → Nat)
    (hμ : ∀ e ∈ E, P e → μ e.src < μ e.dst) {u v : Node} (hne : u ≠ v)
    (hno : ∀ e ∈ E, P e → e.src = u → μ e.dst ≤ μ v → False) : ¬ ReachVia E P u v := by
  intro hreach
  rcases ReachVia.head hreach with h | ⟨e, he, hp, hsrc, hrest⟩
  · exact hne h
  · refine hno e he hp hsrc ?_
    rcases ReachVia.measure_le μ hμ hrest with h | h
    · exact h ▸ Nat.le_refl _
    · exact Nat.le_of_lt h

/-- **The last clauses of C23 and C24.** Let every `P`-edge go up in `μ` and join two nodes that touch the resource
(`T`) in conflicting ways. If everything that touches it between `u` and `v` only reads, no path of `P`-edges leads
from `u` to a different node `v`: its first edge would join two reads. -/
theorem ReachVia.not_between_reads {E : List Edge} {P : Edge → Prop} {μ : Node → Nat} {T : Node → Kind → Prop}
    (hP : ∀ e ∈ E, P e → μ e.src < μ e.dst ∧ ∃ k1 k2, T e.src k1 ∧ T e.dst k2 ∧ Conflict k1 k2) {u v : Node}
    (hne : u ≠ v) (hbetween : ∀ x k, T x k → μ u ≤ μ x → μ x ≤ μ v → k = .read) : ¬ ReachVia E P u v := by
  refine ReachVia.blocked μ (fun e he hp => (hP e he hp).1) hne ?_
  intro e he hp hsrc hle
  obtain ⟨hlt, k1, k2, t1, t2, hc⟩ := hP e he hp
  rw [hsrc] at t1 hlt
  obtain rfl : k1 = .read := hbetween u k1 t1 (Nat.le_refl _) (Nat.le_trans (Nat.le_of_lt hlt) hle)
  obtain rfl : k2 = .read := hbetween e.dst k2 t2 (Nat.le_of_lt hlt) hle
  exact hc.elim (fun h => nomatch h) (fun h => nomatch h)

end QV.C23
