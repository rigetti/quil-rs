import QV.C20.Invocation
import QV.C21.Spec
/-! C21 lemmas: forgetting the map of the source-map run gives the plain run (`expandMapWith_dropMap`); the map a run
returns is faithful (`expandMapWith_mapOK`) and what a faithful map says of its `j`-th entry (`mapOK_getElem`); the
checker against `MapOK` in both directions; a tiling has exactly one entry containing a given target index. -/
namespace QV.C21
open QV QV.C20
variable {K : Type}

def dropMap {α β : Type} : Outcome (α × β) → Outcome α
  | .ok (a, _) => .ok a
  | .err e => .err e
  | .outOfFuel => .outOfFuel

theorem expandMapWith_dropMap (defs : List (Def K)) (sel : String → Bool)
    (nested : List String → List (Instr K) → Outcome (List (Instr K) × List Entry))
    (nested' : List String → List (Instr K) → Outcome (List (Instr K)))
    (H : ∀ st b, dropMap (nested st b) = nested' st b)
    (stack : List String) (k off : Nat) (src : List (Instr K)) :
    dropMap (expandMapWith defs sel nested stack k off src) = expandWith defs sel nested' stack src := by
  induction src generalizing k off with
  | nil => rfl
  | cons i rest ih =>
    simp only [expandMapWith, expandWith]
    cases gateSequenceFromInstruction defs sel i stack with
    | error e => rfl
    | ok o =>
      cases o with
      | none =>
        simp only [← ih (k + 1) (off + 1)]
        cases expandMapWith defs sel nested stack (k + 1) (off + 1) rest <;> rfl
      | some p =>
        simp only [← H (stack ++ [p.2]) p.1]
        cases nested (stack ++ [p.2]) p.1 with
        | ok q =>
          simp only [dropMap, ← ih (k + 1) (off + q.1.length)]
          cases expandMapWith defs sel nested stack (k + 1) (off + q.1.length) rest <;> rfl
        | err e => rfl
        | outOfFuel => rfl

theorem expandMapWith_mapOK (defs : List (Def K)) (sel : String → Bool)
    (nested : List String → List (Instr K) → Outcome (List (Instr K) × List Entry))
    (stack : List String)
    (H : ∀ name body b nm, nested (stack ++ [name]) body = .ok (b, nm) → MapOK defs sel 0 0 body b nm)
    (k off : Nat) (src out : List (Instr K)) (m : List Entry)
    (h : expandMapWith defs sel nested stack k off src = .ok (out, m)) :
    MapOK defs sel k off src out m := by
  induction src generalizing k off out m with
  | nil => cases h; exact .nil _ _
  | cons i rest ih =>
    simp only [expandMapWith] at h
    split at h
    · cases h
    · next hg =>
      split at h
      · next r m' hr => cases h; exact .keep (gsfi_none_iff.1 hg) (ih _ _ _ _ hr)
      · next hne => exact absurd h (hne _ _)
    · next body' name hg =>
      obtain ⟨g, d, body, rfl, hsel, hm, _, hinst, rfl, rfl⟩ := gsfi_some_iff.1 hg
      split at h
      · next b nm hb =>
        split at h
        · next r m' hr => cases h; exact .unfold hsel hm hinst (H _ _ _ _ hb) (ih _ _ _ _ hr)
        · next hne => exact absurd h (hne _ _)
      · cases h
      · cases h

theorem expandMapFuel_mapOK (defs : List (Def K)) (sel : String → Bool) (fuel : Nat)
    (stack : List String) (src out : List (Instr K)) (m : List Entry)
    (h : expandMapFuel defs sel fuel stack src = .ok (out, m)) : MapOK defs sel 0 0 src out m := by
  induction fuel generalizing stack src out m with
  | zero => simp [expandMapFuel] at h
  | succ n ih =>
    simp only [expandMapFuel] at h
    exact expandMapWith_mapOK defs sel _ stack (fun name body b nm hb => ih _ _ _ _ hb) 0 0 src out m h

theorem mapOK_getElem {defs : List (Def K)} {sel : String → Bool} {k off : Nat} {src out : List (Instr K)}
    {m : List Entry} (h : MapOK defs sel k off src out m) (j : Nat) (e : Entry) (hj : m[j]? = some e) :
    off ≤ e.lo ∧ e.hi ≤ off + out.length ∧
      ∃ i, src[j]? = some i ∧
        EntryOK defs sel e (k + j) e.lo i ((out.drop (e.lo - off)).take (e.hi - e.lo)) := by
  induction h generalizing j with
  | nil => simp at hj
  | @keep k off i rest out m hn _ ih =>
    cases j with
    | zero =>
      cases Option.some.inj hj
      exact ⟨Nat.le_refl _, by simp [Entry.hi], i, rfl, by simpa [Entry.lo, Entry.hi] using .unmodified hn⟩
    | succ j =>
      obtain ⟨h1, h2, i', h3, h4⟩ := ih j hj
      refine ⟨by omega, by simp; omega, i', h3, ?_⟩
      rw [show e.lo - off = (e.lo - (off + 1)) + 1 by omega, List.drop_succ_cons,
        show k + (j + 1) = k + 1 + j by omega]
      exact h4
  | @unfold k off g d body b nm rest out m hsel hm hinst hb _ _ ih =>
    cases j with
    | zero =>
      cases Option.some.inj hj
      exact ⟨Nat.le_refl _, by simp [Entry.hi], _, rfl,
        by simpa [Entry.lo, Entry.hi] using .rewritten hsel hm hinst hb⟩
    | succ j =>
      obtain ⟨h1, h2, i', h3, h4⟩ := ih j hj
      refine ⟨by omega, by simp; omega, i', h3, ?_⟩
      rw [List.drop_append, List.drop_eq_nil_of_le (by omega), List.nil_append,
        show e.lo - off - b.length = e.lo - (off + b.length) by omega,
        show k + (j + 1) = k + 1 + j by omega]
      exact h4

theorem notSelected_iff (defs : List (Def K)) (sel : String → Bool) (i : Instr K) :
    notSelected defs sel i = true ↔ ¬ IsSelectedInvocation defs sel i := by
  rw [← gsfi_none_iff (stack := [])]
  unfold notSelected
  split <;> simp_all

theorem unfold?_some_iff (defs : List (Def K)) (sel : String → Bool) (i : Instr K)
    (body' : List (Instr K)) (name : String) :
    unfold? defs sel i = some (body', name) ↔
      ∃ g d body, i = .gate g ∧ Selected defs sel g d ∧ g.mods = [] ∧ Instantiates d g body ∧
        body' = body.map Instr.gate ∧ name = d.name := by
  have := gsfi_some_iff (defs := defs) (sel := sel) (i := i) (stack := []) (body' := body') (name := name)
  simp only [List.not_mem_nil, not_false_eq_true, true_and] at this
  rw [← this]
  unfold unfold?
  split
  · rename_i p hp; simp [hp]
  · rename_i hn
    constructor
    · intro h; cases h
    · intro h; exact absurd h (hn _)

theorem mapOK_cons {defs : List (Def K)} {sel : String → Bool} {k off : Nat} {i : Instr K}
    {rest chunk out' : List (Instr K)} {e : Entry} {m : List Entry} (he : EntryOK defs sel e k off i chunk)
    (hrest : MapOK defs sel (k + 1) (off + chunk.length) rest out' m) :
    MapOK defs sel k off (i :: rest) (chunk ++ out') (e :: m) := by
  cases he with
  | unmodified hn => exact .keep hn hrest
  | rewritten hsel hm hinst hb => exact .unfold hsel hm hinst hb hrest

theorem checkMap_sound [DecidableEq K] (defs : List (Def K)) (sel : String → Bool) (m : List Entry) (k off : Nat)
    (src out : List (Instr K)) (h : checkMap defs sel m k off src out = true) :
    MapOK defs sel k off src out m := by
  revert h
  -- the arms of the mutual recursion: an unmodified entry, a rewritten entry, the empty map, a map with a first
  -- entry, and the remaining (mismatched) shapes
  apply checkMap.induct (K := K)
    (motive_1 := fun e k off i chunk => checkEntry defs sel e k off i chunk = true → EntryOK defs sel e k off i chunk)
    (motive_2 := fun m k off src out => checkMap defs sel m k off src out = true → MapOK defs sel k off src out m)
  · intro s idx k off i chunk h
    simp only [checkEntry, Bool.and_eq_true, beq_iff_eq, decide_eq_true_eq] at h
    obtain ⟨⟨⟨h1, h2⟩, h3⟩, h4⟩ := h
    subst h1; subst h2; subst h4
    exact .unmodified ((notSelected_iff _ _ _).1 h3)
  · intro s name start stop nested k off i chunk ih h
    simp only [checkEntry, Bool.and_eq_true, beq_iff_eq] at h
    obtain ⟨⟨⟨h1, h2⟩, h3⟩, h4⟩ := h
    subst h1; subst h2; subst h3
    split at h4
    · rename_i body nm hu
      simp only [Bool.and_eq_true, beq_iff_eq] at h4
      obtain ⟨h5, h6⟩ := h4
      subst h5
      obtain ⟨g, d, body0, hi, hsel, hm, hinst, hb, hn⟩ := (unfold?_some_iff _ _ _ _ _).1 hu
      subst hi; subst hb; subst hn
      exact .rewritten hsel hm hinst (ih _ h6)
    · cases h4
  · intro k off _
    exact .nil _ _
  · intro e m k off i rest out ih1 ih2 h
    simp only [checkMap, Bool.and_eq_true, decide_eq_true_eq] at h
    obtain ⟨⟨⟨h1, h2⟩, h3⟩, h4⟩ := h
    have hl : (out.take (e.hi - e.lo)).length = e.hi - e.lo := by rw [List.length_take]; omega
    rw [← List.take_append_drop (e.hi - e.lo) out]
    exact mapOK_cons (ih1 h3) (hl.symm ▸ ih2 h4)
  · intro t k off src out h1 h2 h
    rw [checkMap.eq_def] at h
    split at h
    · exact (h1 rfl rfl rfl).elim
    · exact (h2 _ _ _ _ rfl rfl).elim
    · cases h

theorem checkEntry_complete [DecidableEq K] (defs : List (Def K)) (sel : String → Bool)
    (hrec : ∀ body b nm, MapOK defs sel 0 0 body b nm → checkMap defs sel nm 0 0 body b = true)
    {e : Entry} {k off : Nat} {i : Instr K} {chunk : List (Instr K)} (h : EntryOK defs sel e k off i chunk) :
    checkEntry defs sel e k off i chunk = true := by
  cases h with
  | unmodified hn => simp [checkEntry, (notSelected_iff _ _ _).2 hn]
  | @rewritten _ _ g d body b nm hsel hm hinst hb =>
    have hu := (unfold?_some_iff defs sel (.gate g) (body.map Instr.gate) d.name).2
      ⟨g, d, body, rfl, hsel, hm, hinst, rfl, rfl⟩
    simp [checkEntry, hu, hrec _ _ _ hb]

theorem entryOK_width {defs : List (Def K)} {sel : String → Bool} {e : Entry} {k off : Nat} {i : Instr K}
    {chunk : List (Instr K)} (h : EntryOK defs sel e k off i chunk) :
    e.lo ≤ e.hi ∧ e.hi - e.lo = chunk.length := by
  cases h with
  | unmodified _ => simp [Entry.lo, Entry.hi]
  | rewritten _ _ _ _ => simp [Entry.lo, Entry.hi]

theorem checkMap_complete [DecidableEq K] (defs : List (Def K)) (sel : String → Bool) (m : List Entry) (k off : Nat)
    (src out : List (Instr K)) (h : MapOK defs sel k off src out m) :
    checkMap defs sel m k off src out = true := by
  induction h with
  | nil => simp [checkMap]
  | @keep k off i rest out m hn _ ih =>
    simp [checkMap, Entry.lo, Entry.hi, checkEntry, (notSelected_iff _ _ _).2 hn, ih]
  | @unfold k off g d body b nm rest out m hsel hm hinst hb _ ih1 ih2 =>
    have hu := (unfold?_some_iff defs sel (.gate g) (body.map Instr.gate) d.name).2
      ⟨g, d, body, rfl, hsel, hm, hinst, rfl, rfl⟩
    have e : off + b.length - off = b.length := by omega
    simp [checkMap, Entry.lo, Entry.hi, checkEntry, hu, e, ih1, ih2]

theorem mapOK_unique {defs : List (Def K)} {sel : String → Bool} {k off : Nat} {src o1 o2 : List (Instr K)}
    {m1 m2 : List Entry} (h1 : MapOK defs sel k off src o1 m1) (h2 : MapOK defs sel k off src o2 m2) :
    o1 = o2 ∧ m1 = m2 := by
  induction h1 generalizing o2 m2 with
  | nil => cases h2; exact ⟨rfl, rfl⟩
  | keep hn _ ih =>
    cases h2 with
    | keep _ h => obtain ⟨e1, e2⟩ := ih h; subst e1; subst e2; exact ⟨rfl, rfl⟩
    | unfold hsel _ _ _ _ => exact absurd ⟨_, _, rfl, hsel⟩ hn
  | unfold hsel _ hinst _ _ ih1 ih2 =>
    cases h2 with
    | keep hn _ => exact absurd ⟨_, _, rfl, hsel⟩ hn
    | unfold hsel' _ hinst' hb hr =>
      cases Selected.unique hsel hsel'
      cases Instantiates.unique hinst hinst'
      obtain ⟨b1, b2⟩ := ih1 hb
      subst b1; subst b2
      obtain ⟨c1, c2⟩ := ih2 hr
      subst c1; subst c2
      exact ⟨rfl, rfl⟩

theorem tiles_lo_ge {off stop : Nat} {m : List Entry} (h : Tiles off m stop) : ∀ x ∈ m, off ≤ x.lo := by
  induction h with
  | nil => simp
  | @cons e m off stop h1 h2 _ ih =>
    intro x hx
    cases hx with
    | head => omega
    | tail _ hx' => have := ih x hx'; omega

theorem tiles_unique_container {off stop : Nat} {m : List Entry} (h : Tiles off m stop) (t : Nat)
    (h1 : off ≤ t) (h2 : t < stop) : ∃ e, m.filter (·.contains t) = [e] := by
  induction h with
  | nil => omega
  | @cons e m off stop hlo hle htl ih =>
    by_cases ht : t < e.hi
    · refine ⟨e, ?_⟩
      have hc : e.contains t = true := by simp [Entry.contains]; omega
      have hrest : m.filter (·.contains t) = [] := by
        rw [List.filter_eq_nil_iff]
        intro x hx
        have := tiles_lo_ge htl x hx
        simp [Entry.contains]; omega
      simp [hc, hrest]
    · have hc : e.contains t = false := by simp [Entry.contains]; omega
      obtain ⟨e', he'⟩ := ih (by omega) h2
      exact ⟨e', by simp [hc, he']⟩

end QV.C21
