import QV.C20.Props
import QV.C21.Lemmas
/-
C21 — The gate-sequence source map matches the expansion.

"Both gate-sequence expansion entry points produce the same program. The source map has exactly one entry
per source body instruction in order, unmodified entries point at identical output instructions, and
rewritten ranges are contiguous and cover exactly the gates the invocation produced. Nested maps describe
the nested expansions relative to their parent range."

Theorems about the models `C21.expandMap` / `C20.expand`, for every list of definitions, filter and body.
-/
namespace QV.C21
open QV QV.C20
variable {K : Type}

/-- **Both entry points compute the same thing**, for every outcome (result, error, and — in the model —
running out of fuel), below any stack and with any fuel: forgetting the source map of
`expand_with_source_map_impl` gives `expand_without_source_map_impl`. -/
theorem C21_same_outcome_general (defs : List (Def K)) (sel : String → Bool) (fuel : Nat)
    (stack : List String) (src : List (Instr K)) :
    dropMap (expandMapFuel defs sel fuel stack src) = expandFuel defs sel fuel stack src := by
  induction fuel generalizing stack src with
  | zero => rfl
  | succ n ih => exact expandMapWith_dropMap defs sel _ _ ih stack 0 0 src

theorem C21_same_outcome (defs : List (Def K)) (sel : String → Bool) (src : List (Instr K)) :
    dropMap (expandMap defs sel src) = expand defs sel src :=
  C21_same_outcome_general defs sel _ [] src

/-- **Both entry points produce the same program** (body and retained definitions) or the same error. -/
theorem C21_same_program (p : Program K) (sel : String → Bool) :
    dropMap (expandProgramWithMap p sel) = expandProgram p sel := by
  unfold expandProgramWithMap expandProgram
  rw [← C21_same_outcome]
  cases expandMap p.defs sel p.body <;> rfl

/-- The source-map variant terminates too. -/
theorem C21_terminates (defs : List (Def K)) (sel : String → Bool) (src : List (Instr K)) :
    expandMap defs sel src ≠ .outOfFuel := by
  intro h
  have := C21_same_outcome defs sel src
  rw [h] at this
  exact C20_terminates defs sel src this.symm

/-- **The returned map is a faithful source map** of "source ↦ returned body" (`MapOK`). -/
theorem C21_map_ok (defs : List (Def K)) (sel : String → Bool) (src out : List (Instr K)) (m : List Entry)
    (h : expandMap defs sel src = .ok (out, m)) : MapOK defs sel 0 0 src out m :=
  expandMapFuel_mapOK defs sel _ [] src out m h

/-- … and it is the only one: whenever the expansion succeeds, the map it returns is *the* faithful map,
and any faithful map of the same source describes the same output. -/
theorem C21_map_unique (defs : List (Def K)) (sel : String → Bool) (src out out' : List (Instr K))
    (m m' : List Entry) (h : expandMap defs sel src = .ok (out, m)) (h' : MapOK defs sel 0 0 src out' m') :
    out' = out ∧ m' = m :=
  mapOK_unique h' (C21_map_ok defs sel src out m h)

/-! The clauses of the statement, as consequences of `MapOK` (for any position `k`, `off`, so they also hold
of every nested map with `k = off = 0`, i.e. relative to its parent's range). -/

/-- **Exactly one entry per source instruction, in order**: the source indices are `k, k+1, …`. -/
theorem C21_sources {defs : List (Def K)} {sel : String → Bool} {k off : Nat} {src out : List (Instr K)}
    {m : List Entry} (h : MapOK defs sel k off src out m) :
    m.map Entry.src = List.range' k src.length := by
  induction h with
  | nil => rfl
  | keep _ _ ih => simp [Entry.src, List.range'_succ, ih]
  | unfold _ _ _ _ _ _ ih => simp [Entry.src, List.range'_succ, ih]

theorem C21_length {defs : List (Def K)} {sel : String → Bool} {k off : Nat} {src out : List (Instr K)}
    {m : List Entry} (h : MapOK defs sel k off src out m) : m.length = src.length := by
  simpa using congrArg List.length (C21_sources h)

/-- **Ranges are contiguous, disjoint and cover the output**: each entry's range starts where the previous
one ended, the first at `off`, the last ends at `off + |out|`. -/
theorem C21_tiles {defs : List (Def K)} {sel : String → Bool} {k off : Nat} {src out : List (Instr K)}
    {m : List Entry} (h : MapOK defs sel k off src out m) : Tiles off m (off + out.length) := by
  induction h with
  | nil => exact .nil _
  | @keep k off i rest out m _ _ ih =>
    refine .cons rfl (by simp [Entry.lo, Entry.hi]) ?_
    rw [show off + (i :: out).length = off + 1 + out.length by simp; omega]
    exact ih
  | @unfold k off g d body b nm rest out m _ _ _ _ _ _ ih =>
    refine .cons rfl (by simp [Entry.lo, Entry.hi]) ?_
    rw [show off + (b ++ out).length = off + b.length + out.length by simp; omega]
    exact ih

/-- **Unmodified entries point at identical output instructions**: the `j`-th entry, if unmodified, has
source index `k + j`, and the output instruction at its target index is the `j`-th source instruction,
which is not a selected invocation. -/
theorem C21_unmodified {defs : List (Def K)} {sel : String → Bool} {k off : Nat} {src out : List (Instr K)}
    {m : List Entry} (h : MapOK defs sel k off src out m) (j s idx : Nat)
    (hj : m[j]? = some (.unmodified s idx)) :
    s = k + j ∧ off ≤ idx ∧
      ∃ i, src[j]? = some i ∧ out[idx - off]? = some i ∧ ¬ IsSelectedInvocation defs sel i := by
  obtain ⟨h1, _, i, h3, h4⟩ := mapOK_getElem h j _ hj
  generalize hc : (out.drop _).take _ = chunk at h4
  cases h4 with
  | unmodified hn =>
    have := congrArg (·[0]?) hc
    exact ⟨rfl, h1, i, h3, by simpa [Entry.lo, Entry.hi] using this, hn⟩

/-- **Rewritten ranges cover exactly the gates the invocation produced, nested maps are relative to the
parent range**: the `j`-th entry, if rewritten with range `lo..hi`, belongs to a well-formed selected
invocation of the named definition; the slice `out[lo-off .. hi-off)` is what that invocation's
instantiated body expands to, and the nested map is a faithful map of that expansion *with indices
restarting at 0* (`MapOK … 0 0`). -/
theorem C21_rewritten {defs : List (Def K)} {sel : String → Bool} {k off : Nat} {src out : List (Instr K)}
    {m : List Entry} (h : MapOK defs sel k off src out m) (j s : Nat) (name : String) (lo hi : Nat)
    (nested : List Entry) (hj : m[j]? = some (.rewritten s name lo hi nested)) :
    s = k + j ∧ off ≤ lo ∧ lo ≤ hi ∧ hi ≤ off + out.length ∧
      ∃ g d body, src[j]? = some (.gate g) ∧ Selected defs sel g d ∧ g.mods = [] ∧ Instantiates d g body ∧
        name = d.name ∧
        MapOK defs sel 0 0 (body.map Instr.gate) ((out.drop (lo - off)).take (hi - lo)) nested := by
  obtain ⟨h1, h2, i, h3, h4⟩ := mapOK_getElem h j _ hj
  generalize hc : (out.drop _).take _ = chunk at h4
  cases h4 with
  | rewritten hsel hm hinst hb =>
    have hc' : (out.drop (lo - off)).take (lo + chunk.length - lo) = chunk := hc
    exact ⟨rfl, h1, Nat.le_add_right _ _, h2, _, _, _, h3, hsel, hm, hinst, rfl, hc'.symm ▸ hb⟩

/-- **The map certifies the expansion**: a faithful map of `src ↦ out` exists only if `out` is the
recursive substitution result of `src` (C20's stack-free specification). -/
theorem C21_map_certifies_expansion {defs : List (Def K)} {sel : String → Bool} {k off : Nat}
    {src out : List (Instr K)} {m : List Entry} (h : MapOK defs sel k off src out m) :
    ExpandsPure defs sel src out := by
  induction h with
  | nil => exact .nil
  | keep hn _ ih => exact .keep hn ih
  | unfold hsel hm hinst _ _ ih1 ih2 => exact .unfold hsel hm hinst ih1 ih2

/-- **Lookups**: `list_sources` of any output index returns exactly one source instruction, … -/
theorem C21_list_sources {defs : List (Def K)} {sel : String → Bool} {src out : List (Instr K)} {m : List Entry}
    (h : MapOK defs sel 0 0 src out m) (t : Nat) (ht : t < out.length) :
    ∃ k, listSources m t = [k] ∧ k < src.length := by
  obtain ⟨e, he⟩ := tiles_unique_container (C21_tiles h) t (by omega) (by omega)
  refine ⟨e.src, by simp [listSources, he], ?_⟩
  have hm : e ∈ m := by
    have : e ∈ m.filter (·.contains t) := by rw [he]; simp
    exact (List.mem_filter.1 this).1
  have : e.src ∈ m.map Entry.src := List.mem_map.2 ⟨e, hm, rfl⟩
  rw [C21_sources h] at this
  simp at this
  omega

/-- … and `list_targets` of any source index exactly one target. -/
theorem C21_list_targets {defs : List (Def K)} {sel : String → Bool} {src out : List (Instr K)} {m : List Entry}
    (h : MapOK defs sel 0 0 src out m) (s : Nat) (hs : s < src.length) : listTargetsCount m s = 1 := by
  have hsrc := C21_sources h
  have : listTargetsCount m s = (m.map Entry.src).count s := by
    unfold listTargetsCount
    rw [List.count_eq_countP, List.countP_map, List.countP_eq_length_filter]
    congr 1
  rw [this, hsrc, (List.nodup_range' 1).count, if_pos (List.mem_range'_1.2 ⟨Nat.zero_le _, by omega⟩)]

/-- **The Bool checker the driver runs on the implementation's output decides `MapOK`.** -/
theorem C21_checkMap_iff [DecidableEq K] (defs : List (Def K)) (sel : String → Bool) (m : List Entry)
    (k off : Nat) (src out : List (Instr K)) :
    checkMap defs sel m k off src out = true ↔ MapOK defs sel k off src out m :=
  ⟨checkMap_sound defs sel m k off src out, checkMap_complete defs sel m k off src out⟩

section Examples

private def rz (p : Expr Nat) (q : Qubit) : Gate Nat := { name := "RZ", params := [p], qubits := [q], mods := [] }
private def exDefs : List (Def Nat) :=
  [ { name := "a", params := ["x"], spec := .seq ["q", "r"]
        [rz (.var "x") (.var "q"),
         { name := "b", params := [.bin (.var "x") .plus (.number 1)], qubits := [.var "r"], mods := [] }] },
    { name := "b", params := ["y"], spec := .seq ["q"] [rz (.var "y") (.var "q"), rz (.number 2) (.var "q")] } ]
private def inv (n : String) (p : Expr Nat) (qs : List Qubit) : Instr Nat :=
  .gate { name := n, params := [p], qubits := qs, mods := [] }
private def exSrc : List (Instr Nat) := [.other 1, inv "a" (.number 7) [.fixed 3, .fixed 4], inv "m" .pi [.fixed 0]]
private def exOut : List (Instr Nat) :=
  [.other 1, .gate (rz (.number 7) (.fixed 3)),
   .gate (rz (.bin (.number 7) .plus (.number 1)) (.fixed 4)), .gate (rz (.number 2) (.fixed 4)),
   inv "m" .pi [.fixed 0]]
private def exMap : List Entry :=
  [.unmodified 0 0,
   .rewritten 1 "a" 1 4 [.unmodified 0 0, .rewritten 1 "b" 1 3 [.unmodified 0 0, .unmodified 1 1]],
   .unmodified 2 4]

example : checkMap exDefs (fun _ => true) exMap 0 0 exSrc exOut = true := by decide +kernel
example : MapOK exDefs (fun _ => true) 0 0 exSrc exOut exMap :=
  (C21_checkMap_iff _ _ _ _ _ _ _).1 (by decide +kernel)
/-- a map whose nested range is not relative to the parent (absolute indices 2..4) is rejected -/
example : checkMap exDefs (fun _ => true)
    [.unmodified 0 0, .rewritten 1 "a" 1 4 [.unmodified 0 1, .rewritten 1 "b" 2 4 [.unmodified 0 0, .unmodified 1 1]],
     .unmodified 2 4] 0 0 exSrc exOut = false := by decide +kernel
example : (match expandMap exDefs (fun _ => true) exSrc with
    | .ok (out, m) => decide (out = exOut) && checkMap exDefs (fun _ => true) m 0 0 exSrc out
    | _ => false) = true := by decide +kernel

end Examples

end QV.C21
