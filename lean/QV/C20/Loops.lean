import QV.C20.Invocation
import QV.Shared.ListLemmas
/-! C20, the loops: `Expands` and `ErrAt` inverted by the value of `gate_sequence_from_instruction` on the head of
the source, so that their arms are the arms of the loop; what a run returns, as one statement (`Says`); fuel by the
number of definition names not yet on the stack; the order-free relations `Bad` and `MisuseAt` and the Bool form of
the latter.

To use `expands_cons_iff` / `errAt_cons_iff`: after `rw`, both sides are a `match` on the same value; reach its three
arms by `split`, or rewrite that value first with `gsfi_none_iff.2`, `gsfi_of_instantiates`, `gsfi_error_iff.2`. -/
namespace QV.C20
variable {K : Type} {defs : List (Def K)} {sel : String → Bool} {stack : List String}
  {g : Gate K} {d : Def K} {i : Instr K}

def remaining (defs : List (Def K)) (stack : List String) : Nat :=
  ((defs.map (·.name)).filter fun n => decide (n ∉ stack)).length

theorem remaining_nil_lt (defs : List (Def K)) : remaining defs [] < defs.length + 1 := by
  unfold remaining
  calc _ ≤ (defs.map (·.name)).length := List.length_filter_le _ _
    _ < defs.length + 1 := by simp

/-- Induction on fuel for whatever is computed with one unit per nesting level: the fuel left always
exceeds the number of definition names not yet on the stack, because each level pushes a new one. -/
@[elab_as_elim]
theorem fuel_induction (defs : List (Def K)) {P : Nat → List String → Prop}
    (step : ∀ n stack, (∀ name, name ∉ stack → name ∈ defs.map (·.name) → P n (stack ++ [name])) →
      P (n + 1) stack)
    (fuel : Nat) (stack : List String) (hf : remaining defs stack < fuel) : P fuel stack := by
  induction fuel generalizing stack with
  | zero => omega
  | succ n ih =>
    refine step n stack fun name hns hnd => ih _ ?_
    have : remaining defs (stack ++ [name]) < remaining defs stack :=
      length_filter_notMem_append_lt _ stack [name] name hnd hns (by simp)
    omega

theorem expands_cons_iff {rest out : List (Instr K)} :
    Expands defs sel stack (i :: rest) out ↔
      match gateSequenceFromInstruction defs sel i stack with
      | .error _ => False
      | .ok none => ∃ r, Expands defs sel stack rest r ∧ out = i :: r
      | .ok (some (body, name)) =>
        ∃ b r, Expands defs sel (stack ++ [name]) body b ∧ Expands defs sel stack rest r ∧ out = b ++ r := by
  constructor
  · intro h
    cases h with
    | keep hn hrest => rw [gsfi_none_iff.2 hn]; exact ⟨_, hrest, rfl⟩
    | unfold hsel hm hns hinst hb hrest =>
      rw [gsfi_of_instantiates hsel hm hns hinst]
      exact ⟨_, _, hb, hrest, rfl⟩
  · intro h
    split at h
    · exact h.elim
    · next hg =>
      obtain ⟨r, hr, rfl⟩ := h
      exact .keep (gsfi_none_iff.1 hg) hr
    · next body name hg =>
      obtain ⟨b, r, hb, hr, rfl⟩ := h
      obtain ⟨g, d, body0, rfl, hsel, hm, hns, hinst, rfl, rfl⟩ := gsfi_some_iff.1 hg
      exact .unfold hsel hm hns hinst hb hr

theorem errAt_cons_iff {rest : List (Instr K)} {e : Err} :
    ErrAt defs sel stack (i :: rest) e ↔
      match gateSequenceFromInstruction defs sel i stack with
      | .error e' => e' = e
      | .ok none => ErrAt defs sel stack rest e
      | .ok (some (body, name)) =>
        ErrAt defs sel (stack ++ [name]) body e ∨
          (∃ b, Expands defs sel (stack ++ [name]) body b) ∧ ErrAt defs sel stack rest e := by
  constructor
  · intro h
    cases h with
    | here hl => rw [gsfi_error_iff.2 hl]
    | inside hsel hm hns hinst hin =>
      rw [gsfi_of_instantiates hsel hm hns hinst]
      exact .inl hin
    | later hex hrest =>
      have hx := expands_cons_iff.1 hex
      split at hx
      · exact hx.elim
      · exact hrest
      · obtain ⟨b, _, hb, _⟩ := hx
        exact .inr ⟨⟨b, hb⟩, hrest⟩
  · intro h
    split at h
    · next hg => exact .here (gsfi_error_iff.1 (h ▸ hg))
    · next hg => exact .later (.keep (gsfi_none_iff.1 hg) (.nil _)) h
    · next body name hg =>
      obtain ⟨g, d, body0, rfl, hsel, hm, hns, hinst, rfl, rfl⟩ := gsfi_some_iff.1 hg
      rcases h with h | ⟨⟨b, hb⟩, hrest⟩
      · exact .inside hsel hm hns hinst h
      · exact .later (.unfold hsel hm hns hinst hb (.nil _)) hrest

/-- What a run of the loop returns, in the terms of the specification. One statement and not three theorems: the
`err` part of a run needs the `ok` part of its sub-runs as well (`ErrAt.later`), so the parts go through one induction
together (`expandWith_says`). -/
def Says (defs : List (Def K)) (sel : String → Bool) (stack : List String) (src : List (Instr K))
    (o : Outcome (List (Instr K))) : Prop :=
  (∀ out, o = .ok out ↔ Expands defs sel stack src out) ∧ (∀ e, o = .err e ↔ ErrAt defs sel stack src e) ∧
    o ≠ .outOfFuel

theorem Says.unique {src : List (Instr K)} {o o' : Outcome (List (Instr K))}
    (h : Says defs sel stack src o) (h' : Says defs sel stack src o') : o = o' := by
  cases o with
  | ok out => exact ((h'.1 out).2 ((h.1 out).1 rfl)).symm
  | err e => exact ((h'.2.1 e).2 ((h.2.1 e).1 rfl)).symm
  | outOfFuel => exact absurd rfl h.2.2

theorem expandWith_says (defs : List (Def K)) (sel : String → Bool)
    (nested : List String → List (Instr K) → Outcome (List (Instr K))) (stack : List String)
    (H : ∀ name body, name ∉ stack → name ∈ defs.map (·.name) →
      Says defs sel (stack ++ [name]) body (nested (stack ++ [name]) body))
    (src : List (Instr K)) : Says defs sel stack src (expandWith defs sel nested stack src) := by
  induction src with
  | nil =>
    exact ⟨fun out => ⟨fun h => by cases h; exact .nil _, fun h => by cases h; rfl⟩, fun e => ⟨nofun, nofun⟩,
      nofun⟩
  | cons i rest ih =>
    obtain ⟨ih1, ih2, ih3⟩ := ih
    -- both relations become a `match` on the same value of `gate_sequence_from_instruction` as the loop's
    simp only [Says, expands_cons_iff, errAt_cons_iff, expandWith]
    cases hg : gateSequenceFromInstruction defs sel i stack with
    | error e => simp
    | ok o =>
      cases o with
      | none =>
        -- right to left: `Expands`/`ErrAt` of the sub-runs become equations on their outcomes, and what is left is a
        -- case split on those outcomes
        simp only [← ih1, ← ih2]
        cases hr : expandWith defs sel nested stack rest with
        | outOfFuel => exact absurd hr ih3
        | _ => simp [eq_comm]
      | some p =>
        obtain ⟨hns, hnd⟩ := gsfi_some_name hg
        obtain ⟨h1, h2, h3⟩ := H p.2 p.1 hns hnd
        simp only [← ih1, ← ih2, ← h1, ← h2]
        cases hb : nested (stack ++ [p.2]) p.1 with
        | ok b =>
          cases hr : expandWith defs sel nested stack rest with
          | outOfFuel => exact absurd hr ih3
          | _ => simp [eq_comm]
        | err e => simp
        | outOfFuel => exact absurd hb h3

theorem expandFuel_says (defs : List (Def K)) (sel : String → Bool) (fuel : Nat) (stack : List String)
    (hf : remaining defs stack < fuel) :
    ∀ src : List (Instr K), Says defs sel stack src (expandFuel defs sel fuel stack src) :=
  fuel_induction defs (fun _ stack ih => expandWith_says defs sel _ stack fun name _ hns hnd =>
    ih name hns hnd _) fuel stack hf

theorem expandFuel_eq_of_lt (defs : List (Def K)) (sel : String → Bool) {fuel fuel' : Nat} (stack : List String)
    (hf : remaining defs stack < fuel) (hf' : remaining defs stack < fuel') (src : List (Instr K)) :
    expandFuel defs sel fuel stack src = expandFuel defs sel fuel' stack src :=
  (expandFuel_says defs sel fuel stack hf src).unique (expandFuel_says defs sel fuel' stack hf' src)

theorem expands_cons_of_mem {src out : List (Instr K)} (hx : Expands defs sel stack src out) (hi : i ∈ src) :
    ∃ rest out', Expands defs sel stack (i :: rest) out' := by
  induction hx with
  | nil => simp at hi
  | @keep stack j rest out hn hrest ih =>
    cases hi with
    | head => exact ⟨rest, _, .keep hn hrest⟩
    | tail _ h => exact ih h
  | @unfold stack g d body b rest out hsel hm hns hinst hb hrest _ ih =>
    cases hi with
    | head => exact ⟨rest, _, .unfold hsel hm hns hinst hb hrest⟩
    | tail _ h => exact ih h

theorem bad_not_expands {src : List (Instr K)}
    (hb : Bad defs sel stack src) : ∀ out, ¬ Expands defs sel stack src out := by
  induction hb with
  | here hi hl =>
    intro out hx
    obtain ⟨rest, out', hx'⟩ := expands_cons_of_mem hx hi
    rw [expands_cons_iff, gsfi_error_iff.2 hl] at hx'
    exact hx'
  | inside hi hsel hm hns hinst _ ih =>
    intro out hx
    obtain ⟨rest, out', hx'⟩ := expands_cons_of_mem hx hi
    rw [expands_cons_iff, gsfi_of_instantiates hsel hm hns hinst] at hx'
    obtain ⟨b, _, hb, _⟩ := hx'
    exact ih b hb

theorem not_all_isFixed_iff (qs : List Qubit) :
    ¬ qs.all isFixed = true ↔ ∃ q ∈ qs, ∀ n, q ≠ Qubit.fixed n := by
  have h : ∀ q, ¬ isFixed q = true ↔ ∀ n, q ≠ Qubit.fixed n := fun q => by cases q <;> simp [isFixed]
  simp only [List.all_eq_true, Classical.not_forall, exists_prop, h]

theorem not_all_all_isVar_iff (gates : List (Gate K)) :
    ¬ gates.all (fun e => e.qubits.all isVar) = true ↔ ∃ e ∈ gates, ∃ q ∈ e.qubits, ∀ v, q ≠ Qubit.var v := by
  have h : ∀ q, ¬ isVar q = true ↔ ∀ v, q ≠ Qubit.var v := fun q => by cases q <;> simp [isVar]
  simp only [List.all_eq_true, Classical.not_forall, exists_prop, h]

theorem any_any_unboundVar_iff (qvars : List String) (gates : List (Gate K)) :
    gates.any (fun e => e.qubits.any (unboundVar qvars)) = true ↔
      ∃ e ∈ gates, ∃ v, Qubit.var v ∈ e.qubits ∧ v ∉ qvars := by
  have h : ∀ q, unboundVar qvars q = true ↔ ∃ v, q = Qubit.var v ∧ v ∉ qvars := fun q => by
    cases q <;> simp [unboundVar]
  simp only [List.any_eq_true, h]
  exact exists_congr fun e => and_congr_right fun _ =>
    ⟨fun ⟨q, hq, v, hqv, hv⟩ => ⟨v, hqv ▸ hq, hv⟩, fun ⟨v, hq, hv⟩ => ⟨.var v, hq, v, rfl, hv⟩⟩

theorem misuse_selected {k : Kind}
    (h : Misuse defs sel stack i k) : ∃ g d, i = .gate g ∧ Selected defs sel g d := by
  cases h <;> exact ⟨_, _, rfl, ‹Selected defs sel _ _›⟩

theorem mem_localKinds_iff (defs : List (Def K)) (sel : String → Bool) (i : Instr K) (stack : List String)
    (k : Kind) : k ∈ localKinds defs sel i stack ↔ Misuse defs sel stack i k := by
  by_cases hsel : IsSelectedInvocation defs sel i
  · obtain ⟨g, d, rfl, hS⟩ := hsel
    obtain ⟨qvars, gates, hs⟩ := hS.2.1
    simp only [localKinds, hS.1, hs, hS.2.2, if_true]
    -- kind by kind, membership is the condition of the one clause that can produce that kind
    simp only [List.mem_append, List.mem_ite_nil_left, List.mem_ite_nil_right, List.mem_singleton]
    cases k <;> simp only [reduceCtorEq, and_false, and_true, or_false, false_or]
    · exact ⟨fun h => .paramCount hS h, fun h => by
        cases h with | paramCount h1 h2 => cases Selected.unique h1 hS; exact h2⟩
    · exact ⟨fun h => .cyclic hS (by simpa using h), fun h => by
        cases h with | cyclic h1 h2 => cases Selected.unique h1 hS; simpa using h2⟩
    · exact ⟨fun h => .qubitCount hS hs h, fun h => by
        cases h with | qubitCount h1 h2 h3 => cases Selected.unique h1 hS; cases hs.symm.trans h2; exact h3⟩
    · rw [not_all_isFixed_iff]
      exact ⟨fun ⟨q, hq1, hq2⟩ => .nonFixed hS hq1 hq2, fun h => by
        cases h with | nonFixed _ h2 h3 => exact ⟨_, h2, h3⟩⟩
    · exact ⟨fun h => .modifiers hS (by simpa using h), fun h => by
        cases h with | modifiers _ h2 => simpa using h2⟩
    · rw [not_all_all_isVar_iff]
      exact ⟨fun ⟨e, he, q, hq1, hq2⟩ => .invalidElem hS hs he hq1 hq2, fun h => by
        cases h with
        | invalidElem h1 h2 h3 h4 h5 =>
          cases Selected.unique h1 hS; cases hs.symm.trans h2; exact ⟨_, h3, _, h4, h5⟩⟩
    · rw [any_any_unboundVar_iff]
      exact ⟨fun ⟨e, he, v, hv1, hv2⟩ => .undefinedElem hS hs he hv1 hv2, fun h => by
        cases h with
        | undefinedElem h1 h2 h3 h4 h5 =>
          cases Selected.unique h1 hS; cases hs.symm.trans h2; exact ⟨_, h3, _, h4, h5⟩⟩
  · have h1 : localKinds defs sel i stack = [] := by
      cases i with
      | other k => rfl
      | gate g =>
        cases hf : findDef defs g.name with
        | none => simp only [localKinds, hf]
        | some d =>
          cases hs : d.spec with
          | other => simp only [localKinds, hf, hs]
          | seq qvars gates =>
            have hsl : sel g.name = false :=
              Bool.eq_false_iff.2 fun hsl => hsel ⟨g, d, rfl, hf, ⟨qvars, gates, hs⟩, hsl⟩
            simp only [localKinds, hf, hs, hsl]
            rfl
    rw [h1]
    exact ⟨nofun, fun h => absurd (misuse_selected h) hsel⟩

theorem localErr_misuse {e : Err} (h : LocalErr defs sel stack i e) : Misuse defs sel stack i e.kind := by
  cases h with
  | paramCount h1 h2 => exact .paramCount h1 h2
  | modifiers h1 _ h3 => exact .modifiers h1 h3
  | cyclic h1 _ _ h4 => exact .cyclic h1 h4
  | qubitCount h1 _ _ _ h5 h6 => exact .qubitCount h1 h5 h6
  | nonFixed h1 _ _ _ _ _ h7 h8 => exact .nonFixed h1 (by rw [h7]; simp) h8
  | elem h1 _ _ _ h5 _ _ h8 =>
    cases h8 with
    | @invalid pre e0 post vs q rest _ hq _ hnv =>
      exact .invalidElem (e := e0) h1 h5 (by simp) (by rw [hq]; simp) hnv
    | @undefined pre e0 post vs v rest _ hq _ hnm =>
      exact .undefinedElem (e := e0) h1 h5 (by simp) (by rw [hq]; simp) hnm

/-- The error need not have kind `k`: a check made earlier may fire first. -/
theorem misuse_localErr {k : Kind} (h : Misuse defs sel stack i k) : ∃ e, LocalErr defs sel stack i e := by
  cases hg : gateSequenceFromInstruction defs sel i stack with
  | error e => exact ⟨e, gsfi_error_iff.1 hg⟩
  | ok o =>
    exfalso
    cases o with
    | none => exact gsfi_none_iff.1 hg (misuse_selected h)
    | some p =>
      obtain ⟨g, d, body, rfl, hsel, hm, hns, ⟨qv, gs, fs, σ, ρ, hs, hp, hq, hfx, _, hρ, hpw⟩, _, _⟩ :=
        gsfi_some_iff.1 hg
      cases h with
      | paramCount h1 h2 => cases Selected.unique h1 hsel; exact h2 hp.symm
      | modifiers _ h2 => exact h2 hm
      | cyclic h1 h2 => cases Selected.unique h1 hsel; exact hns h2
      | qubitCount h1 h2 h3 => cases Selected.unique h1 hsel; cases hs.symm.trans h2; exact h3 hq
      | nonFixed _ h2 h3 =>
        rw [hfx] at h2
        obtain ⟨n, _, hn⟩ := List.mem_map.1 h2
        exact h3 n hn.symm
      | invalidElem h1 h2 h3 h4 h5 =>
        cases Selected.unique h1 hsel; cases hs.symm.trans h2
        obtain ⟨b, _, hb⟩ := pointwise_mem_left hpw h3
        obtain ⟨bq, _, v, hv, _⟩ := pointwise_mem_left hb.qubits h4
        exact h5 v hv
      | undefinedElem h1 h2 h3 h4 h5 =>
        cases Selected.unique h1 hsel; cases hs.symm.trans h2
        obtain ⟨b, _, hb⟩ := pointwise_mem_left hpw h3
        obtain ⟨bq, _, v', hv, hr⟩ := pointwise_mem_left hb.qubits h4
        cases hv
        obtain ⟨j, hj, _⟩ := (hρ _ _).1 hr
        exact h5 (List.mem_of_getElem? hj)

theorem misuseAt_mono {src src' : List (Instr K)} {k : Kind} (h : MisuseAt defs sel stack src k)
    (hs : ∀ i ∈ src, i ∈ src') :
    MisuseAt defs sel stack src' k := by
  cases h with
  | here hi hm => exact .here (hs _ hi) hm
  | inside hg hsel hm hns hinst hin => exact .inside (hs _ hg) hsel hm hns hinst hin

theorem kindsWith_iff (defs : List (Def K)) (sel : String → Bool)
    (nested : List String → List (Instr K) → List Kind) (stack : List String)
    (H : ∀ name body k, name ∉ stack → name ∈ defs.map (·.name) →
      (k ∈ nested (stack ++ [name]) body ↔ MisuseAt defs sel (stack ++ [name]) body k))
    (src : List (Instr K)) (k : Kind) :
    k ∈ kindsWith defs sel nested stack src ↔ MisuseAt defs sel stack src k := by
  induction src with
  | nil =>
    simp only [kindsWith, List.not_mem_nil, false_iff]
    intro h
    cases h with
    | here hi _ => simp at hi
    | inside hg _ _ _ _ _ => simp at hg
  | cons i rest ih =>
    simp only [kindsWith, List.mem_append]
    constructor
    · rintro ((h | h) | h)
      · exact .here (by simp) ((mem_localKinds_iff _ _ _ _ _).1 h)
      · split at h
        · rename_i body name hg
          obtain ⟨hns, hnd⟩ := gsfi_some_name hg
          obtain ⟨g, d, body0, hi, hsel, hm, hns', hinst, hb, hname⟩ := gsfi_some_iff.1 hg
          subst hi; subst hb; subst hname
          exact .inside (by simp) hsel hm hns' hinst ((H _ _ _ hns hnd).1 h)
        · simp at h
      · exact misuseAt_mono (ih.1 h) (fun j hj => by simp [hj])
    · intro h
      cases h with
      | here hi hm =>
        cases hi with
        | head => exact .inl (.inl ((mem_localKinds_iff _ _ _ _ _).2 hm))
        | tail _ hi' => exact .inr (ih.2 (.here hi' hm))
      | inside hg hsel hm hns hinst hin =>
        cases hg with
        | head =>
          have hgs := gsfi_of_instantiates hsel hm hns hinst
          obtain ⟨hns0, hnd⟩ := gsfi_some_name hgs
          refine .inl (.inr ?_)
          rw [hgs]
          exact (H _ _ _ hns0 hnd).2 hin
        | tail _ hg' => exact .inr (ih.2 (.inside hg' hsel hm hns hinst hin))

theorem kindsFuel_iff (defs : List (Def K)) (sel : String → Bool) (fuel : Nat) (stack : List String)
    (hf : remaining defs stack < fuel) : ∀ (src : List (Instr K)) (k : Kind),
    k ∈ kindsFuel defs sel fuel stack src ↔ MisuseAt defs sel stack src k :=
  fuel_induction defs (fun _ stack ih => kindsWith_iff defs sel _ stack fun name _ _ hns hnd =>
    ih name hns hnd _ _) fuel stack hf

theorem errAt_misuseAt {src : List (Instr K)}
    {e : Err} (h : ErrAt defs sel stack src e) : MisuseAt defs sel stack src e.kind := by
  induction h with
  | here hl => exact .here (by simp) (localErr_misuse hl)
  | inside hsel hm hns hinst _ ih => exact .inside (by simp) hsel hm hns hinst ih
  | later _ _ ih => exact misuseAt_mono ih (fun j hj => by simp [hj])

theorem misuseAt_bad {src : List (Instr K)}
    {k : Kind} (h : MisuseAt defs sel stack src k) : Bad defs sel stack src := by
  induction h with
  | here hi hm => obtain ⟨e, he⟩ := misuse_localErr hm; exact .here hi he
  | inside hg hsel hm hns hinst _ ih => exact .inside hg hsel hm hns hinst ih

theorem errAt_bad {src : List (Instr K)} {e : Err} (h : ErrAt defs sel stack src e) : Bad defs sel stack src :=
  misuseAt_bad (errAt_misuseAt h)

end QV.C20
