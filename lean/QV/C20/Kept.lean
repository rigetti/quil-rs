import QV.C20.Spec
import QV.Shared.ListLemmas
/-! C20, retained definitions: the per-pair path search and the breadth-first closure both compute the
reflexive-transitive closure of `Mentions`. -/
namespace QV.C20
variable {K : Type} {defs : List (Def K)} {sel : String → Bool} {stack : List String}
  {g : Gate K} {d : Def K} {i : Instr K}

theorem mem_mentions_iff (defs : List (Def K)) (u v : String) : v ∈ mentions defs u ↔ Mentions defs u v := by
  unfold mentions Mentions
  cases hf : findDef defs u with
  | none => simp
  | some d =>
    cases hs : d.spec with
    | other =>
      simp only [hs, List.not_mem_nil, false_iff]
      rintro ⟨d', qv, gs, e, hd, hspec, _⟩
      cases hd; rw [hs] at hspec; cases hspec
    | seq qvars gates =>
      simp only [hs, List.mem_filter, List.mem_map, List.contains_eq_mem, decide_eq_true_eq]
      constructor
      · rintro ⟨⟨e, he, hn⟩, hv⟩
        exact ⟨d, qvars, gates, e, rfl, hs, he, hn, hv⟩
      · rintro ⟨d', qv, gs, e, hd, hspec, he, hn, hv⟩
        cases hd; rw [hs] at hspec; cases hspec
        exact ⟨⟨e, he, hn⟩, hv⟩

/-- a path all of whose nodes after the first lie in `A` (`reachIn` does not test its start node against `allowed`) -/
inductive PathVia (defs : List (Def K)) (A : List String) : String → String → Prop
  | refl (u) : PathVia defs A u u
  | step {u v d} : Mentions defs u v → v ∈ A → PathVia defs A v d → PathVia defs A u d

theorem reachIn_sound (defs : List (Def K)) (f : Nat) (A : List String) (u d : String)
    (h : reachIn defs f A u d = true) : Reach defs u d := by
  induction f generalizing A u with
  | zero => simp [reachIn] at h
  | succ n ih =>
    simp only [reachIn, Bool.or_eq_true, beq_iff_eq, List.any_eq_true, Bool.and_eq_true] at h
    rcases h with h | ⟨v, hv, _, hr⟩
    · subst h; exact .refl _
    · exact .step ((mem_mentions_iff _ _ _).1 hv) (ih _ _ hr)

/-- cut the path at its last visit of `v`: what comes after avoids `v` -/
theorem pathVia_avoid {A : List String} {x d : String} (h : PathVia defs A x d)
    (v : String) : PathVia defs (A.filter (· != v)) x d ∨ PathVia defs (A.filter (· != v)) v d := by
  induction h with
  | refl u => exact .inl (.refl _)
  | @step u' y d' hm hv _ ih =>
    rcases ih with ih | ih
    · by_cases hy : y = v
      · subst hy; exact .inr ih
      · exact .inl (.step hm (by simp [hv, hy]) ih)
    · exact .inr ih

theorem reachIn_complete (defs : List (Def K)) (f : Nat) (A : List String) (u d : String)
    (h : PathVia defs A u d) (hf : A.length < f) : reachIn defs f A u d = true := by
  induction f generalizing A u with
  | zero => omega
  | succ n ih =>
    simp only [reachIn, Bool.or_eq_true, beq_iff_eq, List.any_eq_true, Bool.and_eq_true]
    cases h with
    | refl => exact .inl rfl
    | @step _ v _ hm hv hrest =>
      right
      refine ⟨v, (mem_mentions_iff _ _ _).2 hm, by simpa using hv, ?_⟩
      have hp : PathVia defs (A.filter (· != v)) v d := by
        rcases pathVia_avoid hrest v with h | h <;> exact h
      have := removeName_length_lt A v hv
      exact ih _ _ hp (by unfold removeName at this; omega)

theorem mentions_target_seq {x y : String} (h : Mentions defs x y) : y ∈ seqNames defs :=
  let ⟨_, _, _, _, _, _, _, _, h⟩ := h; h

theorem reach_to_pathVia {u d : String} (h : Reach defs u d) :
    PathVia defs (seqNames defs) u d := by
  induction h with
  | refl u => exact .refl _
  | @step _ _ _ hm _ ih =>
    exact .step hm (mentions_target_seq hm) ih

theorem reach_iff (defs : List (Def K)) (u d : String) : reach defs u d = true ↔ Reach defs u d :=
  ⟨reachIn_sound _ _ _ _ _, fun h => reachIn_complete _ _ _ _ _ (reach_to_pathVia h) (Nat.lt_succ_self _)⟩

theorem mem_addNew (visited acc : List String) (x y : String) :
    y ∈ addNew visited acc x ↔ y ∈ acc ∨ (y = x ∧ y ∉ visited) := by
  unfold addNew
  split
  · next h =>
    simp only [Bool.or_eq_true, List.contains_eq_mem, decide_eq_true_eq] at h
    refine ⟨.inl, fun h' => h'.elim id ?_⟩
    rintro ⟨rfl, hv⟩
    exact h.resolve_left hv
  · next h =>
    simp only [Bool.or_eq_true, List.contains_eq_mem, decide_eq_true_eq, not_or] at h
    rw [List.mem_append, List.mem_singleton]
    exact or_congr_right ⟨fun e => ⟨e, e ▸ h.1⟩, And.left⟩

theorem mem_foldl_addNew (visited l acc : List String) (y : String) :
    y ∈ l.foldl (addNew visited) acc ↔ y ∈ acc ∨ (y ∈ l ∧ y ∉ visited) := by
  induction l generalizing acc with
  | nil => simp
  | cons x xs ih => rw [List.foldl_cons, ih, mem_addNew, List.mem_cons, or_assoc, ← or_and_right]

theorem mem_newNodes (defs : List (Def K)) (frontier visited : List String) (y : String) :
    y ∈ newNodes defs frontier visited ↔ (∃ x ∈ frontier, Mentions defs x y) ∧ y ∉ visited := by
  unfold newNodes
  rw [mem_foldl_addNew]
  simp only [List.not_mem_nil, false_or, List.mem_flatMap, mem_mentions_iff]

theorem reach_snoc {u x y : String} (h : Reach defs u x) (hm : Mentions defs x y) :
    Reach defs u y := by
  induction h with
  | refl => exact .step hm (.refl _)
  | step h1 _ ih => exact .step h1 (ih hm)

theorem bfs_sound (defs : List (Def K)) (S : List String) (fuel : Nat) (frontier visited : List String)
    (hv : ∀ x ∈ visited, ∃ u ∈ S, Reach defs u x) (hf : ∀ x ∈ frontier, x ∈ visited) :
    ∀ n ∈ bfs defs fuel frontier visited, ∃ u ∈ S, Reach defs u n := by
  induction fuel generalizing frontier visited with
  | zero => simpa [bfs] using hv
  | succ f ih =>
    simp only [bfs]
    split
    · exact hv
    · apply ih
      · intro x hx
        rcases List.mem_append.1 hx with hx | hx
        · exact hv x hx
        · obtain ⟨⟨w, hw, hm⟩, _⟩ := (mem_newNodes defs frontier visited x).1 hx
          obtain ⟨u, hu, hr⟩ := hv w (hf w hw)
          exact ⟨u, hu, reach_snoc hr hm⟩
      · intro x hx; exact List.mem_append.2 (.inr hx)

def unvisited (defs : List (Def K)) (visited : List String) : Nat :=
  ((seqNames defs).filter fun n => decide (n ∉ visited)).length

/-- `hinv`: `visited` is closed under `Mentions` except at the frontier. -/
theorem bfs_closed (defs : List (Def K)) (fuel : Nat) (frontier visited : List String)
    (hfuel : unvisited defs visited < fuel)
    (hinv : ∀ x ∈ visited, x ∉ frontier → ∀ y, Mentions defs x y → y ∈ visited) :
    (∀ x ∈ visited, x ∈ bfs defs fuel frontier visited) ∧
    (∀ x ∈ bfs defs fuel frontier visited, ∀ y, Mentions defs x y → y ∈ bfs defs fuel frontier visited) := by
  induction fuel generalizing frontier visited with
  | zero => omega
  | succ f ih =>
    have step : ∀ x ∈ visited, ∀ y, Mentions defs x y → y ∈ visited ∨ y ∈ newNodes defs frontier visited :=
      fun x hx y hm => (Classical.em (y ∈ visited)).imp_right fun hy =>
        (mem_newNodes _ _ _ _).2 ⟨⟨x, Classical.byContradiction fun hxf => hy (hinv x hx hxf y hm), hm⟩, hy⟩
    simp only [bfs]
    by_cases hnew : newNodes defs frontier visited = []
    · simp only [hnew, List.isEmpty_nil, if_true]
      exact ⟨fun x hx => hx, fun x hx y hm => (hnew ▸ step x hx y hm).resolve_right List.not_mem_nil⟩
    · rw [if_neg (by simpa using hnew)]
      obtain ⟨y0, hy0⟩ := List.exists_mem_of_ne_nil _ hnew
      obtain ⟨⟨x0, hx0, hm0⟩, hy0v⟩ := (mem_newNodes _ _ _ _).1 hy0
      have hdec : unvisited defs (visited ++ newNodes defs frontier visited) < unvisited defs visited :=
        length_filter_notMem_append_lt _ visited _ y0 (mentions_target_seq hm0) hy0v hy0
      have := ih (newNodes defs frontier visited) (visited ++ newNodes defs frontier visited) (by omega)
        (fun x hx hxn y hm => List.mem_append.2
          (step x ((List.mem_append.1 hx).resolve_right hxn) y hm))
      exact ⟨fun x hx => this.1 x (List.mem_append.2 (.inl hx)), this.2⟩

theorem mem_reachFrom_iff (defs : List (Def K)) (S : List String) (n : String) :
    n ∈ reachFrom defs S ↔ ∃ u ∈ S, Reach defs u n := by
  unfold reachFrom
  constructor
  · exact bfs_sound defs S _ S S (fun x hx => ⟨x, hx, .refl _⟩) (fun x hx => hx) n
  · rintro ⟨u, hu, hr⟩
    have hc := bfs_closed defs ((seqNames defs).length + 1) S S
      (by unfold unvisited; have := List.length_filter_le (fun n => decide (n ∉ S)) (seqNames defs); omega)
      (fun x hx hxn => absurd hx hxn)
    have hu' := hc.1 u hu
    clear hu
    induction hr with
    | refl => exact hu'
    | step hm _ ih => exact ih (hc.2 _ hu' _ hm)

end QV.C20
