import QV.C20.Spec
/-! C20, one invocation: what `gate_sequence_from_instruction` (`gsfi` in the names) returns, in the terms of the
specification: `.ok none` iff the instruction is not a selected invocation, `.ok (some …)` iff it is one without
modifiers, of a definition not on the stack, that `Instantiates`, `.error e` iff `LocalErr` (`gsfi_none_iff`,
`gsfi_some_iff`, `gsfi_error_iff`). -/
namespace QV.C20
variable {K : Type} {defs : List (Def K)} {sel : String → Bool} {stack : List String}
  {g : Gate K} {d : Def K} {i : Instr K}

theorem findDef_some {n : String} (h : findDef defs n = some d) :
    d ∈ defs ∧ d.name = n :=
  ⟨List.mem_of_find?_eq_some h, by simpa using List.find?_some h⟩

theorem mapE_ok_iff {α β : Type} (f : α → Except Err β) (l : List α) (bs : List β) :
    mapE f l = .ok bs ↔ Pointwise (fun a b => f a = .ok b) l bs := by
  induction l generalizing bs with
  | nil =>
    constructor
    · intro h; simp [mapE] at h; subst h; exact .nil
    · intro h; cases h; rfl
  | cons a as ih =>
    constructor
    · intro h
      simp only [mapE] at h
      split at h
      · cases h
      · rename_i b hb
        split at h
        · cases h
        · rename_i bs' hbs
          cases h
          exact .cons hb ((ih bs').1 hbs)
    · intro h
      cases h with
      | cons hb hrest =>
        simp only [mapE, hb, (ih _).2 hrest]

theorem pointwise_mono {α β : Type} {R S : α → β → Prop} (h : ∀ a b, R a b → S a b) {l : List α} {m : List β}
    (p : Pointwise R l m) : Pointwise S l m := by
  induction p with
  | nil => exact .nil
  | cons hr _ ih => exact .cons (h _ _ hr) ih

theorem pointwise_length {α β : Type} {R : α → β → Prop} {l : List α} {m : List β}
    (p : Pointwise R l m) : l.length = m.length := by
  induction p with
  | nil => rfl
  | cons _ _ ih => simp [ih]

theorem pointwise_mem_left {α β : Type} {R : α → β → Prop} {l : List α} {m : List β}
    (h : Pointwise R l m) {a : α} (ha : a ∈ l) : ∃ b ∈ m, R a b := by
  induction h with
  | nil => simp at ha
  | cons hr _ ih =>
    cases ha with
    | head => exact ⟨_, by simp, hr⟩
    | tail _ ha' => obtain ⟨b, hb, hR⟩ := ih ha'; exact ⟨b, by simp [hb], hR⟩

theorem pointwise_mem_right {α β : Type} {R : α → β → Prop} {l : List α} {m : List β}
    (h : Pointwise R l m) {b : β} (hb : b ∈ m) : ∃ a ∈ l, R a b := by
  induction h with
  | nil => simp at hb
  | cons hr _ ih =>
    cases hb with
    | head => exact ⟨_, by simp, hr⟩
    | tail _ hb' => obtain ⟨a, ha, hR⟩ := ih hb'; exact ⟨a, by simp [ha], hR⟩

theorem lookupLast_zip_none {V : Type} (fs : List String) (as : List V) (v : String)
    (hl : fs.length = as.length) : lookupLast (fs.zip as) v = none ↔ v ∉ fs := by
  induction fs generalizing as with
  | nil => simp [lookupLast]
  | cons f fs ih =>
    cases as with
    | nil => simp at hl
    | cons a as =>
      have hl' : fs.length = as.length := by simpa using hl
      simp only [List.zip_cons_cons, lookupLast]
      have := ih as hl'
      cases h : lookupLast (fs.zip as) v with
      | some w => simp [h] at this; simp [this]
      | none =>
        simp [h] at this
        by_cases hf : f = v
        · simp [hf]
        · simp [hf, this]; exact fun e => hf e.symm

theorem lookupLast_zip_exists_iff {V : Type} (fs : List String) (as : List V) (v : String)
    (hl : fs.length = as.length) : (∃ a, lookupLast (fs.zip as) v = some a) ↔ v ∈ fs := by
  have hn := lookupLast_zip_none fs as v hl
  cases h : lookupLast (fs.zip as) v with
  | none => simp [hn.1 h]
  | some a =>
    refine ⟨fun _ => Classical.byContradiction fun hm => ?_, fun _ => ⟨a, rfl⟩⟩
    rw [hn.2 hm] at h
    cases h

theorem binds_cons {V : Type} {f : String} {fs : List String} {a0 : V} {as : List V} {v : String} {a : V} :
    Binds (f :: fs) (a0 :: as) v a ↔ Binds fs as v a ∨ (f = v ∧ a0 = a ∧ v ∉ fs) := by
  constructor
  · rintro ⟨i, h1, h2, h3⟩
    cases i with
    | zero =>
      refine .inr ⟨Option.some.inj h1, Option.some.inj h2, fun hm => ?_⟩
      obtain ⟨j, hj⟩ := List.mem_iff_getElem?.1 hm
      exact h3 (j + 1) (Nat.succ_pos j) hj
    | succ i => exact .inl ⟨i, h1, h2, fun j hj => h3 (j + 1) (Nat.succ_lt_succ hj)⟩
  · rintro (⟨i, h1, h2, h3⟩ | ⟨rfl, rfl, hn⟩)
    · refine ⟨i + 1, h1, h2, fun j hj => ?_⟩
      cases j with
      | zero => omega
      | succ j => exact h3 j (Nat.lt_of_succ_lt_succ hj)
    · refine ⟨0, rfl, rfl, fun j hj hc => ?_⟩
      cases j with
      | zero => omega
      | succ j => exact hn (List.mem_of_getElem? hc)

theorem isBinding_lookupLast {V : Type} (fs : List String) (as : List V) (hl : fs.length = as.length) :
    IsBinding fs as (lookupLast (fs.zip as)) := by
  intro v a
  induction fs generalizing as with
  | nil => simp [lookupLast, Binds]
  | cons f fs ih =>
    cases as with
    | nil => simp at hl
    | cons a0 as =>
      have hl' : fs.length = as.length := by simpa using hl
      rw [binds_cons, ← ih as hl', ← lookupLast_zip_none fs as v hl', List.zip_cons_cons, lookupLast]
      cases lookupLast (fs.zip as) v with
      | some w => simp
      | none => by_cases hf : f = v <;> simp [hf]

theorem isBinding_unique {V : Type} {fs : List String} {as : List V} {σ τ : String → Option V}
    (h1 : IsBinding fs as σ) (h2 : IsBinding fs as τ) : σ = τ := by
  funext v
  cases hs : σ v with
  | some a => exact ((h2 v a).2 ((h1 v a).1 hs)).symm
  | none =>
    cases ht : τ v with
    | none => rfl
    | some b =>
      have := (h1 v b).2 ((h2 v b).1 ht)
      simp [hs] at this

theorem pointwise_eq_map {α β : Type} (f : β → α) {l : List α} {m : List β} :
    Pointwise (fun a b => a = f b) l m ↔ l = m.map f := by
  constructor
  · intro h
    induction h with
    | nil => rfl
    | cons hab _ ih => rw [hab, ih]; rfl
  · rintro rfl
    induction m with
    | nil => exact .nil
    | cons b bs ih => exact .cons rfl ih

theorem fixedQubit_ok_iff (q : Qubit) (n : Nat) : fixedQubit q = .ok n ↔ q = .fixed n := by
  cases q <;> simp [fixedQubit, eq_comm]

theorem fixedQubit_error_iff (q : Qubit) (e : Err) :
    fixedQubit q = .error e ↔ (∀ n, q ≠ .fixed n) ∧ e = .nonFixedQubit q := by
  cases q <;> simp [fixedQubit, eq_comm]

theorem mapE_fixed_ok_iff (qs : List Qubit) (fs : List Nat) :
    mapE fixedQubit qs = .ok fs ↔ qs = fs.map Qubit.fixed := by
  rw [mapE_ok_iff]
  simp only [fixedQubit_ok_iff]
  exact pointwise_eq_map _

theorem substQubit_ok_iff (qm : List (String × Qubit)) (q q' : Qubit) :
    substQubit qm q = .ok q' ↔ ∃ v, q = Qubit.var v ∧ lookupLast qm v = some q' := by
  cases q with
  | fixed n => simp [substQubit]
  | placeholder k => simp [substQubit]
  | var v =>
    simp only [substQubit]
    cases h : lookupLast qm v with
    | none => simp [h]
    | some w => simp [h]

theorem substGate_ok_iff (pm : List (String × Expr K)) (qm : List (String × Qubit)) (e b : Gate K) :
    substGate pm qm e = .ok b ↔ ElemInstance (lookupLast pm) (lookupLast qm) e b := by
  unfold substGate
  constructor
  · intro h
    split at h
    · cases h
    · rename_i qs hqs
      cases h
      refine ⟨rfl, rfl, rfl, ?_⟩
      exact pointwise_mono (fun a b hab => (substQubit_ok_iff qm a b).1 hab) ((mapE_ok_iff _ _ _).1 hqs)
  · rintro ⟨h1, h2, h3, h4⟩
    have := (mapE_ok_iff (substQubit qm) e.qubits b.qubits).2
      (pointwise_mono (fun a b hab => (substQubit_ok_iff qm a b).2 hab) h4)
    simp only [this]
    cases b
    simp_all

theorem expandSeq_ok_iff (qvars : List String) (gates : List (Gate K)) (formals : List String)
    (g : Gate K) (body : List (Gate K)) (hp : formals.length = g.params.length) :
    expandSeq qvars gates (formals.zip g.params) g.qubits = .ok body ↔
      ∃ (fs : List Nat) (σ : String → Option (Expr K)) (ρ : String → Option Qubit),
        g.qubits.length = qvars.length ∧ g.qubits = fs.map Qubit.fixed ∧
        IsBinding formals g.params σ ∧ IsBinding qvars g.qubits ρ ∧
        Pointwise (ElemInstance σ ρ) gates body := by
  unfold expandSeq
  constructor
  · intro h
    split at h
    · cases h
    · rename_i hlen
      have hlen' : g.qubits.length = qvars.length := by simpa using hlen
      split at h
      · cases h
      · rename_i fs hfs
        have hq := (mapE_fixed_ok_iff _ _).1 hfs
        refine ⟨fs, lookupLast (formals.zip g.params), lookupLast (qvars.zip (fs.map Qubit.fixed)), hlen', hq,
          isBinding_lookupLast _ _ hp, ?_, ?_⟩
        · rw [hq]; exact isBinding_lookupLast _ _ (by rw [← hlen', hq])
        · exact pointwise_mono (fun a b hab => (substGate_ok_iff _ _ a b).1 hab) ((mapE_ok_iff _ _ _).1 h)
  · rintro ⟨fs, σ, ρ, hlen, hq, hσ, hρ, hpw⟩
    have hne : ¬ (g.qubits.length ≠ qvars.length) := by simp [hlen]
    simp only [hne, if_false]
    have hfs := (mapE_fixed_ok_iff _ _).2 hq
    simp only [hfs]
    have e1 : σ = lookupLast (formals.zip g.params) := isBinding_unique hσ (isBinding_lookupLast _ _ hp)
    have e2 : ρ = lookupLast (qvars.zip (fs.map Qubit.fixed)) := by
      rw [hq] at hρ
      exact isBinding_unique hρ (isBinding_lookupLast _ _ (by rw [← hlen, hq]))
    subst e1; subst e2
    exact (mapE_ok_iff _ _ _).2 (pointwise_mono (fun a b hab => (substGate_ok_iff _ _ a b).2 hab) hpw)

theorem Instantiates.unique {b b' : List (Gate K)}
    (h : Instantiates d g b) (h' : Instantiates d g b') : b = b' := by
  obtain ⟨qv, gs, fs, σ, ρ, hs, hp, h⟩ := h
  obtain ⟨qv', gs', fs', σ', ρ', hs', _, h'⟩ := h'
  cases hs.symm.trans hs'
  have e1 := (expandSeq_ok_iff qv gs d.params g b hp.symm).2 ⟨fs, σ, ρ, h⟩
  have e2 := (expandSeq_ok_iff qv gs d.params g b' hp.symm).2 ⟨fs', σ', ρ', h'⟩
  exact Except.ok.inj (e1.symm.trans e2)

theorem Selected.unique {d d' : Def K} (h : Selected defs sel g d) (h' : Selected defs sel g d') : d = d' :=
  Option.some.inj (h.1.symm.trans h'.1)

theorem selected_name (h : Selected defs sel g d) : d.name = g.name := (findDef_some h.1).2

theorem gsfi_of_not_selected (stack : List String)
    (h : ¬ IsSelectedInvocation defs sel i) : gateSequenceFromInstruction defs sel i stack = .ok none := by
  cases i with
  | other k => rfl
  | gate g =>
    cases hf : findDef defs g.name with
    | none => simp only [gateSequenceFromInstruction, hf]
    | some d =>
      cases hs : d.spec with
      | other => simp only [gateSequenceFromInstruction, hf, hs]
      | seq qvars gates =>
        have hsel : sel g.name = false :=
          Bool.eq_false_iff.2 fun hsel => h ⟨g, d, rfl, hf, ⟨qvars, gates, hs⟩, hsel⟩
        simp only [gateSequenceFromInstruction, hf, hs, hsel]
        rfl

theorem gsfi_of_selected {qvars : List String} {gates : List (Gate K)} (stack : List String)
    (hS : Selected defs sel g d) (hs : d.spec = .seq qvars gates) :
    gateSequenceFromInstruction defs sel (.gate g) stack =
      if d.params.length ≠ g.params.length then .error (.paramCount d.params.length g.params.length)
      else if !g.mods.isEmpty then .error (.modifiers g.mods)
      else if stack.contains d.name then .error (.cyclic stack)
      else
        match expandSeq qvars gates (d.params.zip g.params) g.qubits with
        | .error e => .error e
        | .ok gs => .ok (some (gs.map Instr.gate, d.name)) := by
  simp only [gateSequenceFromInstruction, hS.1, hs, hS.2.2, if_true]
  rfl

theorem gsfi_paramCount (stack : List String)
    (hS : Selected defs sel g d) (hpc : d.params.length ≠ g.params.length) :
    gateSequenceFromInstruction defs sel (.gate g) stack =
      .error (.paramCount d.params.length g.params.length) := by
  obtain ⟨qvars, gates, hs⟩ := hS.2.1
  rw [gsfi_of_selected stack hS hs, if_pos hpc]

theorem gsfi_modifiers (stack : List String)
    (hS : Selected defs sel g d) (hpc : d.params.length = g.params.length) (hm : g.mods ≠ []) :
    gateSequenceFromInstruction defs sel (.gate g) stack = .error (.modifiers g.mods) := by
  obtain ⟨qvars, gates, hs⟩ := hS.2.1
  rw [gsfi_of_selected stack hS hs, if_neg (· hpc), if_pos (by simpa using hm)]

theorem gsfi_cyclic (hS : Selected defs sel g d) (hpc : d.params.length = g.params.length) (hm : g.mods = [])
    (hst : d.name ∈ stack) :
    gateSequenceFromInstruction defs sel (.gate g) stack = .error (.cyclic stack) := by
  obtain ⟨qvars, gates, hs⟩ := hS.2.1
  rw [gsfi_of_selected stack hS hs, if_neg (· hpc), if_neg (by simp [hm]), if_pos (by simpa using hst)]

theorem gsfi_of_checks_passed {qvars : List String} {gates : List (Gate K)}
    (hS : Selected defs sel g d) (hs : d.spec = .seq qvars gates) (hpc : d.params.length = g.params.length)
    (hm : g.mods = []) (hst : d.name ∉ stack) :
    gateSequenceFromInstruction defs sel (.gate g) stack =
      match expandSeq qvars gates (d.params.zip g.params) g.qubits with
      | .error e => .error e
      | .ok gs => .ok (some (gs.map Instr.gate, d.name)) := by
  rw [gsfi_of_selected stack hS hs, if_neg (· hpc), if_neg (by simp [hm]), if_neg (by simpa using hst)]

theorem gsfi_selected_cases {qvars : List String} {gates : List (Gate K)} (stack : List String)
    (hS : Selected defs sel g d) (hs : d.spec = .seq qvars gates) :
    (d.params.length ≠ g.params.length ∧ gateSequenceFromInstruction defs sel (.gate g) stack =
        .error (.paramCount d.params.length g.params.length)) ∨
    (d.params.length = g.params.length ∧ g.mods ≠ [] ∧
      gateSequenceFromInstruction defs sel (.gate g) stack = .error (.modifiers g.mods)) ∨
    (d.params.length = g.params.length ∧ g.mods = [] ∧ d.name ∈ stack ∧
      gateSequenceFromInstruction defs sel (.gate g) stack = .error (.cyclic stack)) ∨
    (d.params.length = g.params.length ∧ g.mods = [] ∧ d.name ∉ stack ∧
      gateSequenceFromInstruction defs sel (.gate g) stack =
        match expandSeq qvars gates (d.params.zip g.params) g.qubits with
        | .error e => .error e
        | .ok gs => .ok (some (gs.map Instr.gate, d.name))) := by
  by_cases hpc : d.params.length = g.params.length
  · by_cases hm : g.mods = []
    · by_cases hst : d.name ∈ stack
      · exact .inr (.inr (.inl ⟨hpc, hm, hst, gsfi_cyclic hS hpc hm hst⟩))
      · exact .inr (.inr (.inr ⟨hpc, hm, hst, gsfi_of_checks_passed hS hs hpc hm hst⟩))
    · exact .inr (.inl ⟨hpc, hm, gsfi_modifiers stack hS hpc hm⟩)
  · exact .inl ⟨hpc, gsfi_paramCount stack hS hpc⟩

theorem gsfi_none_iff :
    gateSequenceFromInstruction defs sel i stack = .ok none ↔ ¬ IsSelectedInvocation defs sel i := by
  refine ⟨?_, gsfi_of_not_selected stack⟩
  rintro h ⟨g, d, rfl, hS⟩
  obtain ⟨qvars, gates, hs⟩ := hS.2.1
  rcases gsfi_selected_cases stack hS hs with ⟨_, h'⟩ | ⟨_, _, h'⟩ | ⟨_, _, _, h'⟩ | ⟨_, _, _, h'⟩
    <;> rw [h'] at h
  · cases h
  · cases h
  · cases h
  · split at h <;> cases h

/-- a well-formed selected invocation of a definition not on the stack is unfolded -/
theorem gsfi_of_instantiates {body : List (Gate K)} (hS : Selected defs sel g d) (hm : g.mods = [])
    (hst : d.name ∉ stack) (hinst : Instantiates d g body) :
    gateSequenceFromInstruction defs sel (.gate g) stack = .ok (some (body.map Instr.gate, d.name)) := by
  obtain ⟨qvars, gates, fs, σ, ρ, hs, hpc, h⟩ := hinst
  rw [gsfi_of_checks_passed hS hs hpc.symm hm hst,
    (expandSeq_ok_iff qvars gates d.params g body hpc.symm).2 ⟨fs, σ, ρ, h⟩]

theorem gsfi_some_iff {body' : List (Instr K)} {name : String} :
    gateSequenceFromInstruction defs sel i stack = .ok (some (body', name)) ↔
      ∃ g d body, i = .gate g ∧ Selected defs sel g d ∧ g.mods = [] ∧ d.name ∉ stack ∧
        Instantiates d g body ∧ body' = body.map Instr.gate ∧ name = d.name := by
  constructor
  · intro h
    have hi : IsSelectedInvocation defs sel i :=
      Classical.byContradiction fun hn => by rw [gsfi_of_not_selected stack hn] at h; cases h
    obtain ⟨g, d, rfl, hS⟩ := hi
    obtain ⟨qvars, gates, hs⟩ := hS.2.1
    rcases gsfi_selected_cases stack hS hs with ⟨_, h'⟩ | ⟨_, _, h'⟩ | ⟨_, _, _, h'⟩ | ⟨hpc, hm, hst, h'⟩
      <;> rw [h'] at h
    · cases h
    · cases h
    · cases h
    · split at h
      · cases h
      · next gs hgs =>
        cases h
        obtain ⟨fs, σ, ρ, h⟩ := (expandSeq_ok_iff qvars gates d.params g gs hpc).1 hgs
        exact ⟨g, d, gs, rfl, hS, hm, hst, ⟨qvars, gates, fs, σ, ρ, hs, hpc.symm, h⟩, rfl, rfl⟩
  · rintro ⟨g, d, body, rfl, hS, hm, hst, hinst, rfl, rfl⟩
    exact gsfi_of_instantiates hS hm hst hinst

theorem gsfi_some_name {body : List (Instr K)} {name : String}
    (h : gateSequenceFromInstruction defs sel i stack = .ok (some (body, name))) :
    name ∉ stack ∧ name ∈ defs.map (·.name) := by
  obtain ⟨g, d, b, _, ⟨hf, _, _⟩, _, hns, _, _, rfl⟩ := gsfi_some_iff.1 h
  exact ⟨hns, List.mem_map.2 ⟨d, (findDef_some hf).1, rfl⟩⟩

theorem mapE_ok_exists_iff {α β : Type} (f : α → Except Err β) (l : List α) :
    (∃ bs, mapE f l = .ok bs) ↔ ∀ a ∈ l, ∃ b, f a = .ok b := by
  refine ⟨fun ⟨bs, h⟩ a ha => ?_, fun h => ?_⟩
  · obtain ⟨b, _, hb⟩ := pointwise_mem_left ((mapE_ok_iff f l bs).1 h) ha
    exact ⟨b, hb⟩
  · induction l with
    | nil => exact ⟨[], rfl⟩
    | cons a as ih =>
      obtain ⟨b, hb⟩ := h a (by simp)
      obtain ⟨bs, hbs⟩ := ih fun x hx => h x (by simp [hx])
      exact ⟨b :: bs, by simp [mapE, hb, hbs]⟩

theorem mapE_error_iff {α β : Type} (f : α → Except Err β) (l : List α) (e : Err) :
    mapE f l = .error e ↔
      ∃ pre a post, l = pre ++ a :: post ∧ (∀ x ∈ pre, ∃ b, f x = .ok b) ∧ f a = .error e := by
  induction l with
  | nil => simp [mapE]
  | cons a as ih =>
    constructor
    · intro h
      simp only [mapE] at h
      split at h
      · next e' he' => cases h; exact ⟨[], a, as, rfl, nofun, he'⟩
      · next b hb =>
        split at h
        · next e' hr =>
          cases h
          obtain ⟨pre, x, post, rfl, h2, h3⟩ := ih.1 hr
          exact ⟨a :: pre, x, post, rfl, List.forall_mem_cons.2 ⟨⟨b, hb⟩, h2⟩, h3⟩
        · cases h
    · rintro ⟨pre, x, post, h1, h2, h3⟩
      cases pre with
      | nil => cases h1; simp [mapE, h3]
      | cons y pre =>
        obtain ⟨rfl, rfl⟩ := List.cons.inj h1
        obtain ⟨⟨b, hb⟩, h2⟩ := List.forall_mem_cons.1 h2
        have hr : mapE f (pre ++ x :: post) = .error e := ih.2 ⟨pre, x, post, rfl, h2, h3⟩
        simp [mapE, hb, hr]

theorem mapE_fixed_error_iff (qs : List Qubit) (e : Err) :
    mapE fixedQubit qs = .error e ↔
      ∃ (fs : List Nat) (q : Qubit) (post : List Qubit),
        qs = fs.map Qubit.fixed ++ q :: post ∧ (∀ n, q ≠ Qubit.fixed n) ∧ e = .nonFixedQubit q := by
  rw [mapE_error_iff]
  constructor
  · rintro ⟨pre, q, post, rfl, hpre, hq⟩
    obtain ⟨fs, hfs⟩ := (mapE_ok_exists_iff _ _).2 hpre
    exact ⟨fs, q, post, by rw [(mapE_fixed_ok_iff _ _).1 hfs], (fixedQubit_error_iff _ _).1 hq⟩
  · rintro ⟨fs, q, post, rfl, hq⟩
    refine ⟨_, q, post, rfl, fun x hx => ?_, (fixedQubit_error_iff _ _).2 hq⟩
    obtain ⟨n, _, rfl⟩ := List.mem_map.1 hx
    exact ⟨n, rfl⟩

theorem substQubit_zip_ok_iff (qvars : List String) (fs : List Nat) (hl : qvars.length = fs.length) (q : Qubit) :
    (∃ q', substQubit (qvars.zip (fs.map Qubit.fixed)) q = .ok q') ↔ ∃ v, q = Qubit.var v ∧ v ∈ qvars := by
  simp only [substQubit_ok_iff]
  rw [exists_comm]
  refine exists_congr fun v => ?_
  rw [exists_and_left, lookupLast_zip_exists_iff _ _ _ (by simp [hl])]

theorem substQubit_zip_error_iff (qvars : List String) (fs : List Nat) (hl : qvars.length = fs.length)
    (q : Qubit) (e : Err) :
    substQubit (qvars.zip (fs.map Qubit.fixed)) q = .error e ↔
      ((∀ v, q ≠ Qubit.var v) ∧ e = .invalidElemQubit q) ∨
      (∃ v, q = Qubit.var v ∧ v ∉ qvars ∧ e = .undefinedElemQubit v) := by
  cases q with
  | var v =>
    simp only [substQubit]
    cases hlk : lookupLast (qvars.zip (fs.map Qubit.fixed)) v with
    | some w => simp [(lookupLast_zip_exists_iff _ _ _ (by simp [hl])).1 ⟨w, hlk⟩]
    | none => simp [(lookupLast_zip_none _ _ _ (by simp [hl])).1 hlk, eq_comm]
  | fixed n => simp [substQubit, eq_comm]
  | placeholder k => simp [substQubit, eq_comm]

theorem qubits_bound_iff_map_var (qvars : List String) (pre : List Qubit) :
    (∀ x ∈ pre, ∃ v, x = Qubit.var v ∧ v ∈ qvars) ↔ ∃ vs : List String, pre = vs.map Qubit.var ∧ ∀ v ∈ vs, v ∈ qvars := by
  induction pre with
  | nil => exact ⟨fun _ => ⟨[], rfl, nofun⟩, fun _ => nofun⟩
  | cons x xs ih =>
    rw [List.forall_mem_cons, ih]
    constructor
    · rintro ⟨⟨v, rfl, hv⟩, vs, rfl, hvs⟩
      exact ⟨v :: vs, rfl, List.forall_mem_cons.2 ⟨hv, hvs⟩⟩
    · rintro ⟨_ | ⟨v, vs⟩, h, hvs⟩
      · cases h
      · cases h
        obtain ⟨hv, hvs⟩ := List.forall_mem_cons.1 hvs
        exact ⟨⟨v, rfl, hv⟩, vs, rfl, hvs⟩

theorem substGate_zip_ok_iff (pm : List (String × Expr K)) (qvars : List String) (fs : List Nat)
    (hl : qvars.length = fs.length) (e : Gate K) :
    (∃ b, substGate pm (qvars.zip (fs.map Qubit.fixed)) e = .ok b) ↔ BoundQubits qvars e := by
  unfold BoundQubits
  rw [← show (∀ a ∈ e.qubits, ∃ b, substQubit (qvars.zip (fs.map Qubit.fixed)) a = .ok b) ↔ _ from
    forall_congr' fun q => imp_congr_right fun _ => substQubit_zip_ok_iff qvars fs hl q]
  rw [← mapE_ok_exists_iff]
  unfold substGate
  constructor
  · rintro ⟨b, h⟩
    split at h
    · cases h
    · rename_i qs hqs; exact ⟨qs, hqs⟩
  · rintro ⟨qs, hqs⟩
    simp [hqs]

/-- `hw` is what `WellFormed` (validation by `DefGateSequence::try_new`) says of one definition -/
theorem substGates_total (pm : List (String × Expr K)) (qvars : List String) (fs : List Nat)
    (gates : List (Gate K)) (hl : qvars.length = fs.length)
    (hw : ∀ e ∈ gates, ∀ q ∈ e.qubits, ∃ v, q = Qubit.var v ∧ v ∈ qvars) :
    ∃ bs, mapE (substGate pm (qvars.zip (fs.map Qubit.fixed))) gates = .ok bs :=
  (mapE_ok_exists_iff _ _).2 fun e he => (substGate_zip_ok_iff pm qvars fs hl e).2 (hw e he)

theorem substGate_error_iff (pm : List (String × Expr K)) (qm : List (String × Qubit)) (e : Gate K) (err : Err) :
    substGate pm qm e = .error err ↔ mapE (substQubit qm) e.qubits = .error err := by
  unfold substGate
  cases h : mapE (substQubit qm) e.qubits with
  | error e' => simp
  | ok qs => simp

theorem mapE_substGate_error_iff (pm : List (String × Expr K)) (qvars : List String) (fs : List Nat)
    (hl : qvars.length = fs.length) (gates : List (Gate K)) (err : Err) :
    mapE (substGate pm (qvars.zip (fs.map Qubit.fixed))) gates = .error err ↔ ElemErr qvars gates err := by
  rw [mapE_error_iff]
  constructor
  · rintro ⟨pre, e, post, h1, h2, h3⟩
    subst h1
    have hpre : ∀ e' ∈ pre, BoundQubits qvars e' := fun e' he' =>
      (substGate_zip_ok_iff pm qvars fs hl e').1 (h2 e' he')
    rw [substGate_error_iff, mapE_error_iff] at h3
    obtain ⟨qpre, q, rest, hq1, hq2, hq3⟩ := h3
    have hb : ∀ x ∈ qpre, ∃ v, x = Qubit.var v ∧ v ∈ qvars := fun x hx =>
      (substQubit_zip_ok_iff qvars fs hl x).1 (hq2 x hx)
    obtain ⟨vs, hvs, hvm⟩ := (qubits_bound_iff_map_var qvars qpre).1 hb
    subst hvs
    rcases (substQubit_zip_error_iff qvars fs hl q err).1 hq3 with ⟨hnv, he⟩ | ⟨v, hv, hnm, he⟩
    · subst he; exact .invalid hpre hq1 hvm hnv
    · subst he; subst hv; exact .undefined hpre hq1 hvm hnm
  · intro h
    cases h with
    | @invalid pre e post vs q rest hpre hq hvs hnv =>
      refine ⟨pre, e, post, rfl, fun x hx => (substGate_zip_ok_iff pm qvars fs hl x).2 (hpre x hx), ?_⟩
      rw [substGate_error_iff, mapE_error_iff]
      refine ⟨vs.map Qubit.var, q, rest, hq, ?_, ?_⟩
      · intro x hx
        exact (substQubit_zip_ok_iff qvars fs hl x).2 ((qubits_bound_iff_map_var qvars _).2 ⟨vs, rfl, hvs⟩ x hx)
      · exact (substQubit_zip_error_iff qvars fs hl q _).2 (.inl ⟨hnv, rfl⟩)
    | @undefined pre e post vs v rest hpre hq hvs hnm =>
      refine ⟨pre, e, post, rfl, fun x hx => (substGate_zip_ok_iff pm qvars fs hl x).2 (hpre x hx), ?_⟩
      rw [substGate_error_iff, mapE_error_iff]
      refine ⟨vs.map Qubit.var, .var v, rest, hq, ?_, ?_⟩
      · intro x hx
        exact (substQubit_zip_ok_iff qvars fs hl x).2 ((qubits_bound_iff_map_var qvars _).2 ⟨vs, rfl, hvs⟩ x hx)
      · exact (substQubit_zip_error_iff qvars fs hl _ _).2 (.inr ⟨v, rfl, hnm, rfl⟩)

theorem expandSeq_error_iff (qvars : List String) (gates : List (Gate K)) (pm : List (String × Expr K))
    (qargs : List Qubit) (e : Err) :
    expandSeq qvars gates pm qargs = .error e ↔
      (qargs.length ≠ qvars.length ∧ e = .qubitCount qvars.length qargs.length) ∨
      (qargs.length = qvars.length ∧ ∃ (fs : List Nat) (q : Qubit) (post : List Qubit),
        qargs = fs.map Qubit.fixed ++ q :: post ∧ (∀ n, q ≠ Qubit.fixed n) ∧ e = .nonFixedQubit q) ∨
      (qargs.length = qvars.length ∧ ∃ fs : List Nat, qargs = fs.map Qubit.fixed ∧ ElemErr qvars gates e) := by
  unfold expandSeq
  constructor
  · intro h
    split at h
    · next hlen => cases h; exact .inl ⟨hlen, rfl⟩
    · next hlen =>
      have hlen := Decidable.not_not.1 hlen
      split at h
      · next e' hf => cases h; exact .inr (.inl ⟨hlen, (mapE_fixed_error_iff _ _).1 hf⟩)
      · next fs hf =>
        have hq := (mapE_fixed_ok_iff _ _).1 hf
        exact .inr (.inr ⟨hlen, fs, hq,
          (mapE_substGate_error_iff pm qvars fs (by rw [← hlen, hq, List.length_map]) gates e).1 h⟩)
  · rintro (⟨hlen, rfl⟩ | ⟨hlen, h⟩ | ⟨hlen, fs, hq, h⟩)
    · rw [if_pos hlen]
    · rw [if_neg (· hlen), (mapE_fixed_error_iff _ _).2 h]
    · rw [if_neg (· hlen), (mapE_fixed_ok_iff _ _).2 hq]
      exact (mapE_substGate_error_iff pm qvars fs (by rw [← hlen, hq, List.length_map]) gates e).2 h

theorem gsfi_error_iff {e : Err} :
    gateSequenceFromInstruction defs sel i stack = .error e ↔ LocalErr defs sel stack i e := by
  constructor
  · intro h
    have hi : IsSelectedInvocation defs sel i :=
      Classical.byContradiction fun hn => by rw [gsfi_of_not_selected stack hn] at h; cases h
    obtain ⟨g, d, rfl, hS⟩ := hi
    obtain ⟨qvars, gates, hs⟩ := hS.2.1
    rcases gsfi_selected_cases stack hS hs with ⟨hpc, h'⟩ | ⟨hpc, hm, h'⟩ | ⟨hpc, hm, hst, h'⟩ | ⟨hpc, hm, hst, h'⟩
      <;> rw [h'] at h
    · cases h; exact .paramCount hS hpc
    · cases h; exact .modifiers hS hpc hm
    · cases h; exact .cyclic hS hpc hm hst
    · split at h
      · next e' he' =>
        cases h
        rcases (expandSeq_error_iff _ _ _ _ _).1 he' with ⟨h1, rfl⟩ | ⟨h1, fs, q, post, h2, h3, rfl⟩ | ⟨h1, fs, h2, h3⟩
        · exact .qubitCount hS hpc hm hst hs h1
        · exact .nonFixed hS hpc hm hst hs h1 h2 h3
        · exact .elem hS hpc hm hst hs h1 h2 h3
      · cases h
  · intro h
    cases h with
    | paramCount hS hpc => exact gsfi_paramCount stack hS hpc
    | modifiers hS hpc hm => exact gsfi_modifiers stack hS hpc hm
    | cyclic hS hpc hm hst => exact gsfi_cyclic hS hpc hm hst
    | qubitCount hS hpc hm hst hs h1 =>
      rw [gsfi_of_checks_passed hS hs hpc hm hst, (expandSeq_error_iff _ _ _ _ _).2 (.inl ⟨h1, rfl⟩)]
    | nonFixed hS hpc hm hst hs h1 h2 h3 =>
      rw [gsfi_of_checks_passed hS hs hpc hm hst,
        (expandSeq_error_iff _ _ _ _ _).2 (.inr (.inl ⟨h1, _, _, _, h2, h3, rfl⟩))]
    | elem hS hpc hm hst hs h1 h2 h3 =>
      rw [gsfi_of_checks_passed hS hs hpc hm hst, (expandSeq_error_iff _ _ _ _ _).2 (.inr (.inr ⟨h1, _, h2, h3⟩))]

end QV.C20
