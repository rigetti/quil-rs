import QV.C20.Loops
import QV.C20.Kept
import QV.C20.Pure
/-
C20 — Gate-sequence expansion substitutes correctly and keeps needed definitions.

"Expanding sequence gate definitions replaces each selected invocation with the sequence's gates, with
formal parameters and qubits substituted, recursively. Unselected invocations and all other instructions
stay unchanged. A sequence definition is kept iff it is unselected or reachable from an unselected
sequence, cycles and arity or modifier misuse are reported as errors, and expansion always terminates."

All theorems are about the model in `Model.lean` (tied to quil-rs by the correspondence run), for every
list of definitions, every filter, every body, with no size bound. The declarative side is `Spec.lean`.
-/
namespace QV.C20
variable {K : Type}

/-- **Termination.** Below any stack, as soon as the fuel exceeds the number of definitions that are not yet
on the stack (the invariant of the induction), the expansion does not run out of fuel: the Rust recursion
is bounded, because every nested expansion pushes a definition name that is not yet on the stack. -/
theorem C20_terminates_general (defs : List (Def K)) (sel : String → Bool) (fuel : Nat) (stack : List String)
    (src : List (Instr K)) (h : remaining defs stack < fuel) :
    expandFuel defs sel fuel stack src ≠ .outOfFuel :=
  (expandFuel_says defs sel fuel stack h src).2.2

/-- **Expansion always terminates**: from the empty stack, with the `defs.length + 1` units of fuel `expand` starts
with, the model does not run out of fuel. -/
theorem C20_terminates (defs : List (Def K)) (sel : String → Bool) (src : List (Instr K)) :
    expand defs sel src ≠ .outOfFuel :=
  C20_terminates_general defs sel _ [] src (remaining_nil_lt defs)

/-- **Substitution correctness (success case), both directions.** The expansion returns `out` exactly
when `out` is the recursive replacement of every selected invocation by its instantiated sequence
(`Expands`, a big-step relation that does not mention the algorithm), everything else copied in order. -/
theorem C20_expand_ok_iff (defs : List (Def K)) (sel : String → Bool) (src out : List (Instr K)) :
    expand defs sel src = .ok out ↔ Expands defs sel [] src out :=
  (expandFuel_says defs sel _ [] (remaining_nil_lt defs) src).1 out

/-- For successes the amount of fuel does not matter once it exceeds the number of definitions (for every outcome:
`expandFuel_eq_of_lt`). -/
theorem C20_fuel_irrelevant_ok (defs : List (Def K)) (sel : String → Bool) (fuel : Nat) (src out : List (Instr K))
    (h : defs.length < fuel) :
    expandFuel defs sel fuel [] src = .ok out ↔ expand defs sel src = .ok out := by
  rw [expand, expandFuel_eq_of_lt defs sel [] (Nat.lt_of_lt_of_le (remaining_nil_lt defs) h) (remaining_nil_lt defs)]

theorem expands_pure {defs : List (Def K)} {sel : String → Bool} {stack : List String} {src out : List (Instr K)}
    (h : Expands defs sel stack src out) : ExpandsPure defs sel src out := by
  induction h with
  | nil => exact .nil
  | keep hn _ ih => exact .keep hn ih
  | unfold hsel hm _ hinst _ _ ih1 ih2 => exact .unfold hsel hm hinst ih1 ih2

/-- **Soundness against the stack-free specification.** -/
theorem C20_expand_sound (defs : List (Def K)) (sel : String → Bool) (src out : List (Instr K))
    (h : expand defs sel src = .ok out) : ExpandsPure defs sel src out :=
  expands_pure ((C20_expand_ok_iff defs sel src out).1 h)

theorem selected_unique {defs : List (Def K)} {sel : String → Bool} {g : Gate K} {d d' : Def K}
    (h : Selected defs sel g d) (h' : Selected defs sel g d') : d = d' :=
  h.unique h'

theorem instantiates_unique {d : Def K} {g : Gate K} {b b' : List (Gate K)}
    (h : Instantiates d g b) (h' : Instantiates d g b') : b = b' :=
  h.unique h'

/-- **The specification is functional**: plain recursive substitution has at most one result, so
`C20_expand_sound` pins the output down completely. -/
theorem expandsPure_unique {defs : List (Def K)} {sel : String → Bool} {src o1 o2 : List (Instr K)}
    (h1 : ExpandsPure defs sel src o1) (h2 : ExpandsPure defs sel src o2) : o1 = o2 := by
  induction h1 generalizing o2 with
  | nil => cases h2; rfl
  | keep hn _ ih =>
    cases h2 with
    | keep _ h => rw [ih h]
    | unfold hsel _ _ _ _ => exact absurd ⟨_, _, rfl, hsel⟩ hn
  | unfold hsel _ hinst _ _ ih1 ih2 =>
    cases h2 with
    | keep hn _ => exact absurd ⟨_, _, rfl, hsel⟩ hn
    | unfold hsel' _ hinst' hb hr =>
      cases selected_unique hsel hsel'
      cases instantiates_unique hinst hinst'
      rw [ih1 hb, ih2 hr]

/-- **Unselected invocations and all other instructions stay unchanged**: a body without selected
invocations is returned as is, … -/
theorem C20_unselected_unchanged (defs : List (Def K)) (sel : String → Bool) (src : List (Instr K))
    (h : ∀ i ∈ src, ¬ IsSelectedInvocation defs sel i) : expand defs sel src = .ok src := by
  rw [C20_expand_ok_iff]
  induction src with
  | nil => exact .nil _
  | cons i rest ih =>
    exact .keep (h i (by simp)) (ih fun j hj => h j (by simp [hj]))

/-- … and in general the instructions that are not selected invocations appear in the output unchanged
and in their original order (the output contains them as a subsequence). -/
theorem C20_others_in_order (defs : List (Def K)) (sel : String → Bool) (stack : List String)
    (src out : List (Instr K)) (h : Expands defs sel stack src out) (p : Instr K → Bool)
    (hp : ∀ i, p i = true → ¬ IsSelectedInvocation defs sel i) :
    (src.filter p).Sublist out := by
  induction h with
  | nil => simp
  | @keep stack i rest out hn _ ih =>
    simp only [List.filter_cons]
    split
    · exact ih.cons₂ _
    · exact ih.cons _
  | @unfold stack g d body b rest out hsel _ _ _ _ _ _ ih2 =>
    have : p (.gate g) = false := by
      cases hpg : p (.gate g) with
      | false => rfl
      | true => exact absurd ⟨_, _, rfl, hsel⟩ (hp _ hpg)
    simp only [List.filter_cons, this]
    exact (ih2.trans (List.sublist_append_right b out))

/-- **Positional binding.** With pairwise distinct formals, the `i`-th formal is bound to the `i`-th actual. -/
theorem binds_of_nodup {V : Type} (formals : List String) (actuals : List V) (hn : formals.Nodup)
    (i : Nat) (v : String) (a : V) (hv : formals[i]? = some v) (ha : actuals[i]? = some a) :
    Binds formals actuals v a :=
  ⟨i, hv, ha, fun _ hj hc =>
    Nat.ne_of_lt hj ((List.getElem?_inj (List.getElem?_eq_some_iff.1 hv).1 hn).1 (hv.trans hc.symm))⟩

/-- **Kept definitions.** A definition is retained iff it is not an AS SEQUENCE definition, or is not
selected, or is reachable (reflexive-transitive closure of "mentions", through selected and unselected
sequence definitions alike) from an unselected sequence definition. -/
theorem C20_kept_iff (defs : List (Def K)) (sel : String → Bool) (d : Def K) :
    d ∈ keptDefs defs sel ↔ d ∈ defs ∧ Kept defs sel d := by
  unfold keptDefs Kept
  rw [List.mem_filter]
  apply and_congr_right
  intro _
  cases hs : d.spec with
  | other => simp
  | seq qvars gates =>
    simp only [Bool.or_eq_true, Bool.not_eq_eq_eq_not, Bool.not_true, List.contains_eq_mem,
      decide_eq_true_eq, mem_reachFrom_iff, List.mem_filter, reduceCtorEq, false_or]
    constructor
    · rintro (h | ⟨u, ⟨hu, hsu⟩, hr⟩)
      · exact .inl h
      · exact .inr ⟨u, hu, hsu, hr⟩
    · rintro (h | ⟨u, hu, hsu, hr⟩)
      · exact .inl h
      · exact .inr ⟨u, ⟨hu, hsu⟩, hr⟩

/-- The literal per-pair formulation (one `has_path_connecting` query per pair, as the Rust loops run it)
retains the same definitions as the single closure the drivers compute. -/
theorem keptDefs_eq_pairwise (defs : List (Def K)) (sel : String → Bool) :
    keptDefs defs sel = keptDefsPairwise defs sel := by
  unfold keptDefs keptDefsPairwise
  apply List.filter_congr
  intro d _
  cases hs : d.spec with
  | other => rfl
  | seq qvars gates =>
    simp only
    congr 1
    rw [Bool.eq_iff_iff]
    simp only [List.contains_eq_mem, decide_eq_true_eq, mem_reachFrom_iff, List.mem_filter,
      Bool.not_eq_eq_eq_not, Bool.not_true, referencedByUnselected, List.any_eq_true, Bool.and_eq_true,
      reach_iff]
    constructor
    · rintro ⟨u, ⟨hu, hsu⟩, hr⟩; exact ⟨u, hu, hsu, hr⟩
    · rintro ⟨u, hu, hsu, hr⟩; exact ⟨u, ⟨hu, hsu⟩, hr⟩

/-- The retained definitions keep their original relative order. -/
theorem C20_kept_order (defs : List (Def K)) (sel : String → Bool) : (keptDefs defs sel).Sublist defs :=
  List.filter_sublist

/-- An unselected sequence definition keeps every sequence definition its body mentions, transitively. -/
theorem C20_kept_closed (defs : List (Def K)) (sel : String → Bool) (u d : Def K)
    (hu : u ∈ defs) (hus : ∃ qv gs, u.spec = .seq qv gs) (hsel : sel u.name = false)
    (hd : d ∈ defs) (hr : Reach defs u.name d.name) : d ∈ keptDefs defs sel := by
  rw [C20_kept_iff]
  refine ⟨hd, .inr (.inr ⟨u.name, ?_, hsel, hr⟩)⟩
  obtain ⟨qv, gs, hs⟩ := hus
  exact List.mem_filterMap.2 ⟨u, hu, by simp [hs]⟩

/-- **Errors, exactly** — for *all* definitions, including ones that bypassed `DefGateSequence::try_new`
(`LocalErr.elem` covers the two defensive element-qubit errors): the expansion returns error `e` iff `e` is
the report of the first misuse met in depth-first program order (`ErrAt`). -/
theorem C20_expand_err_iff (defs : List (Def K)) (sel : String → Bool)
    (src : List (Instr K)) (e : Err) :
    expand defs sel src = .err e ↔ ErrAt defs sel [] src e :=
  (expandFuel_says defs sel _ [] (remaining_nil_lt defs) src).2.1 e

/-- For definitions as `DefGateSequence::try_new` validates them, the two defensive element-qubit errors
never occur (the element case of `LocalErr` is vacuous). -/
theorem C20_wellFormed_no_elemErr (defs : List (Def K)) (hw : WellFormed defs) (d : Def K) (hd : d ∈ defs)
    (qvars : List String) (gates : List (Gate K)) (hs : d.spec = .seq qvars gates) (e : Err) :
    ¬ ElemErr qvars gates e := by
  have hb : ∀ e' ∈ gates, BoundQubits qvars e' := fun e' he' => hw d hd qvars gates hs e' he'
  intro h
  cases h with
  | @invalid pre e0 post vs q rest _ hq _ hnv =>
    obtain ⟨v, hv, _⟩ := hb e0 (by simp) q (by rw [hq]; simp)
    exact hnv v hv
  | @undefined pre e0 post vs v rest _ hq _ hnm =>
    obtain ⟨v', hv, hm⟩ := hb e0 (by simp) (.var v) (by rw [hq]; simp)
    cases hv; exact hnm hm

/-- **Totality**: every expansion either succeeds or reports an error. -/
theorem C20_total (defs : List (Def K)) (sel : String → Bool) (src : List (Instr K)) :
    (∃ out, expand defs sel src = .ok out) ∨ (∃ e, expand defs sel src = .err e) := by
  cases h : expand defs sel src with
  | ok out => exact .inl ⟨out, rfl⟩
  | err e => exact .inr ⟨e, rfl⟩
  | outOfFuel => exact absurd h (C20_terminates defs sel src)

private theorem err_iff_not_ok (defs : List (Def K)) (sel : String → Bool) (src : List (Instr K)) :
    (∃ e, expand defs sel src = .err e) ↔ ¬ ∃ out, expand defs sel src = .ok out := by
  have := C20_terminates defs sel src
  cases h : expand defs sel src <;> simp_all

/-- **Cycles and arity or modifier misuse are reported as errors** (order-free form): the expansion fails
iff some misuse — wrong parameter count, modifiers, a definition invoked inside its own expansion, wrong
qubit count, a non-fixed qubit, a malformed element of an unvalidated definition — is reachable from the body
through selected invocations. -/
theorem C20_error_iff_bad (defs : List (Def K)) (sel : String → Bool)
    (src : List (Instr K)) :
    (∃ e, expand defs sel src = .err e) ↔ Bad defs sel [] src :=
  ⟨fun ⟨e, h⟩ => errAt_bad ((C20_expand_err_iff defs sel src e).1 h),
    fun hb => (err_iff_not_ok defs sel src).2 fun ⟨out, h⟩ =>
      bad_not_expands hb out ((C20_expand_ok_iff defs sel src out).1 h)⟩

/-- A cycle error carries a stack that extends the current one and contains the name of a selected definition. -/
theorem C20_cyclic_error_sound (defs : List (Def K)) (sel : String → Bool)
    (stack : List String) (src : List (Instr K)) (names : List String)
    (h : ErrAt defs sel stack src (.cyclic names)) :
    ∃ g d, Selected defs sel g d ∧ d.name ∈ names ∧ stack <+: names := by
  generalize he : Err.cyclic names = e at h
  induction h with
  | here hl =>
    cases hl with
    | cyclic hsel _ _ hin => cases he; exact ⟨_, _, hsel, hin, List.prefix_refl _⟩
    | paramCount => cases he
    | modifiers => cases he
    | qubitCount => cases he
    | nonFixed => cases he
    | elem _ _ _ _ _ _ _ hel => cases hel <;> cases he
  | inside _ _ _ _ _ ih =>
    obtain ⟨g, d, h1, h2, h3⟩ := ih he
    exact ⟨g, d, h1, h2, (List.prefix_append _ _).trans h3⟩
  | later _ _ ih => exact ih he

/-- With no selected definition nothing is expanded and nothing can fail. -/
theorem C20_nothing_selected (defs : List (Def K)) (src : List (Instr K)) :
    expand defs (fun _ => false) src = .ok src := by
  apply C20_unselected_unchanged
  rintro i _ ⟨g, d, _, _, _, h⟩
  cases h

/-- **Completeness against the stack-free specification**: whenever plain recursive substitution has a
(finite) result, the enclosing-expansion bookkeeping never fires. -/
theorem expandsPure_expands {defs : List (Def K)} {sel : String → Bool} {src out : List (Instr K)}
    (h : ExpandsPure defs sel src out) : Expands defs sel [] src out := by
  obtain ⟨n, hn⟩ := expandsPure_sized h
  exact expandsPureN_expands hn [] (by simp)

/-- **Substitution correctness against the stack-free relation, both directions.** -/
theorem C20_expand_ok_iff_pure (defs : List (Def K)) (sel : String → Bool) (src out : List (Instr K)) :
    expand defs sel src = .ok out ↔ ExpandsPure defs sel src out :=
  ⟨C20_expand_sound defs sel src out, fun h => (C20_expand_ok_iff defs sel src out).2 (expandsPure_expands h)⟩

/-- … hence: the expansion reports an error exactly when plain recursive substitution has no result, … -/
theorem C20_error_iff_no_pure (defs : List (Def K)) (sel : String → Bool) (src : List (Instr K)) :
    (∃ e, expand defs sel src = .err e) ↔ ¬ ∃ out, ExpandsPure defs sel src out :=
  (err_iff_not_ok defs sel src).trans
    (not_congr (exists_congr fun out => C20_expand_ok_iff_pure defs sel src out))

/-- … and that is exactly when some misuse or cycle is reachable (`Bad`). -/
theorem C20_pure_iff_not_bad (defs : List (Def K)) (sel : String → Bool) (src : List (Instr K)) :
    (∃ out, ExpandsPure defs sel src out) ↔ ¬ Bad defs sel [] src := by
  rw [← C20_error_iff_bad, C20_error_iff_no_pure]
  exact ⟨fun h hn => hn h, fun h => Classical.byContradiction h⟩

/-- **The second Bool oracle decides the stack-free specification.** -/
theorem C20_verifyPure_iff [DecidableEq K] (defs : List (Def K)) (sel : String → Bool) (src out : List (Instr K)) :
    verifyPure defs sel (defs.map (·.name)) src out = some [] ↔ ExpandsPure defs sel src out := by
  rw [verifyPure_iff defs sel _ src out [] ⟨fun n hn _ => hn, by simp⟩ []]
  constructor
  · rintro ⟨o, h1, h2⟩
    simp at h1; subst h1
    exact expands_pure h2
  · intro h
    exact ⟨out, by simp, expandsPure_expands h⟩

/-- **The Bool set of applicable misuse kinds decides `MisuseAt`.** -/
theorem C20_misuseKinds_iff (defs : List (Def K)) (sel : String → Bool) (src : List (Instr K)) (k : Kind) :
    k ∈ misuseKinds defs sel src ↔ MisuseAt defs sel [] src k :=
  kindsFuel_iff defs sel _ [] (remaining_nil_lt defs) src k

/-- **The model's own error is always one of the applicable kinds** (so an implementation that tests the
conditions in another order, or meets another misused invocation first, reports a member of the same set). -/
theorem C20_model_error_applicable (defs : List (Def K)) (sel : String → Bool) (src : List (Instr K)) (e : Err)
    (h : expand defs sel src = .err e) : e.kind ∈ misuseKinds defs sel src :=
  (C20_misuseKinds_iff defs sel src e.kind).2 (errAt_misuseAt ((C20_expand_err_iff defs sel src e).1 h))

/-- **`misuseKinds` is non-empty exactly when the expansion must fail.** -/
theorem C20_error_iff_misuse (defs : List (Def K)) (sel : String → Bool) (src : List (Instr K)) :
    (∃ e, expand defs sel src = .err e) ↔ ∃ k, k ∈ misuseKinds defs sel src := by
  constructor
  · rintro ⟨e, he⟩; exact ⟨e.kind, C20_model_error_applicable defs sel src e he⟩
  · rintro ⟨k, hk⟩
    exact (C20_error_iff_bad defs sel src).2 (misuseAt_bad ((C20_misuseKinds_iff defs sel src k).1 hk))

/-- … in particular a successful expansion has no applicable misuse (the driver's shortcut). -/
theorem C20_ok_no_misuse (defs : List (Def K)) (sel : String → Bool) (src out : List (Instr K))
    (h : expand defs sel src = .ok out) : misuseKinds defs sel src = [] := by
  cases hk : misuseKinds defs sel src with
  | nil => rfl
  | cons k ks =>
    obtain ⟨e, he⟩ := (C20_error_iff_misuse defs sel src).2 ⟨k, by rw [hk]; simp⟩
    rw [h] at he; cases he

section Examples

private def rz (p : Expr Nat) (q : Qubit) : Gate Nat := { name := "RZ", params := [p], qubits := [q], mods := [] }
/-- `DEFGATE a(%x) q r AS SEQUENCE: RZ(%x) q; b(%x+1) r`, `DEFGATE b(%y) q AS SEQUENCE: RZ(%y) q; RZ(2) q` -/
private def exDefs : List (Def Nat) :=
  [ { name := "a", params := ["x"], spec := .seq ["q", "r"]
        [rz (.var "x") (.var "q"),
         { name := "b", params := [.bin (.var "x") .plus (.number 1)], qubits := [.var "r"], mods := [] }] },
    { name := "b", params := ["y"], spec := .seq ["q"] [rz (.var "y") (.var "q"), rz (.number 2) (.var "q")] },
    { name := "m", params := [], spec := .other } ]
private def inv (n : String) (p : Expr Nat) (qs : List Qubit) : Instr Nat :=
  .gate { name := n, params := [p], qubits := qs, mods := [] }

/-- nested expansion with parameter and qubit substitution, other instructions untouched -/
example : expand exDefs (fun _ => true) [.other 1, inv "a" (.number 7) [.fixed 3, .fixed 4], inv "m" .pi [.fixed 0]]
    = .ok [.other 1, .gate (rz (.number 7) (.fixed 3)),
           .gate (rz (.bin (.number 7) .plus (.number 1)) (.fixed 4)), .gate (rz (.number 2) (.fixed 4)),
           inv "m" .pi [.fixed 0]] := by decide +kernel

/-- only `a` selected: the inner `b` invocation stays, and `b` is kept because it is itself unselected -/
example : expand exDefs (fun n => n == "a") [inv "a" (.number 7) [.fixed 3, .fixed 4]]
    = .ok [.gate (rz (.number 7) (.fixed 3)), inv "b" (.bin (.number 7) .plus (.number 1)) [.fixed 4]] := by decide +kernel
example : (keptDefs exDefs (fun n => n == "a")).map (·.name) = ["b", "m"] := by decide +kernel
/-- only `b` selected: `a` is unselected and mentions `b`, so `b` is kept although selected -/
example : (keptDefs exDefs (fun n => n == "b")).map (·.name) = ["a", "b", "m"] := by decide +kernel
example : (keptDefs exDefs (fun _ => true)).map (·.name) = ["m"] := by decide +kernel

example : expand exDefs (fun _ => true) [.gate { name := "b", params := [], qubits := [.fixed 0], mods := [] }]
    = .err (.paramCount 1 0) := by decide +kernel
example : expand exDefs (fun _ => true) [.gate { name := "b", params := [.pi], qubits := [.fixed 0], mods := [.dagger] }]
    = .err (.modifiers [.dagger]) := by decide +kernel
example : expand exDefs (fun _ => true) [inv "a" .pi [.fixed 0, .var "q"]] = .err (.nonFixedQubit (.var "q")) := by decide +kernel
private def cyc : List (Def Nat) :=
  [ { name := "a", params := [], spec := .seq ["q"] [{ name := "b", params := [], qubits := [.var "q"], mods := [] }] },
    { name := "b", params := [], spec := .seq ["q"] [{ name := "a", params := [], qubits := [.var "q"], mods := [] }] } ]
example : expand cyc (fun _ => true) [.gate { name := "a", params := [], qubits := [.fixed 0], mods := [] }]
    = .err (.cyclic ["a", "b"]) := by decide +kernel
/-- the same cycle is harmless when `b` is not selected -/
example : expand cyc (fun n => n == "a") [.gate { name := "a", params := [], qubits := [.fixed 0], mods := [] }]
    = .ok [.gate { name := "b", params := [], qubits := [.fixed 0], mods := [] }] := by decide +kernel
private def g0 (n : String) (qs : List Qubit) : Gate Nat := { name := n, params := [], qubits := qs, mods := [] }
/-- an invocation with BOTH a wrong parameter count and modifiers: the model reports the parameter count,
an implementation may equally report the modifiers — both kinds are applicable -/
example : misuseKinds exDefs (fun _ => true)
    [.gate { name := "b", params := [], qubits := [.fixed 0], mods := [.dagger] }] = [.paramCount, .modifiers] := by
  decide +kernel
/-- misuse of a later, independent invocation is applicable too -/
example : misuseKinds exDefs (fun _ => true)
    [.gate { name := "b", params := [], qubits := [.fixed 0], mods := [] }, inv "a" .pi [.fixed 0, .var "q"]]
    = [.paramCount, .nonFixed] := by decide +kernel
/-- definitions that bypassed `try_new`: a fixed element qubit, an unbound qubit variable -/
private def badFixed : List (Def Nat) :=
  [ { name := "a", params := [], spec := .seq ["q"] [g0 "H" [.var "q", .fixed 0]] } ]
private def badUnbound : List (Def Nat) :=
  [ { name := "a", params := [], spec := .seq ["q"] [g0 "H" [.var "q"], g0 "X" [.var "r"]] } ]
example : expand badFixed (fun _ => true) [.gate (g0 "a" [.fixed 5])] = .err (.invalidElemQubit (.fixed 0)) := by
  decide +kernel
example : expand badUnbound (fun _ => true) [.gate (g0 "a" [.fixed 5])] = .err (.undefinedElemQubit "r") := by
  decide +kernel
/-- the hypothesis of `C20_wellFormed_no_elemErr` is satisfiable -/
example : WellFormed exDefs := by
  intro d hd qv gs hs e he q hq
  simp [exDefs] at hd
  rcases hd with rfl | rfl | rfl <;> simp at hs
  · obtain ⟨rfl, rfl⟩ := hs
    simp [rz] at he
    rcases he with rfl | rfl <;> simp at hq <;> subst hq <;> simp
  · obtain ⟨rfl, rfl⟩ := hs
    simp [rz] at he
    rcases he with rfl | rfl <;> simp at hq <;> subst hq <;> simp

end Examples

/-- A successful expansion leaves no selected invocation behind, … -/
theorem C20_output_no_selected {defs : List (Def K)} {sel : String → Bool} {stack : List String}
    {src out : List (Instr K)} (h : Expands defs sel stack src out) :
    ∀ i ∈ out, ¬ IsSelectedInvocation defs sel i := by
  induction h with
  | nil => simp
  | keep hn _ ih =>
    intro i hi
    cases hi with
    | head => exact hn
    | tail _ hi' => exact ih i hi'
  | unfold _ _ _ _ _ _ ih1 ih2 =>
    intro i hi
    rcases List.mem_append.1 hi with hi | hi
    · exact ih1 i hi
    · exact ih2 i hi

/-- … so expanding the result again changes nothing. -/
theorem C20_expand_idempotent (defs : List (Def K)) (sel : String → Bool) (src out : List (Instr K))
    (h : expand defs sel src = .ok out) : expand defs sel out = .ok out :=
  C20_unselected_unchanged defs sel out (C20_output_no_selected ((C20_expand_ok_iff defs sel src out).1 h))

/-- **Positional substitution.** If the definition's formal parameters are pairwise distinct, the
instantiated body is the definition's gates with every parameter expression substituted by a `σ` that maps
the `i`-th formal to the `i`-th argument and nothing else; names and modifiers are those of the elements. -/
theorem C20_instantiates_positional {d : Def K} {g : Gate K} {body : List (Gate K)}
    (h : Instantiates d g body) (hn : d.params.Nodup) :
    ∃ (qvars : List String) (gates : List (Gate K)) (σ : String → Option (Expr K)),
      d.spec = .seq qvars gates ∧
      (∀ (i : Nat) v a, d.params[i]? = some v → g.params[i]? = some a → σ v = some a) ∧
      (∀ v, v ∉ d.params → σ v = none) ∧
      Pointwise (fun e b => b.name = e.name ∧ b.mods = e.mods ∧ b.params = e.params.map (subst σ)) gates body := by
  obtain ⟨qv, gs, fs, σ, ρ, hs, _, _, _, hσ, _, hpw⟩ := h
  refine ⟨qv, gs, σ, hs, ?_, ?_, pointwise_mono (fun e b hb => ⟨hb.name, hb.mods, hb.params⟩) hpw⟩
  · intro i v a hv ha
    exact (hσ v a).2 (binds_of_nodup _ _ hn i v a hv ha)
  · intro v hv
    cases hsv : σ v with
    | none => rfl
    | some a =>
      obtain ⟨i, hi, _⟩ := (hσ v a).1 hsv
      exact absurd (List.mem_of_getElem? hi) hv

/-- … and each qubit of each element is the fixed qubit argument bound to that qubit variable. -/
theorem C20_instantiates_qubits {d : Def K} {g : Gate K} {body : List (Gate K)}
    (h : Instantiates d g body) :
    ∃ (qvars : List String) (gates : List (Gate K)) (ρ : String → Option Qubit),
      d.spec = .seq qvars gates ∧ IsBinding qvars g.qubits ρ ∧
      Pointwise (fun e b => Pointwise (fun eq bq => ∃ v, eq = Qubit.var v ∧ ρ v = some bq) e.qubits b.qubits)
        gates body := by
  obtain ⟨qv, gs, fs, σ, ρ, hs, _, _, _, _, hρ, hpw⟩ := h
  exact ⟨qv, gs, ρ, hs, hρ, pointwise_mono (fun e b hb => hb.qubits) hpw⟩

end QV.C20
