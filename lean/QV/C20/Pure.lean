import QV.C20.Invocation
/-! C20, the stack-free relation: a finite `ExpandsPure` derivation contains no cycle, so it is an `Expands`
derivation below the empty stack; the verifier `verifyPure` against `Expands`. -/
namespace QV.C20
variable {K : Type} {defs : List (Def K)} {sel : String → Bool} {stack : List String}
  {g : Gate K} {d : Def K} {i : Instr K}

/-- `ExpandsPure` with a bound on the nesting depth of unfoldings -/
inductive ExpandsPureN (defs : List (Def K)) (sel : String → Bool) :
    Nat → List (Instr K) → List (Instr K) → Prop
  | nil (n) : ExpandsPureN defs sel n [] []
  | keep {n i rest out} :
      ¬ IsSelectedInvocation defs sel i → ExpandsPureN defs sel n rest out →
      ExpandsPureN defs sel n (i :: rest) (i :: out)
  | unfold {n g d body b rest out} :
      Selected defs sel g d → g.mods = [] → Instantiates d g body →
      ExpandsPureN defs sel n (body.map Instr.gate) b →
      ExpandsPureN defs sel (n + 1) rest out →
      ExpandsPureN defs sel (n + 1) (.gate g :: rest) (b ++ out)

theorem expandsPureN_mono {n m : Nat} {src out : List (Instr K)}
    (h : ExpandsPureN defs sel n src out) (hm : n ≤ m) : ExpandsPureN defs sel m src out := by
  induction h generalizing m with
  | nil => exact .nil _
  | keep hn _ ih => exact .keep hn (ih hm)
  | unfold hsel hmods hinst _ _ ih1 ih2 =>
    cases m with
    | zero => omega
    | succ m' => exact .unfold hsel hmods hinst (ih1 (by omega)) (ih2 (by omega))

theorem expandsPure_sized {src out : List (Instr K)}
    (h : ExpandsPure defs sel src out) : ∃ n, ExpandsPureN defs sel n src out := by
  induction h with
  | nil => exact ⟨0, .nil _⟩
  | keep hn _ ih => obtain ⟨n, h⟩ := ih; exact ⟨n, .keep hn h⟩
  | unfold hsel hm hinst _ _ ih1 ih2 =>
    obtain ⟨n1, h1⟩ := ih1
    obtain ⟨n2, h2⟩ := ih2
    exact ⟨max n1 n2 + 1, .unfold hsel hm hinst (expandsPureN_mono h1 (by omega)) (expandsPureN_mono h2 (by omega))⟩

/-- the call graph along which unfolding recurses, read off the definitions; `instance_calls`: a selected invocation
found in an instantiated body is such an edge -/
def Calls (defs : List (Def K)) (sel : String → Bool) (u v : String) : Prop :=
  ∃ du qv gs e dv, findDef defs u = some du ∧ du.spec = .seq qv gs ∧ e ∈ gs ∧ e.name = v ∧
    findDef defs v = some dv ∧ (∃ qv' gs', dv.spec = .seq qv' gs') ∧ sel v = true

theorem expandsPureN_extract {n : Nat} {src out : List (Instr K)}
    (h : ExpandsPureN defs sel n src out) (hg : Instr.gate g ∈ src)
    (hsel : Selected defs sel g d) :
    ∃ n' body b, n = n' + 1 ∧ Instantiates d g body ∧ ExpandsPureN defs sel n' (body.map Instr.gate) b := by
  induction h with
  | nil => simp at hg
  | keep hn _ ih =>
    cases hg with
    | head => exact absurd ⟨_, _, rfl, hsel⟩ hn
    | tail _ hg' => exact ih hg'
  | @unfold n g0 d0 body b rest out hsel0 _ hinst hb _ _ ih2 =>
    cases hg with
    | head =>
      cases Selected.unique hsel hsel0
      exact ⟨n, body, b, rfl, hinst, hb⟩
    | tail _ hg' => exact ih2 hg'

/-- what descends along `Calls` (`derivable_calls`): some instance of the definition named `v` has a body with a
derivation of depth ≤ `n` -/
def Derivable (defs : List (Def K)) (sel : String → Bool) (n : Nat) (v : String) : Prop :=
  ∃ g d body b, Selected defs sel g d ∧ d.name = v ∧ Instantiates d g body ∧
    ExpandsPureN defs sel n (body.map Instr.gate) b

theorem derivable_calls {n : Nat} {u v : String}
    (h : Derivable defs sel n u) (hc : Calls defs sel u v) : ∃ m, m < n ∧ Derivable defs sel m v := by
  obtain ⟨g, d, body, b, hsel, hdn, hinst, hder⟩ := h
  obtain ⟨du, qv, gs, e, dv, hfu, hsu, he, hen, hfv, hsv, hselv⟩ := hc
  have hdu : du = d := by
    have h1 := hsel.1
    rw [← selected_name hsel, hdn, hfu] at h1
    simpa using h1
  subst hdu
  obtain ⟨qv0, gs0, fs, σ, ρ, hs0, _, _, _, _, _, hpw⟩ := hinst
  rw [hsu] at hs0; cases hs0
  obtain ⟨be, hbe, hinstE⟩ := pointwise_mem_left hpw he
  have hbn : be.name = v := hinstE.name.trans hen
  have hselB : Selected defs sel be dv := ⟨by rw [hbn]; exact hfv, hsv, by rw [hbn]; exact hselv⟩
  obtain ⟨n', body', b', hn, hinst', hder'⟩ :=
    expandsPureN_extract hder (List.mem_map.2 ⟨be, hbe, rfl⟩) hselB
  exact ⟨n', by omega, be, dv, body', b', hselB, (selected_name hselB).trans hbn, hinst', hder'⟩

theorem derivable_transGen_calls {n : Nat} {u v : String}
    (hc : Relation.TransGen (Calls defs sel) u v) (h : Derivable defs sel n u) :
    ∃ m, m < n ∧ Derivable defs sel m v := by
  induction hc with
  | single h1 => exact derivable_calls h h1
  | tail _ h1 ih =>
    obtain ⟨m, hm, hd⟩ := ih
    obtain ⟨m', hm', hd'⟩ := derivable_calls hd h1
    exact ⟨m', by omega, hd'⟩

theorem derivable_acyclic (n : Nat) (u : String) (h : Derivable defs sel n u) :
    ¬ Relation.TransGen (Calls defs sel) u u := by
  induction n using Nat.strongRecOn generalizing u with
  | _ n ih =>
    intro hc
    obtain ⟨m, hm, hd⟩ := derivable_transGen_calls hc h
    exact ih m hm u hd hc

theorem instance_calls {g g' : Gate K} {d d' : Def K}
    {body : List (Gate K)} (hsel : Selected defs sel g d) (hinst : Instantiates d g body)
    (hg' : Instr.gate g' ∈ body.map Instr.gate) (hsel' : Selected defs sel g' d') :
    Calls defs sel d.name d'.name := by
  obtain ⟨qv, gs, fs, σ, ρ, hs, _, _, _, _, _, hpw⟩ := hinst
  obtain ⟨x, hx, hxe⟩ := List.mem_map.1 hg'
  cases hxe
  obtain ⟨e, he, hE⟩ := pointwise_mem_right hpw hx
  have hn' := selected_name hsel'
  refine ⟨d, qv, gs, e, d', ?_, hs, he, by rw [hn']; exact hE.name.symm, ?_, hsel'.2.1, ?_⟩
  · rw [selected_name hsel]; exact hsel.1
  · rw [hn']; exact hsel'.1
  · rw [hn']; exact hsel'.2.2

/-- `hinv`: every name on the stack calls, transitively, every selected definition invoked in `src`.  So invoking a
stack name again would close a `Calls` cycle through a definition that has a finite derivation, against
`derivable_acyclic`. -/
theorem expandsPureN_expands {n : Nat} {src out : List (Instr K)}
    (h : ExpandsPureN defs sel n src out) (stack : List String)
    (hinv : ∀ s ∈ stack, ∀ g d, Instr.gate g ∈ src → Selected defs sel g d →
      Relation.TransGen (Calls defs sel) s d.name) :
    Expands defs sel stack src out := by
  induction h generalizing stack with
  | nil => exact .nil _
  | keep hn _ ih =>
    exact .keep hn (ih stack fun s hs g d hg hsel => hinv s hs g d (by simp [hg]) hsel)
  | @unfold n g d body b rest out hsel hm hinst hb _ ih1 ih2 =>
    have hder : Derivable defs sel n d.name := ⟨g, d, body, b, hsel, rfl, hinst, hb⟩
    have hns : d.name ∉ stack := fun hin =>
      derivable_acyclic n d.name hder (hinv d.name hin g d (by simp) hsel)
    refine .unfold hsel hm hns hinst (ih1 (stack ++ [d.name]) ?_)
      (ih2 stack fun s hs g' d' hg' hsel' => hinv s hs g' d' (by simp [hg']) hsel')
    intro s hs g' d' hg' hsel'
    have hc := instance_calls hsel hinst hg' hsel'
    rcases List.mem_append.1 hs with hs | hs
    · exact .tail (hinv s hs g d (by simp) hsel) hc
    · simp at hs; subst hs; exact .single hc

theorem mem_removeName {allowed : List String} {name n : String} :
    n ∈ removeName allowed name ↔ n ∈ allowed ∧ n ≠ name := by
  simp [removeName]

/-- how `verifyPure`'s `allowed` and the `stack` of `Expands` correspond: among the definition names they are
complements (`allowed` may contain names of no definition) -/
def AllowedInv (defs : List (Def K)) (allowed stack : List String) : Prop :=
  (∀ n, n ∈ defs.map (·.name) → n ∉ stack → n ∈ allowed) ∧ (∀ n ∈ stack, n ∉ allowed)

theorem allowedInv_push {allowed stack : List String} {name : String}
    (h : AllowedInv defs allowed stack) : AllowedInv defs (removeName allowed name) (stack ++ [name]) := by
  constructor
  · intro n hn hns
    simp at hns
    exact mem_removeName.2 ⟨h.1 n hn hns.1, hns.2⟩
  · intro n hn hm
    obtain ⟨hma, hne⟩ := mem_removeName.1 hm
    rcases List.mem_append.1 hn with hn | hn
    · exact h.2 n hn hma
    · simp at hn; exact hne hn

/-- The left-hand side is the right-hand side of `verifyPure_iff` at a source `i :: rest`; it is taken apart as the
verifier's arms take `out` apart (here and in `prefix_unfold_iff`). -/
theorem prefix_keep_iff {rest out r : List (Instr K)} (hn : ¬ IsSelectedInvocation defs sel i) :
    (∃ o, out = o ++ r ∧ Expands defs sel stack (i :: rest) o) ↔
      ∃ out', out = i :: out' ∧ ∃ o, out' = o ++ r ∧ Expands defs sel stack rest o := by
  constructor
  · rintro ⟨_, rfl, h⟩
    cases h with
    | keep _ hrest => exact ⟨_, rfl, _, rfl, hrest⟩
    | unfold hsel _ _ _ _ _ => exact absurd ⟨_, _, rfl, hsel⟩ hn
  · rintro ⟨_, rfl, o, rfl, h⟩
    exact ⟨i :: o, rfl, .keep hn h⟩

theorem prefix_unfold_iff {body : List (Gate K)} {rest out r : List (Instr K)}
    (hsel : Selected defs sel g d) (hm : g.mods = []) (hinst : Instantiates d g body) :
    (∃ o, out = o ++ r ∧ Expands defs sel stack (.gate g :: rest) o) ↔
      d.name ∉ stack ∧ ∃ mid, (∃ b, out = b ++ mid ∧ Expands defs sel (stack ++ [d.name]) (body.map Instr.gate) b) ∧
        ∃ o, mid = o ++ r ∧ Expands defs sel stack rest o := by
  constructor
  · rintro ⟨_, rfl, h⟩
    cases h with
    | keep hn _ => exact absurd ⟨_, _, rfl, hsel⟩ hn
    | unfold hsel' _ hns hinst' hb hrest =>
      cases Selected.unique hsel hsel'
      cases Instantiates.unique hinst hinst'
      exact ⟨hns, _, ⟨_, List.append_assoc _ _ _, hb⟩, _, rfl, hrest⟩
  · rintro ⟨hns, _, ⟨b, rfl, hb⟩, o, rfl, hr⟩
    exact ⟨b ++ o, (List.append_assoc _ _ _).symm, .unfold hsel hm hns hinst hb hr⟩

/-- The cases of the functional induction, in the order of `verifyPure`'s arms: 1 the source is empty; 2 the head is
misused; 3–5 the head is kept and `out` starts with it / with something else / is empty; 6–8 the head is unfolded and
the run on its body succeeds / fails / its name is not `allowed`. -/
theorem verifyPure_iff [DecidableEq K] (defs : List (Def K)) (sel : String → Bool) (allowed : List String)
    (src out : List (Instr K)) :
    ∀ (stack : List String), AllowedInv defs allowed stack → ∀ r,
      (verifyPure defs sel allowed src out = some r ↔ ∃ o, out = o ++ r ∧ Expands defs sel stack src o) := by
  induction allowed, src, out using verifyPure.induct defs sel with
  | case1 allowed out =>
    intro stack _ r
    simp only [verifyPure]
    constructor
    · intro h; cases h; exact ⟨[], rfl, .nil _⟩
    · rintro ⟨o, h1, h2⟩; cases h2; rw [h1]; rfl
  | case2 allowed i rest out a hg =>
    intro stack _ r
    rw [verifyPure.eq_def]; simp only [hg]
    refine ⟨nofun, ?_⟩
    rintro ⟨o, _, h2⟩
    cases h2 with
    | keep hn _ => rw [gsfi_none_iff.2 hn] at hg; cases hg
    | unfold hsel hm _ hinst _ _ =>
      rw [gsfi_of_instantiates hsel hm List.not_mem_nil hinst] at hg
      cases hg
  | case3 allowed rest o out' hg ih =>
    intro stack hinv r
    rw [verifyPure.eq_def, prefix_keep_iff (gsfi_none_iff.1 hg)]
    simp [hg, ih stack hinv r]
  | case4 allowed i rest hg o out' hne =>
    intro stack _ r
    rw [verifyPure.eq_def, prefix_keep_iff (gsfi_none_iff.1 hg)]
    simp [hg, hne]
  | case5 allowed i rest hg =>
    intro stack _ r
    rw [verifyPure.eq_def, prefix_keep_iff (gsfi_none_iff.1 hg)]
    simp [hg]
  | case6 allowed i rest out body name hg hmem out' hinner ih1 ih2 =>
    intro stack hinv r
    obtain ⟨g, d, body0, rfl, hsel, hm, _, hinst, rfl, rfl⟩ := gsfi_some_iff.1 hg
    have hns : d.name ∉ stack := fun hin => hinv.2 _ hin hmem
    rw [verifyPure.eq_def, prefix_unfold_iff hsel hm hinst]
    simp [hg, hmem, hinner, hns, ← ih1 _ (allowedInv_push hinv), ih2 stack hinv r]
  | case7 allowed i rest out body name hg hmem hinner ih1 =>
    intro stack hinv r
    obtain ⟨g, d, body0, rfl, hsel, hm, _, hinst, rfl, rfl⟩ := gsfi_some_iff.1 hg
    rw [verifyPure.eq_def, prefix_unfold_iff hsel hm hinst]
    simp [hg, hmem, hinner, ← ih1 _ (allowedInv_push hinv)]
  | case8 allowed i rest out body name hg hmem =>
    intro stack hinv r
    obtain ⟨_, hnd⟩ := gsfi_some_name hg
    obtain ⟨g, d, body0, rfl, hsel, hm, _, hinst, rfl, rfl⟩ := gsfi_some_iff.1 hg
    rw [verifyPure.eq_def, prefix_unfold_iff hsel hm hinst]
    simp only [hg, hmem, dite_false]
    exact ⟨nofun, fun h => absurd (hinv.1 _ hnd h.1) hmem⟩

end QV.C20
