import QV.C14.Model
import QV.C14.Spec
import Mathlib.Data.Nat.Bitwise
import Mathlib.Data.Fintype.Card
import Mathlib.Data.Fintype.EquivFin
/-
What the lifting and termination proofs share, without matrix algebra: bits of an index, adjacent swaps on `qubit_arr`,
bijective arrangements (`Good`), outcomes that end alike (`Outcome.Rel`), and the *shadow* of the sweep loop.  The loop's
control flow depends only on `qubit_arr`, never on the matrices, so the shadow is the model with the matrices left out;
termination is proved on it (`TermAll.lean`), and `Lift.lean` proves that the model runs as the shadow does.
Names: what follows from `h : Good n arr` is `Good.…` (`h.surj`, `h.swap`); that a given list is `Good` is `good_…`
(`good_range`).  A dot name never repeats a function of this namespace (`Good.swap`, not `Good.swapList`): inside the
`Good.…` declarations such a name would stop meaning the function.
-/
namespace QV.C14
open Mat GateFns



theorem agreeOutside_iff (qs : List Nat) (n r c : Nat) :
    agreeOutside qs n r c = true ↔ ∀ p, p < n → p ∈ qs ∨ r.testBit p = c.testBit p := by
  unfold agreeOutside
  simp [List.all_eq_true]

theorem nodupB_iff (l : List Nat) : nodupB l = true ↔ l.Nodup := by
  induction l with
  | nil => simp [nodupB]
  | cons q qs ih => simp [nodupB, ih, List.nodup_cons]

theorem validPlacement_iff (qs : List Nat) (n : Nat) :
    validPlacement qs n = true ↔ qs ≠ [] ∧ (∀ q ∈ qs, q < n) ∧ qs.Nodup := by
  unfold validPlacement
  simp [nodupB_iff, and_assoc]


theorem testBit_false_of_lt {x n j : Nat} (h : x < 2 ^ n) (hj : n ≤ j) : x.testBit j = false :=
  Nat.testBit_lt_two_pow (lt_of_lt_of_le h (Nat.pow_le_pow_right (by decide) hj))

theorem eq_iff_testBit_lt {a b n : Nat} (ha : a < 2 ^ n) (hb : b < 2 ^ n) :
    a = b ↔ ∀ p, p < n → a.testBit p = b.testBit p := by
  constructor
  · rintro rfl _ _; rfl
  · intro h
    apply Nat.eq_of_testBit_eq
    intro p
    by_cases hp : p < n
    · exact h p hp
    · rw [testBit_false_of_lt ha (by omega), testBit_false_of_lt hb (by omega)]

theorem div_pow_eq_iff (a b m : Nat) :
    a / 2 ^ m = b / 2 ^ m ↔ ∀ q, m ≤ q → a.testBit q = b.testBit q := by
  constructor
  · intro h q hq
    have := congrArg (fun x => x.testBit (q - m)) h
    simp only [Nat.testBit_div_two_pow] at this
    rwa [Nat.sub_add_cancel hq] at this
  · intro h
    apply Nat.eq_of_testBit_eq
    intro i
    rw [Nat.testBit_div_two_pow, Nat.testBit_div_two_pow]
    exact h _ (by omega)

theorem mod_pow_eq_iff (a b m : Nat) :
    a % 2 ^ m = b % 2 ^ m ↔ ∀ q, q < m → a.testBit q = b.testBit q := by
  constructor
  · intro h q hq
    have := congrArg (fun x => x.testBit q) h
    simpa [Nat.testBit_mod_two_pow, hq] using this
  · intro h
    apply Nat.eq_of_testBit_eq
    intro i
    rw [Nat.testBit_mod_two_pow, Nat.testBit_mod_two_pow]
    by_cases hi : i < m
    · simp [hi, h i hi]
    · simp [hi]

theorem outside_window_iff (a b p k : Nat) :
    (a / 2 ^ (p + k) = b / 2 ^ (p + k) ∧ a % 2 ^ p = b % 2 ^ p) ↔
      ∀ q, q < p ∨ p + k ≤ q → a.testBit q = b.testBit q := by
  rw [div_pow_eq_iff, mod_pow_eq_iff]
  exact ⟨fun ⟨h1, h2⟩ q hq => hq.elim (h2 q) (h1 q),
    fun h => ⟨fun q hq => h q (Or.inr hq), fun q hq => h q (Or.inl hq)⟩⟩

def field (p k a : Nat) : Nat := a % 2 ^ (p + k) / 2 ^ p

theorem field_lt (p k a : Nat) : field p k a < 2 ^ k := by
  unfold field
  rw [Nat.div_lt_iff_lt_mul (Nat.two_pow_pos _), ← pow_add, Nat.add_comm k p]
  exact Nat.mod_lt _ (Nat.two_pow_pos _)

theorem testBit_field (p k a t : Nat) : (field p k a).testBit t = (decide (t < k) && a.testBit (p + t)) := by
  unfold field
  rw [Nat.testBit_div_two_pow, Nat.testBit_mod_two_pow, Nat.add_comm t p]
  congr 1
  simp

/-- index whose bit at position `q` is bit `arr[q]` of `x` (position 0 = head of `arr`) -/
def bitIdx : List Nat → Nat → Nat
  | [], _ => 0
  | q :: rest, x => (x.testBit q).toNat + 2 * bitIdx rest x

theorem bitIdx_lt (arr : List Nat) (x : Nat) : bitIdx arr x < 2 ^ arr.length := by
  induction arr with
  | nil => simp [bitIdx]
  | cons q rest ih =>
    simp only [bitIdx, List.length_cons, pow_succ]
    have : (x.testBit q).toNat ≤ 1 := Bool.toNat_le _
    omega

theorem testBit_bitIdx (arr : List Nat) (x p : Nat) :
    (bitIdx arr x).testBit p = (decide (p < arr.length) && x.testBit (arr.getD p 0)) := by
  induction arr generalizing p with
  | nil => simp [bitIdx]
  | cons q rest ih =>
    cases p with
    | zero =>
      simp only [bitIdx, Nat.testBit_zero, List.length_cons, List.getD_cons_zero]
      cases x.testBit q <;> simp
    | succ p =>
      rw [Nat.testBit_succ]
      have : ((x.testBit q).toNat + 2 * bitIdx rest x) / 2 = bitIdx rest x := by
        have : (x.testBit q).toNat ≤ 1 := Bool.toNat_le _
        omega
      simp only [bitIdx, this, ih, List.length_cons, List.getD_cons_succ]
      congr 1
      simp

theorem bitIdx_range {n x : Nat} (hx : x < 2 ^ n) : bitIdx (List.range n) x = x := by
  have h1 := bitIdx_lt (List.range n) x
  rw [List.length_range] at h1
  rw [eq_iff_testBit_lt h1 hx]
  intro p hp
  rw [testBit_bitIdx]
  simp [hp, List.getD_eq_getElem?_getD]

theorem gateIndex_eq_bitIdx (qs : List Nat) (x : Nat) : gateIndex qs x = bitIdx qs.reverse x := by
  unfold gateIndex
  induction qs using List.reverseRecOn with
  | nil => simp [bitIdx]
  | append_singleton qs q ih =>
    rw [List.foldl_append, List.reverse_append]
    simp only [bit] at ih
    simp only [List.foldl_cons, List.foldl_nil, List.reverse_cons, List.reverse_nil, List.nil_append,
      List.singleton_append, bitIdx, bit]
    rw [ih]; omega

theorem gateIndex_lt (qs : List Nat) (x : Nat) : gateIndex qs x < 2 ^ qs.length := by
  rw [gateIndex_eq_bitIdx]
  simpa using bitIdx_lt qs.reverse x

theorem testBit_gateIndex (qs : List Nat) (x t : Nat) (ht : t < qs.length) :
    (gateIndex qs x).testBit t = x.testBit (qs.getD (qs.length - 1 - t) 0) := by
  rw [gateIndex_eq_bitIdx, testBit_bitIdx, List.getD_reverse _ ht]
  simp [ht]


def sw (p q : Nat) : Nat := if q = p then p + 1 else if q = p + 1 then p else q

theorem forall_sw_iff (p : Nat) (P : Nat → Nat → Prop) :
    (∀ q, P q (sw p q)) ↔ (∀ q, q < p ∨ p + 2 ≤ q → P q q) ∧ P p (p + 1) ∧ P (p + 1) p := by
  constructor
  · intro h
    refine ⟨fun q hq => ?_, by simpa [sw] using h p, by simpa [sw] using h (p + 1)⟩
    simpa [sw, show q ≠ p by omega, show q ≠ p + 1 by omega] using h q
  · rintro ⟨h, h1, h2⟩ q
    unfold sw
    split_ifs with e1 e2
    · exact e1 ▸ h1
    · exact e2 ▸ h2
    · exact h q (by omega)

/-- `qubit_map.swap(p, p+1)` -/
def swapList (arr : List Nat) (p : Nat) : List Nat := (arr.set p (arr.getD (p + 1) 0)).set (p + 1) (arr.getD p 0)

theorem swapAt_eq (arr : List Nat) (p : Nat) :
    swapAt arr p (p + 1) = if p + 1 < arr.length then .ok (swapList arr p) else .crash "index out of bounds" := by
  unfold swapAt swapList
  by_cases h : p + 1 < arr.length
  · have : p < arr.length := by omega
    simp [h, this]
  · simp [h]

@[simp] theorem length_swapList (arr : List Nat) (p : Nat) : (swapList arr p).length = arr.length := by
  simp [swapList]

theorem getD_swapList {arr : List Nat} {p : Nat} (h : p + 1 < arr.length) :
    ∀ q, (swapList arr p).getD q 0 = arr.getD (sw p q) 0 := by
  have hp0 : p < arr.length := by omega
  rw [forall_sw_iff p fun q q' => (swapList arr p).getD q 0 = arr.getD q' 0]
  unfold swapList
  simp only [List.getD_eq_getElem?_getD, List.getElem?_set, List.length_set]
  refine ⟨fun q hq => ?_, by simp [h, hp0], by simp [h, hp0]⟩
  simp [show ¬ p + 1 = q by omega, show ¬ p = q by omega]

theorem sw_lt {p q n : Nat} (hp : p + 2 ≤ n) (hq : q < n) : sw p q < n := by
  unfold sw; split_ifs <;> omega

theorem sw_sw (p q : Nat) : sw p (sw p q) = q := by
  unfold sw; split_ifs <;> omega

theorem testBit_bitIdx_swapList {arr : List Nat} {p : Nat} (h : p + 1 < arr.length) (x q : Nat) :
    (bitIdx (swapList arr p) x).testBit q = (bitIdx arr x).testBit (sw p q) := by
  have hq : q < arr.length ↔ sw p q < arr.length := by unfold sw; split_ifs <;> omega
  rw [testBit_bitIdx, testBit_bitIdx, length_swapList, getD_swapList h]
  simp only [hq]

/-- The loop invariant on `qubit_arr`: a permutation of `0..n-1` (injective on `n` positions, hence onto: `Good.surj`). -/
structure Good (n : Nat) (arr : List Nat) : Prop where
  len : arr.length = n
  lt : ∀ q, q < n → arr.getD q 0 < n
  inj : ∀ q q', q < n → q' < n → arr.getD q 0 = arr.getD q' 0 → q = q'

theorem good_range (n : Nat) : Good n (List.range n) := by
  refine ⟨List.length_range, ?_, ?_⟩
  · intro q hq; simp [List.getD_eq_getElem?_getD, hq]
  · intro q q' hq hq' h; simpa [List.getD_eq_getElem?_getD, hq, hq'] using h

theorem Good.swap {n p : Nat} {arr : List Nat} (h : Good n arr) (hp : p + 2 ≤ n) : Good n (swapList arr p) := by
  have hl : p + 1 < arr.length := by rw [h.len]; omega
  refine ⟨by rw [length_swapList, h.len], ?_, ?_⟩
  · intro q hq; rw [getD_swapList hl]; exact h.lt _ (sw_lt hp hq)
  · intro q q' hq hq' e
    rw [getD_swapList hl, getD_swapList hl] at e
    have := h.inj _ _ (sw_lt hp hq) (sw_lt hp hq') e
    have := congrArg (sw p) this
    rwa [sw_sw, sw_sw] at this

theorem Good.surj {n : Nat} {arr : List Nat} (h : Good n arr) {v : Nat} (hv : v < n) :
    ∃ q, q < n ∧ arr.getD q 0 = v := by
  let f : Fin n → Fin n := fun q => ⟨arr.getD q.val 0, h.lt q.val q.isLt⟩
  have hf : Function.Injective f := by
    intro a b e
    have : arr.getD a.val 0 = arr.getD b.val 0 := congrArg Fin.val e
    exact Fin.ext (h.inj _ _ a.isLt b.isLt this)
  obtain ⟨q, hq⟩ := Finite.surjective_of_injective hf ⟨v, hv⟩
  exact ⟨q.val, q.isLt, congrArg Fin.val hq⟩


namespace Outcome
variable {α β γ : Type}

def map (f : α → β) : Outcome α → Outcome β
  | ok a => ok (f a)
  | crash s => crash s
  | outOfFuel => outOfFuel

theorem bind_eq_ok {x : Outcome α} {f : α → Outcome β} {b : β} :
    x.bind f = ok b ↔ ∃ a, x = ok a ∧ f a = ok b := by
  cases x <;> simp [bind]

theorem isOk_map (x : Outcome α) (f : α → β) : (x.map f).isOk = x.isOk := by cases x <;> rfl

theorem isOk_iff (x : Outcome α) : x.isOk = true ↔ ∃ a, x = ok a := by cases x <;> simp [isOk]

inductive Rel {δ : Type} (R : α → δ → Prop) : Outcome α → Outcome δ → Prop
  | ok {a : α} {b : δ} : R a b → Rel R (.ok a) (.ok b)
  | crash (s : String) : Rel R (.crash s) (.crash s)
  | outOfFuel : Rel R .outOfFuel .outOfFuel

theorem Rel.bind {δ ε : Type} {R : α → δ → Prop} {S : β → ε → Prop} {x : Outcome α} {y : Outcome δ}
    {f : α → Outcome β} {g : δ → Outcome ε} (h : Rel R x y) (hf : ∀ a b, R a b → Rel S (f a) (g b)) :
    Rel S (x.bind f) (y.bind g) := by
  cases h with
  | ok h => exact hf _ _ h
  | crash s => exact .crash s
  | outOfFuel => exact .outOfFuel

theorem Rel.bind_same {ε : Type} {S : β → ε → Prop} (x : Outcome α) {f : α → Outcome β} {g : α → Outcome ε}
    (hf : ∀ a, x = .ok a → Rel S (f a) (g a)) : Rel S (x.bind f) (x.bind g) := by
  cases x with
  | ok a => exact hf a rfl
  | crash s => exact .crash s
  | outOfFuel => exact .outOfFuel

theorem Rel.map_eq {R : α → β → Prop} {f : α → β} {x : Outcome α} {y : Outcome β} (h : Rel R x y)
    (hR : ∀ a b, R a b → f a = b) : x.map f = y := by
  cases h with
  | ok h => exact congrArg Outcome.ok (hR _ _ h)
  | crash s => rfl
  | outOfFuel => rfl

theorem Rel.of_ok {R : α → β → Prop} {x : Outcome α} {y : Outcome β} {a : α} (h : Rel R x y) (hx : x = .ok a) :
    ∃ b, y = .ok b ∧ R a b := by
  subst hx; cases h with | ok h => exact ⟨_, rfl, h⟩

theorem Rel.of_outOfFuel {R : α → β → Prop} {x : Outcome α} {y : Outcome β} (h : Rel R x y) (hy : y = .outOfFuel) :
    x = .outOfFuel := by
  subst hy; cases h; rfl


end Outcome

theorem madeIt_eq_true_iff {arr : List Nat} : ∀ (qs : List Nat) (f : Nat), madeIt arr f qs = .ok true ↔
    ∀ i, i < qs.length → f - i < arr.length ∧ arr.getD (f - i) 0 = qs.getD i 0 := by
  intro qs
  induction qs with
  | nil => intro f; simp [madeIt]
  | cons q qs ih =>
    intro f
    simp only [madeIt]
    constructor
    · intro h i hi
      split_ifs at h with h1 h2
      · cases i with
        | zero => exact ⟨h1, h2⟩
        | succ i =>
          have := (ih (f - 1)).mp h i (by simpa using hi)
          rwa [Nat.sub_sub, Nat.add_comm 1 i] at this
      · cases h
    · intro h
      have h0 : f < arr.length ∧ arr.getD f 0 = q := h 0 (by simp)
      rw [if_pos h0.1, if_pos h0.2]
      refine (ih (f - 1)).mpr fun i hi => ?_
      have := h (i + 1) (by simpa using hi)
      rwa [List.getD_cons_succ, show f - (i + 1) = f - 1 - i by omega] at this

/-- the slot of the `m`-th listed qubit: `final_map[m]` -/
def slot (qs : List Nat) (start m : Nat) : Nat := start + qs.length - 1 - m

def Placed (arr : List Nat) (start : Nat) (qs : List Nat) : Prop :=
  ∀ i, i < qs.length → slot qs start i < arr.length ∧ arr.getD (slot qs start i) 0 = qs.getD i 0

theorem madeIt_iff_placed {arr qs : List Nat} {start : Nat} :
    madeIt arr (start + qs.length - 1) qs = .ok true ↔ Placed arr start qs := madeIt_eq_true_iff qs _

/-! The shadow: `swapStepsS`, `sweepS`, `sweepsS` are `swapSteps`, `sweep`, `sweeps` of `Model.lean` without the
matrix component of the state (that the model runs as they do: `Lift.lean`). -/

/-- `n < p + 2` and the message are those of `qubit_adjacent_lifted_gate` on the 4×4 SWAP (`Nat.log2 4 = 2`); the
panic messages of the shadow are the model's letter for letter, which `Outcome.Rel.crash` asks for. -/
def swapStepsS (n : Nat) : List Nat → List Nat → Outcome (List Nat)
  | [], a => .ok a
  | p :: ps, a =>
    if n < p + 2 then .crash "attempt to subtract with overflow"
    else (swapAt a p (p + 1)).bind (swapStepsS n ps)

def sweepS (qs : List Nat) (n start : Nat) : List Nat → List Nat → Outcome (Bool × List Nat)
  | [], arr => .ok (false, arr)
  | i :: is, arr =>
    match position (qs.getD i 0) arr with
    | none => .crash "These arrays cover the same range."
    | some j =>
      (swapStepsS n (swapPositions j (slot qs start i)) arr).bind fun arr' =>
      (madeIt arr' (start + qs.length - 1) qs).bind fun made =>
      if made then .ok (true, arr') else sweepS qs n start is arr'

def sweepsS (qs : List Nat) (n start : Nat) : Nat → Bool → List Nat → Outcome Unit
  | 0, _, _ => .outOfFuel
  | fuel + 1, right, arr =>
    let order := if right then List.range qs.length else (List.range qs.length).reverse
    (sweepS qs n start order arr).bind fun (made, arr') =>
    if made then .ok () else sweepsS qs n start fuel (!right) arr'

/-- shadow of `permutation_arbitrary`: the `start` it returns -/
def permArbS (qs : List Nat) (n fuel : Nat) : Outcome Nat :=
  let sorted := sortNat qs
  let medI := qs.length / 2
  if medI < sorted.length then
    let med := sorted.getD medI 0
    if med < medI then .crash "attempt to subtract with overflow"
    else
      let start := med - medI
      if qs.length > 1 then
        (sweepsS qs n start fuel true (List.range n)).bind fun _ => .ok start
      else .ok start
  else .crash "index out of bounds"

/-- shadow of `lifted_gate_matrix` for a `2^k × 2^k` matrix -/
def liftS (k : Nat) (qs : List Nat) (n fuel : Nat) : Outcome Unit :=
  (permArbS qs n fuel).bind fun start =>
  if n < start + k then .crash "attempt to subtract with overflow" else .ok ()

end QV.C14
