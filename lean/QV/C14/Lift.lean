import QV.C14.Lemmas
import QV.C14.TermAll
/-
`lifted_gate_matrix` (swap network, then conjugation by the permutation matrix) computes `liftSpec` whenever it returns.
The loop invariant — `perm = permMat n qubit_arr`, `qubit_arr` bijective (`Good`) — goes through the loop nest in the
`_sim` lemmas: model and matrix-free shadow (`Term.lean`) end alike (`Outcome.Rel`), and what they return satisfies the
invariant.  So the shadow also predicts how the model ends (`liftedGateMatrix_shadow`): termination is proved on it.
-/
namespace QV.C14
open Mat GateFns


section
variable {K : Type} [CommRing K] [GateFns K]

/-- the bit-permutation matrix of `arr`: `|x⟩ ↦ |bitIdx arr x⟩` -/
def permMat (n : Nat) (arr : List Nat) : Mat K :=
  build (2 ^ n) (2 ^ n) fun a x => if a = bitIdx arr x then 1 else 0

omit [GateFns K] in
theorem eye_eq_permMat (n : Nat) : (eye (2 ^ n) : Mat K) = permMat n (List.range n) := by
  unfold eye permMat
  apply build_congr
  intro i j hi hj
  rw [bitIdx_range hj]

omit [GateFns K] in
theorem get_permMat {n : Nat} {arr : List Nat} {a x : Nat} (ha : a < 2 ^ n) (hx : x < 2 ^ n) :
    (permMat n arr : Mat K).get a x = if a = bitIdx arr x then 1 else 0 := get_build ha hx

theorem get_mul_permMat {A : Mat K} {n : Nat} {arr : List Nat} (hlen : arr.length = n) (hA : A.c = 2 ^ n)
    {i x : Nat} (hi : i < A.r) (hx : x < 2 ^ n) :
    (mul A (permMat n arr)).get i x = A.get i (bitIdx arr x) := by
  rw [get_mul hi (by simpa [permMat] using hx), hA]
  have hy : bitIdx arr x < 2 ^ n := hlen ▸ bitIdx_lt arr x
  rw [Finset.sum_eq_single (bitIdx arr x)]
  · rw [get_permMat hy hx]; simp
  · intro k hk hne
    rw [get_permMat (by simpa using hk) hx]; simp [hne]
  · intro h; simp at h; omega

theorem pow_split {n p k : Nat} (h : p + k ≤ n) : 2 ^ (n - p - k) * 2 ^ (p + k) = 2 ^ n := by
  rw [← pow_add]; congr 1; omega

/-- entries of `I ⊗ M ⊗ I` (what `qubit_adjacent_lifted_gate` builds) by bit fields -/
theorem get_eye_kron_kron_eye {M : Mat K} {k p n : Nat} (hMr : M.r = 2 ^ k) (hMc : M.c = 2 ^ k) (hpn : p + k ≤ n)
    {a b : Nat} (ha : a < 2 ^ n) (hb : b < 2 ^ n) :
    (kron (eye (2 ^ (n - p - k))) (kron M (eye (2 ^ p)))).get a b =
      if a / 2 ^ (p + k) = b / 2 ^ (p + k) ∧ a % 2 ^ p = b % 2 ^ p then M.get (field p k a) (field p k b) else 0 := by
  have hkp : 2 ^ k * 2 ^ p = 2 ^ (p + k) := by rw [← pow_add, Nat.add_comm]
  have hdim := pow_split hpn
  have hpos : 0 < 2 ^ (p + k) := Nat.two_pow_pos _
  have hpos' : 0 < 2 ^ p := Nat.two_pow_pos _
  have hdvd : 2 ^ p ∣ 2 ^ (p + k) := pow_dvd_pow 2 (by omega)
  rw [get_kron (by simp only [eye_r, kron_r, hMr, hkp, hdim]; exact ha)
    (by simp only [eye_c, kron_c, hMc, hkp, hdim]; exact hb)]
  simp only [kron_r, kron_c, eye_r, eye_c, hMr, hMc, hkp]
  have ha1 : a / 2 ^ (p + k) < 2 ^ (n - p - k) := by rw [Nat.div_lt_iff_lt_mul hpos, hdim]; exact ha
  have hb1 : b / 2 ^ (p + k) < 2 ^ (n - p - k) := by rw [Nat.div_lt_iff_lt_mul hpos, hdim]; exact hb
  rw [get_eye ha1 hb1]
  rw [get_kron (by simp only [eye_r, hMr, hkp]; exact Nat.mod_lt _ hpos)
    (by simp only [eye_c, hMc, hkp]; exact Nat.mod_lt _ hpos)]
  simp only [eye_r, eye_c]
  rw [get_eye (Nat.mod_lt _ hpos') (Nat.mod_lt _ hpos'), Nat.mod_mod_of_dvd _ hdvd, Nat.mod_mod_of_dvd _ hdvd]
  unfold field
  by_cases h1 : a / 2 ^ (p + k) = b / 2 ^ (p + k) <;> by_cases h2 : a % 2 ^ p = b % 2 ^ p <;> simp [h1, h2]

omit [GateFns K] in
theorem dims_eye_kron_kron_eye {M : Mat K} {k p n : Nat} (hMr : M.r = 2 ^ k) (hMc : M.c = 2 ^ k) (hpn : p + k ≤ n) :
    (kron (eye (2 ^ (n - p - k))) (kron M (eye (2 ^ p)))).r = 2 ^ n ∧
    (kron (eye (2 ^ (n - p - k))) (kron M (eye (2 ^ p)))).c = 2 ^ n := by
  have hkp : 2 ^ k * 2 ^ p = 2 ^ (p + k) := by rw [← pow_add, Nat.add_comm]
  simp only [kron_r, kron_c, eye_r, eye_c, hMr, hMc, hkp, pow_split hpn, and_self]

theorem swapMat_get {m m' : Nat} (hm : m < 4) (hm' : m' < 4) :
    (swapMat : Mat K).get m m' = if m.testBit 0 = m'.testBit 1 ∧ m.testBit 1 = m'.testBit 0 then 1 else 0 := by
  have e : (swapMat : Mat K) =
      build 4 4 fun m m' => if m.testBit 0 = m'.testBit 1 ∧ m.testBit 1 = m'.testBit 0 then 1 else 0 :=
    ofRows_eq_build rfl
  rw [e, get_build hm hm']

theorem swap_mul_permMat {n p : Nat} {arr : List Nat} (hlen : arr.length = n) (hp : p + 2 ≤ n) :
    mul (kron (eye (2 ^ (n - p - 2))) (kron (swapMat : Mat K) (eye (2 ^ p)))) (permMat n arr)
      = permMat n (swapList arr p) := by
  have hr : (swapMat : Mat K).r = 2 ^ 2 := rfl
  have hc : (swapMat : Mat K).c = 2 ^ 2 := rfl
  obtain ⟨d1, d2⟩ := dims_eye_kron_kron_eye (K := K) hr hc hp
  refine Mat.ext' (wf_mul _ _) (wf_build _ _ _) ?_ rfl ?_
  · simp only [mul_r]; rw [d1]; rfl
  intro a x ha hx
  simp only [mul_r, mul_c] at ha hx
  rw [d1] at ha
  have hx' : x < 2 ^ n := hx
  rw [get_mul_permMat hlen d2 (by rw [d1]; exact ha) hx', get_permMat ha hx']
  have hy : bitIdx arr x < 2 ^ n := hlen ▸ bitIdx_lt arr x
  rw [get_eye_kron_kron_eye hr hc hp ha hy, swapMat_get (field_lt _ _ _) (field_lt _ _ _), ← ite_and]
  refine if_congr ?_ rfl rfl
  -- bit by bit: `a` is `bitIdx arr x` with bits `p`, `p+1` exchanged
  rw [Nat.eq_iff_testBit_eq (m := bitIdx (swapList arr p) x)]
  simp only [testBit_bitIdx_swapList (show p + 1 < arr.length by omega)]
  rw [forall_sw_iff p fun q q' => a.testBit q = (bitIdx arr x).testBit q', outside_window_iff]
  simp only [testBit_field, Nat.add_zero, show (decide (0 < 2)) = true from rfl,
    show (decide (1 < 2)) = true from rfl, Bool.true_and]

omit [GateFns K] in
theorem qubitAdjacentLift_eq {M : Mat K} {k : Nat} (hMr : M.r = 2 ^ k) (p n : Nat) :
    qubitAdjacentLift p M n =
      if n < p + k then .crash "attempt to subtract with overflow"
      else .ok (kron (eye (2 ^ (n - p - k))) (kron M (eye (2 ^ p)))) := by
  unfold qubitAdjacentLift
  simp only [hMr, Nat.log2_two_pow]

/-- `arr0` is the arrangement `two_swap_helper` started from: its matrix starts at the identity, not at `perm`, so the
invariant is on its product with `permMat n arr0`. -/
def SwapsRel (n : Nat) (arr0 : List Nat) (r : Mat K × List Nat) (a' : List Nat) : Prop :=
  r.2 = a' ∧ r.1.r = 2 ^ n ∧ Good n a' ∧ mul r.1 (permMat n arr0) = permMat n a'

theorem swapSteps_sim {n : Nat} {arr0 : List Nat} : ∀ (ps : List Nat) (pm : Mat K) (a : List Nat),
    SwapsRel n arr0 (pm, a) a → Outcome.Rel (SwapsRel n arr0) (swapSteps n ps (pm, a)) (swapStepsS n ps a) := by
  intro ps
  induction ps with
  | nil => intro pm a h; exact .ok h
  | cons p ps ih =>
    intro pm a ⟨_, hr, hg, hm⟩
    simp only [swapSteps, swapStep, swapStepsS, qubitAdjacentLift_eq (K := K) (M := swapMat) (k := 2) rfl, swapAt_eq]
    by_cases h1 : n < p + 2
    · rw [if_pos h1, if_pos h1]; exact .crash _
    · have hp : p + 2 ≤ n := by omega
      obtain ⟨d1, d2⟩ := dims_eye_kron_kron_eye (K := K) (M := swapMat) (k := 2) rfl rfl hp
      rw [if_neg h1, if_neg h1, if_pos (by rw [hg.len]; omega)]
      refine ih _ _ ⟨rfl, d1, Good.swap hg hp, ?_⟩
      rw [Mat.mul_assoc' (by rw [d2, hr]), hm]
      exact swap_mul_permMat hg.len hp

theorem twoSwapHelper_sim {n j k : Nat} {arr : List Nat} (hg : Good n arr) :
    Outcome.Rel (SwapsRel (K := K) n arr) (twoSwapHelper j k n arr) (swapStepsS n (swapPositions j k) arr) :=
  swapSteps_sim _ _ _ ⟨rfl, rfl, hg, by
    have := eye_mul (wf_build _ _ _ : (permMat n arr : Mat K).WF)
    simpa [permMat] using this⟩

def SweepRel (qs : List Nat) (n start : Nat) (r : Bool × Mat K × List Nat) (s : Bool × List Nat) : Prop :=
  r.1 = s.1 ∧ r.2.2 = s.2 ∧ Good n s.2 ∧ r.2.1 = permMat n s.2 ∧
    (s.1 = true → madeIt s.2 (start + qs.length - 1) qs = .ok true)

theorem sweep_sim {qs : List Nat} {n start : Nat} : ∀ (is : List Nat) (arr : List Nat), Good n arr →
    Outcome.Rel (SweepRel qs n start) (sweep qs n start is (permMat n arr : Mat K) arr) (sweepS qs n start is arr) := by
  intro is
  induction is with
  | nil => intro arr hg; exact .ok ⟨rfl, rfl, hg, rfl, by simp⟩
  | cons i is ih =>
    intro arr hg
    simp only [sweep, sweepS]
    cases position (qs.getD i 0) arr with
    | none => exact .crash _
    | some j =>
      refine (twoSwapHelper_sim hg).bind fun r arr' ⟨e, _, hg', hm⟩ => ?_
      obtain ⟨pmod, a⟩ := r
      cases e
      simp only [hm]
      refine Outcome.Rel.bind_same _ fun made hmade => ?_
      cases made with
      | true => exact .ok ⟨rfl, rfl, hg', rfl, fun _ => hmade⟩
      | false => exact ih _ hg'

def SweepsRel (qs : List Nat) (n start : Nat) (P : Mat K) (_ : Unit) : Prop :=
  ∃ arr', Good n arr' ∧ P = permMat n arr' ∧ madeIt arr' (start + qs.length - 1) qs = .ok true

theorem sweeps_sim {qs : List Nat} {n start : Nat} : ∀ (fuel : Nat) (right : Bool) (arr : List Nat), Good n arr →
    Outcome.Rel (SweepsRel (K := K) qs n start)
      (sweeps qs n start fuel right (permMat n arr) arr) (sweepsS qs n start fuel right arr) := by
  intro fuel
  induction fuel with
  | zero => intro right arr _; exact .outOfFuel
  | succ fuel ih =>
    intro right arr hg
    simp only [sweeps, sweepsS]
    refine (sweep_sim _ arr hg).bind fun r s ⟨e1, e2, hg', hp, hm⟩ => ?_
    obtain ⟨made, perm', a⟩ := r
    obtain ⟨made', arr'⟩ := s
    cases e1; cases e2; cases hp
    cases made with
    | true => exact .ok ⟨_, hg', rfl, hm rfl⟩
    | false => exact ih _ _ hg'

/-- The second disjunct: for one listed qubit `permutation_arbitrary` skips the loop, nothing moved and `start` is that
qubit. -/
def PermRel (qs : List Nat) (n : Nat) (r : Mat K × Nat) (start : Nat) : Prop :=
  r.2 = start ∧ ∃ arr, Good n arr ∧ r.1 = permMat n arr ∧
    ((1 < qs.length ∧ madeIt arr (start + qs.length - 1) qs = .ok true) ∨
     (qs.length = 1 ∧ arr = List.range n ∧ start = qs.getD 0 0))

theorem permutationArbitrary_sim (qs : List Nat) (n fuel : Nat) :
    Outcome.Rel (PermRel (K := K) qs n) (permutationArbitrary qs n fuel) (permArbS qs n fuel) := by
  unfold permutationArbitrary permArbS
  simp only [eye_eq_permMat]
  split_ifs with h1 h2 h3
  · exact .crash _
  · exact (sweeps_sim fuel true _ (good_range n)).bind fun P _ ⟨arr, hg, hP, hm⟩ =>
      .ok ⟨rfl, arr, hg, hP, .inl ⟨h3, hm⟩⟩
  · refine .ok ⟨rfl, List.range n, good_range n, rfl, .inr ?_⟩
    match qs, h1, h3 with
    | [], h1, _ => simp [sortNat] at h1
    | [q], _, _ => exact ⟨rfl, rfl, by simp [sortNat, insertSorted]⟩
    | _ :: _ :: _, _, h3 => simp at h3
  · exact .crash _

theorem liftedGateMatrix_shadow {M : Mat K} {k : Nat} (hMr : M.r = 2 ^ k) (qs : List Nat) (n fuel : Nat) :
    (liftedGateMatrix M qs n fuel).map (fun _ => ()) = liftS k qs n fuel := by
  unfold liftedGateMatrix liftS
  refine Outcome.Rel.map_eq (R := fun _ _ => True) ?_ fun _ _ _ => rfl
  refine (permutationArbitrary_sim qs n fuel).bind fun r start ⟨e, _⟩ => ?_
  obtain ⟨P, s⟩ := r
  cases e
  simp only [qubitAdjacentLift_eq hMr]
  split_ifs
  · exact .crash _
  · exact .ok trivial

theorem sweeps_diverges {qs : List Nat} {n start : Nat} (hlt : ∀ q ∈ qs, q < n) (hfit : start + qs.length ≤ n)
    (hdup : ¬ qs.Nodup) (fuel : Nat) (right : Bool) {arr : List Nat} (hg : Good n arr) :
    sweeps qs n start fuel right (permMat n arr : Mat K) arr = .outOfFuel :=
  (sweeps_sim fuel right arr hg).of_outOfFuel (sweepsS_diverges hlt hfit hdup fuel right arr hg)

end

section
variable {K : Type} [CommRing K] [StarRing K] [GateFns K] [GateLaws K]

theorem conjugate_by_permMat {V : Mat K} {n : Nat} {arr : List Nat} (hlen : arr.length = n)
    (hVr : V.r = 2 ^ n) (hVc : V.c = 2 ^ n) {r c : Nat} (hr : r < 2 ^ n) (hc : c < 2 ^ n) :
    (mul (adjoint (permMat n arr)) (mul V (permMat n arr))).get r c = V.get (bitIdx arr r) (bitIdx arr c) := by
  have hy : bitIdx arr r < 2 ^ n := hlen ▸ bitIdx_lt arr r
  have hP : ∀ {a}, a < 2 ^ n → (adjoint (permMat n arr : Mat K)).get r a = conj (if a = bitIdx arr r then 1 else 0) :=
    fun ha => (get_adjoint (A := permMat n arr) hr ha).trans (congrArg conj (get_permMat ha hr))
  rw [get_mul (A := adjoint (permMat n arr)) (B := mul V (permMat n arr)) hr hc]
  show ∑ k ∈ Finset.range (2 ^ n), _ = _
  rw [Finset.sum_eq_single (bitIdx arr r)]
  · rw [hP hy, if_pos rfl, conj_one, one_mul, get_mul_permMat hlen hVc (by rw [hVr]; exact hy) hc]
  · intro a ha hne
    rw [hP (Finset.mem_range.mp ha), if_neg hne, conj_zero, zero_mul]
  · intro h; exact absurd (Finset.mem_range.mpr hy) h

theorem field_bitIdx_eq_gateIndex {arr qs : List Nat} {n start : Nat} (hlen : arr.length = n)
    (hfit : start + qs.length ≤ n) (hpl : Placed arr start qs) (x : Nat) :
    field start qs.length (bitIdx arr x) = gateIndex qs x := by
  rw [eq_iff_testBit_lt (field_lt _ _ _) (gateIndex_lt _ _)]
  intro t ht
  rw [testBit_field, testBit_bitIdx, testBit_gateIndex _ _ _ ht, hlen]
  have h1 : start + t < n := by omega
  obtain ⟨_, e⟩ := hpl (qs.length - 1 - t) (by omega)
  unfold slot at e
  have : start + qs.length - 1 - (qs.length - 1 - t) = start + t := by omega
  rw [this] at e
  rw [e, decide_eq_true ht, decide_eq_true h1, Bool.true_and, Bool.true_and]

/-- Bit `q` of `bitIdx arr x` is bit `arr[q]` of `x`, and `arr` is a bijection whose window holds exactly `qs`; so the
positions outside the window are exactly the unlisted qubits `< n`, and agreeing outside the window is agreeing
outside `qs`. -/
theorem outside_window_bitIdx_iff_agreeOutside {arr qs : List Nat} {n start : Nat} (hg : Good n arr)
    (hpl : Placed arr start qs) (r c : Nat) :
    (bitIdx arr r / 2 ^ (start + qs.length) = bitIdx arr c / 2 ^ (start + qs.length) ∧
      bitIdx arr r % 2 ^ start = bitIdx arr c % 2 ^ start) ↔ agreeOutside qs n r c = true := by
  rw [outside_window_iff]
  have hbit : ∀ x q, (bitIdx arr x).testBit q = (decide (q < n) && x.testBit (arr.getD q 0)) := by
    intro x q; rw [testBit_bitIdx, hg.len]
  rw [agreeOutside_iff]
  constructor
  · intro h p hp
    by_cases hmem : p ∈ qs
    · exact Or.inl hmem
    · right
      obtain ⟨q, hq, rfl⟩ := hg.surj hp
      have hout : q < start ∨ start + qs.length ≤ q := by
        by_contra hcon
        have hin : start ≤ q ∧ q < start + qs.length := by omega
        obtain ⟨_, e⟩ := hpl (start + qs.length - 1 - q) (by omega)
        unfold slot at e
        have : start + qs.length - 1 - (start + qs.length - 1 - q) = q := by omega
        rw [this] at e
        apply hmem
        rw [e, List.getD_eq_getElem _ _ (by omega)]
        exact List.getElem_mem _
      simpa [hbit, hq] using h q hout
  · intro h
    have key : ∀ q, q < n → (q < start ∨ start + qs.length ≤ q) →
        r.testBit (arr.getD q 0) = c.testBit (arr.getD q 0) := by
      intro q hq hout
      rcases h _ (hg.lt q hq) with hmem | e
      · exfalso
        obtain ⟨i, hi, hi'⟩ := List.getElem_of_mem hmem
        obtain ⟨hb, e⟩ := hpl i hi
        unfold slot at hb e
        rw [List.getD_eq_getElem _ _ hi, hi'] at e
        have := hg.inj _ _ (by rw [hg.len] at hb; exact hb) hq e
        omega
      · exact e
    intro q hq
    rw [hbit, hbit]
    by_cases hqn : q < n
    · rw [decide_eq_true hqn, Bool.true_and, Bool.true_and]; exact key q hqn hq
    · rw [decide_eq_false hqn, Bool.false_and, Bool.false_and]

/-- **Lifting theorem (all `n`, all `M`, partial correctness).**  Whenever `lifted_gate_matrix` returns — on
any matrix `M` of size `2^len × 2^len`, any list of `len` qubits, any `n`, any fuel — what it returns is
exactly `liftSpec M qs n`. -/
theorem liftedGateMatrix_eq_liftSpec {M : Mat K} {qs : List Nat} {n fuel : Nat} {R : Mat K}
    (hMr : M.r = 2 ^ qs.length) (hMc : M.c = 2 ^ qs.length)
    (h : liftedGateMatrix M qs n fuel = .ok R) : R = liftSpec M qs n := by
  unfold liftedGateMatrix at h
  obtain ⟨⟨P, start⟩, hp, h⟩ := Outcome.bind_eq_ok.mp h
  simp only [qubitAdjacentLift_eq hMr] at h
  obtain ⟨V, hV, h⟩ := Outcome.bind_eq_ok.mp h
  split_ifs at hV with hfit'  -- the branch of the panic is closed by `split_ifs` itself (`crash _ = ok _`)
  cases hV; cases h
  have hfit : start + qs.length ≤ n := by omega
  obtain ⟨_, _, e, arr, hg, hP, hcase⟩ := (permutationArbitrary_sim qs n fuel).of_ok hp
  cases e
  simp only at hP hcase
  have hpl : Placed arr start qs := by
    rcases hcase with ⟨_, hm⟩ | ⟨h1, harr, hs⟩
    · exact madeIt_iff_placed.mp hm
    · intro i hi
      have hi0 : i = 0 := by omega
      subst hi0
      unfold slot
      rw [h1] at hfit ⊢
      have hs' : start + 1 - 1 - 0 = start := by omega
      rw [hs', harr, List.length_range]
      refine ⟨by omega, ?_⟩
      rw [← hs, List.getD_eq_getElem _ _ (by rw [List.length_range]; omega), List.getElem_range]
  obtain ⟨dV1, dV2⟩ := dims_eye_kron_kron_eye (K := K) hMr hMc hfit
  subst hP
  -- entry `(r, c)`: `Pᴴ (V P)` is `V` re-indexed by `bitIdx arr`; `V = I ⊗ M ⊗ I` reads the window's bit field, which
  -- is `gateIndex qs` since the window is filled
  refine Mat.ext' (wf_mul _ _) (wf_build _ _ _) rfl rfl ?_
  intro r c hr hc
  have hr' : r < 2 ^ n := hr
  have hc' : c < 2 ^ n := hc
  have hy1 : bitIdx arr r < 2 ^ n := hg.len ▸ bitIdx_lt arr r
  have hy2 : bitIdx arr c < 2 ^ n := hg.len ▸ bitIdx_lt arr c
  rw [conjugate_by_permMat hg.len dV1 dV2 hr' hc', get_eye_kron_kron_eye hMr hMc hfit hy1 hy2]
  rw [get_liftSpec _ _ hr' hc', field_bitIdx_eq_gateIndex hg.len hfit hpl, field_bitIdx_eq_gateIndex hg.len hfit hpl]
  by_cases hA : agreeOutside qs n r c = true
  · rw [if_pos hA, if_pos ((outside_window_bitIdx_iff_agreeOutside hg hpl r c).mpr hA)]
  · rw [if_neg hA, if_neg (fun hh => hA ((outside_window_bitIdx_iff_agreeOutside hg hpl r c).mp hh))]

end

/-- Total correctness from a run of the shadow: `C14_lift_eq_spec` and `C14_lift_eq_spec_alln` of `Props.lean` are this
lemma at `shadow_ok_defaultFuel` and `shadow_ok_alln`. -/
theorem liftedGateMatrix_eq_of_shadow {K : Type} [CommRing K] [StarRing K] [GateFns K] [GateLaws K] {M : Mat K}
    {qs : List Nat} {n fuel : Nat} (hMr : M.r = 2 ^ qs.length) (hMc : M.c = 2 ^ qs.length)
    (h : (liftS qs.length qs n fuel).isOk = true) : liftedGateMatrix M qs n fuel = .ok (liftSpec M qs n) := by
  obtain ⟨R, hR⟩ : ∃ R, liftedGateMatrix M qs n fuel = .ok R := by
    rwa [← liftedGateMatrix_shadow hMr, Outcome.isOk_map, Outcome.isOk_iff] at h
  rw [hR, liftedGateMatrix_eq_liftSpec hMr hMc hR]

end QV.C14
