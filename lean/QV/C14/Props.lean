import QV.C14.Complex
import QV.C14.Lift
/-
C14 — Standard gate unitaries match the Quil specification: the property theorems.  `K` is any commutative ring with a
conjugation satisfying `GateLaws K` (`Lemmas.lean`), in particular `ℂ` with the exact complex `cos`/`sin`/`exp`
(`Complex.lean`), the non-vacuity witness of the `example`s.  IEEE rounding (what the running code does) satisfies none
of the laws: that part is covered by the correspondence run only (declared partial).
-/
namespace QV.C14
open Mat GateFns

variable {K : Type} [CommRing K] [StarRing K] [GateFns K] [GateLaws K]

/-- **(a) Table = specification, every gate, every parameter value (unbounded in θ).**  The base case of
`gate_matrix` (`CONSTANT_GATE_MATRICES` / `PARAMETERIZED_GATE_MATRICES` lookup, parameter-count checks)
succeeds exactly on the 22 standard gates with the right number of parameters and returns the Quil
specification's matrix `specMatrix` (written from the gates' action on basis states, `e^{ix}` as `cis`). -/
theorem C14_table_eq_spec (name : String) (θs : List K) :
    (baseMatrix name (θs.map Param.num)).toOption = specMatrix name θs :=
  baseMatrix_eq_spec name θs

/-- non-vacuity: over `ℂ`, `RZ(θ)` is defined by both sides and is `diag(e^{-iθ/2}, e^{iθ/2})` -/
example (θ : ℂ) : (baseMatrix "RZ" [Param.num θ]).toOption
    = some (diagGate 1 fun c => if c.testBit 0 then Complex.exp (θ / 2 * Complex.I) else Complex.exp (-(θ / 2) * Complex.I)) := by
  have := C14_table_eq_spec (K := ℂ) "RZ" [θ]
  simp only [List.map_cons, List.map_nil] at this
  rw [this]; rfl

/-- The `Bool` placement test used by the driver means what it says. -/
theorem C14_validPlacement_iff (qs : List Nat) (n : Nat) :
    validPlacement qs n = true ↔ qs ≠ [] ∧ (∀ q ∈ qs, q < n) ∧ qs.Nodup :=
  validPlacement_iff qs n

/-- The specification of lifting read entry-wise with a `Prop` condition: the `Bool` test `agreeOutside` evaluated by the
driver is exactly “`r` and `c` agree on every qubit `< n` that is not listed”. -/
theorem C14_liftSpec_entry (U : Mat K) (qs : List Nat) (n r c : Nat) (hr : r < 2 ^ n) (hc : c < 2 ^ n)
    [Decidable (∀ p, p < n → p ∉ qs → r.testBit p = c.testBit p)] :
    (liftSpec U qs n).get r c =
      if (∀ p, p < n → p ∉ qs → r.testBit p = c.testBit p) then U.get (gateIndex qs r) (gateIndex qs c) else 0 := by
  rw [get_liftSpec _ _ hr hc]
  have : agreeOutside qs n r c = true ↔ ∀ p, p < n → p ∉ qs → r.testBit p = c.testBit p := by
    simp only [agreeOutside_iff, or_iff_not_imp_left]
  by_cases h : agreeOutside qs n r c = true
  · rw [if_pos h, if_pos (this.mp h)]
  · rw [if_neg h, if_neg (fun hh => h (this.mpr hh))]

/-- **(b) Lifting, all `n`, all matrices, all qubit lists — partial correctness.**  Whenever
`lifted_gate_matrix` (swap network with any fuel, then `Pᴴ·(I⊗M⊗I)·P`) returns on a `2^k × 2^k` matrix `M` and
`k` listed qubits, the result is `liftSpec M qs n`.  Unbounded in `n`, `k`, `M`; `qs` need not be a valid
placement.  That it returns is not claimed here (hence `_partial`): for valid placements see
`C14_lift_eq_spec_alln`, for a repeated qubit `C14_repeated_qubit_diverges`. -/
theorem C14_lift_eq_spec_alln_partial {M : Mat K} {qs : List Nat} {n fuel : Nat} {R : Mat K}
    (hMr : M.r = 2 ^ qs.length) (hMc : M.c = 2 ^ qs.length)
    (h : liftedGateMatrix M qs n fuel = .ok R) : R = liftSpec M qs n :=
  liftedGateMatrix_eq_liftSpec hMr hMc h

/-- **(b) Lifting on the property's quantifier**: for every `n ≤ 5`, every valid placement `qs` (distinct
qubits `< n`, any number of them) and EVERY `2^|qs| × 2^|qs|` matrix `M` (not only table entries),
`lifted_gate_matrix` returns — no panic, no endless loop — and returns `liftSpec M qs n`.
(Termination: exhaustive kernel evaluation of the matrix-free shadow over all 409 placements, a finite proof
for a finite quantifier; correctness: the unbounded theorem above.) -/
theorem C14_lift_eq_spec {M : Mat K} {qs : List Nat} {n : Nat} (hn : n ≤ 5)
    (hv : validPlacement qs n = true) (hMr : M.r = 2 ^ qs.length) (hMc : M.c = 2 ^ qs.length) :
    liftedGateMatrix M qs n defaultFuel = .ok (liftSpec M qs n) :=
  liftedGateMatrix_eq_of_shadow hMr hMc (shadow_ok_defaultFuel hn hv)

/-- **(b) Lifting, ALL `n`, total correctness.**  For every `n`, every valid placement `qs` (distinct qubits
`< n`, any number of them), every `2^|qs| × 2^|qs|` matrix `M` and any fuel of at least two sweeps,
`lifted_gate_matrix` returns — no panic, no endless loop — and returns `liftSpec M qs n`.
Termination is by a variant argument, not by enumeration: the loop exits within two sweeps (`sweepsS_terminates` in
`TermAll.lean`). -/
theorem C14_lift_eq_spec_alln {M : Mat K} {qs : List Nat} {n : Nat} (fuel : Nat)
    (hv : validPlacement qs n = true) (hMr : M.r = 2 ^ qs.length) (hMc : M.c = 2 ^ qs.length) :
    liftedGateMatrix M qs n (fuel + 2) = .ok (liftSpec M qs n) :=
  liftedGateMatrix_eq_of_shadow hMr hMc (shadow_ok_alln hv fuel)

/-- **C14 for all `n`**: as `C14_toUnitary_eq_spec` below, without the bound `n ≤ 5`. -/
theorem C14_toUnitary_eq_spec_alln (name : String) (θs : List K) (U : Mat K) (qs : List Nat) (n : Nat)
    (hspec : specMatrix name θs = some U) (harity : U.r = 2 ^ qs.length)
    (hv : validPlacement qs n = true) :
    toUnitary0 name (θs.map Param.num) (qs.map Qubit.fixed) n = .ok (.ok (liftSpec U qs n)) :=
  toUnitary0_of_lift hspec
    -- `defaultFuel` is 16 = 14 + 2: two sweeps suffice, the rest of the fuel is not used
    (C14_lift_eq_spec_alln 14 hv harity (by rw [← (specMatrix_square hspec).2]; exact harity))

/-- non-vacuity beyond the property's range: `CCNOT 9 0 4` on 10 qubits over `ℂ` -/
example : toUnitary0 (K := ℂ) "CCNOT" [] [Qubit.fixed 9, Qubit.fixed 0, Qubit.fixed 4] 10
    = .ok (.ok (liftSpec (permGate 3 fun c => 4 * bit c 2 + 2 * bit c 1 + (bit c 0 + bit c 2 * bit c 1) % 2) [9, 0, 4] 10)) :=
  C14_toUnitary_eq_spec_alln (K := ℂ) "CCNOT" [] _ [9, 0, 4] 10 rfl rfl (by decide)

/-- **Observation outside the property (inputs of this kind are never sent to the real code).**  A repeated qubit
makes the sweep loop of `permutation_arbitrary` spin for ever: for `CNOT q q` (`1 ≤ q < n`; more generally any
matrix on the list `[q, q]`) the model's `lifted_gate_matrix` runs out of EVERY fuel — no sweep panics and the
exit test can never hold, because two different slots would have to contain the same qubit of a bijective
arrangement (`sweeps_diverges` states this for any list with a repeated qubit whose window fits).  Hence
the model of `Gate::to_unitary` on `CNOT 1 1` does not return (the `example` below).  (For `q = 0` the model panics
instead: `med - med_i` underflows.) -/
theorem C14_repeated_qubit_diverges (M : Mat K) (q n : Nat) (h1 : 1 ≤ q) (hq : q < n) (fuel : Nat) :
    liftedGateMatrix M [q, q] n fuel = .outOfFuel := by
  have hs : sortNat [q, q] = [q, q] := by simp [sortNat, insertSorted]
  have hd : sweeps [q, q] n (q - 1) fuel true (eye (2 ^ n) : Mat K) (List.range n) = .outOfFuel := by
    rw [eye_eq_permMat]
    exact sweeps_diverges (by intro x hx; simp at hx; omega) (by simp; omega) (by simp) fuel true (good_range n)
  unfold liftedGateMatrix permutationArbitrary
  simp only [hs, List.length_cons, List.length_nil]
  have e1 : (0 + 1 + 1) / 2 = 1 := rfl
  have e2 : [q, q].getD 1 0 = q := rfl
  simp only [e1, e2]
  rw [if_pos (by decide), if_neg (by omega), if_pos (by decide), hd]
  rfl

/-- the same through the model of `Gate::to_unitary`: `CNOT 1 1` on 2 qubits -/
example : toUnitary0 (K := ℂ) "CNOT" [] [Qubit.fixed 1, Qubit.fixed 1] 2 = .outOfFuel := by
  have h := C14_repeated_qubit_diverges (K := ℂ)
    (Mat.ofRows 4 4 [[1, 0, 0, 0], [0, 1, 0, 0], [0, 0, 0, 1], [0, 0, 1, 0]]) 1 2 (le_refl 1) (by norm_num) defaultFuel
  simp only [toUnitary0, fixedQubits, Except.map, baseMatrix, constTable]
  rw [h]; rfl

/-- **C14, assembled.**  For every standard gate `name` without modifiers, with parameters `θs` (any values), that
the Quil specification defines (`specMatrix name θs = some U`), applied to the right number of distinct fixed qubits
`qs`, all `< n ≤ 5`: `Gate::to_unitary` returns, without error or panic, the specification's matrix lifted
with qubit 0 as the least significant bit and the first listed qubit as the gate's most significant one. -/
theorem C14_toUnitary_eq_spec (name : String) (θs : List K) (U : Mat K) (qs : List Nat) (n : Nat)
    (hspec : specMatrix name θs = some U) (harity : U.r = 2 ^ qs.length)
    (hn : n ≤ 5) (hv : validPlacement qs n = true) :
    toUnitary0 name (θs.map Param.num) (qs.map Qubit.fixed) n = .ok (.ok (liftSpec U qs n)) :=
  toUnitary0_of_lift hspec
    (C14_lift_eq_spec hn hv harity (by rw [← (specMatrix_square hspec).2]; exact harity))

/-- non-vacuity: `CNOT 2 0` on 3 qubits over `ℂ` -/
example : toUnitary0 (K := ℂ) "CNOT" [] [Qubit.fixed 2, Qubit.fixed 0] 3
    = .ok (.ok (liftSpec (permGate 2 fun c => 2 * bit c 1 + (bit c 0 + bit c 1) % 2) [2, 0] 3)) :=
  C14_toUnitary_eq_spec (K := ℂ) "CNOT" [] _ [2, 0] 3 rfl rfl (by norm_num) (by decide)

/-- non-vacuity: `RZ(θ) 1` on 2 qubits over `ℂ`, any θ -/
example (θ : ℂ) : ∃ U, specMatrix "RZ" [θ] = some U ∧
    toUnitary0 "RZ" [Param.num θ] [Qubit.fixed 1] 2 = .ok (.ok (liftSpec U [1] 2)) :=
  ⟨_, rfl, C14_toUnitary_eq_spec (K := ℂ) "RZ" [θ] _ [1] 2 rfl rfl (by norm_num) (by decide)⟩

end QV.C14
