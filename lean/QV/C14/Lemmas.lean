import QV.C14.Model
import QV.C14.Spec
import Mathlib.Algebra.BigOperators.Group.Finset.Basic
import Mathlib.Algebra.BigOperators.Ring.Finset
import Mathlib.Algebra.BigOperators.Group.Finset.Sigma
import Mathlib.Algebra.Star.Basic
import Mathlib.Tactic.Ring
/-
The matrix layer: every model operation is a `build`, so a result is known by its dimensions and entries
(`Mat.ext'`); the model's sums as `Finset.sum`.  Then the scalar laws `GateLaws K` and the table theorem
(every table entry = the specification matrix).
-/
namespace QV.C14
open Mat GateFns

-- the `@[simp]` shape lemmas of `Mat` below are stated with the instances of their section, used or not
set_option linter.unusedSectionVars false

section MatBasics
variable {K : Type} [Zero K]

/-- Every model operation returns a `build`, which is well-formed (`wf_build`). -/
def Mat.WF (A : Mat K) : Prop := A.d.size = A.r ∧ ∀ i (h : i < A.d.size), (A.d[i]).size = A.c

@[simp] theorem Mat.build_r (r c : Nat) (f : Nat → Nat → K) : (build r c f).r = r := rfl
@[simp] theorem Mat.build_c (r c : Nat) (f : Nat → Nat → K) : (build r c f).c = c := rfl

theorem Mat.get_build {r c : Nat} {f : Nat → Nat → K} {i j : Nat} (hi : i < r) (hj : j < c) :
    (build r c f).get i j = f i j := by
  simp [build, get, Array.getD, hi, hj]

theorem Mat.get_build' (r c : Nat) (f : Nat → Nat → K) (i j : Nat) :
    (build r c f).get i j = if i < r ∧ j < c then f i j else 0 := by
  by_cases hi : i < r <;> by_cases hj : j < c <;> simp [build, get, Array.getD, hi, hj]

theorem Mat.wf_build (r c : Nat) (f : Nat → Nat → K) : (build r c f).WF := by
  simp [build, WF]

theorem Mat.get_of_not_lt {A : Mat K} (hA : A.WF) {i j : Nat} (h : ¬ (i < A.r ∧ j < A.c)) : A.get i j = 0 := by
  obtain ⟨h1, h2⟩ := hA
  unfold get
  by_cases hi : i < A.d.size
  · have hj : ¬ j < (A.d[i]).size := by rw [h2 i hi]; rw [h1] at hi; tauto
    simp [Array.getD, hi, hj]
  · simp [Array.getD, hi]

theorem Mat.ext' {A B : Mat K} (hA : A.WF) (hB : B.WF) (hr : A.r = B.r) (hc : A.c = B.c)
    (h : ∀ i j, i < A.r → j < A.c → A.get i j = B.get i j) : A = B := by
  obtain ⟨ar, ac, ad⟩ := A
  obtain ⟨br, bc, bd⟩ := B
  simp only [WF] at hA hB
  simp only at hr hc
  subst hr; subst hc
  congr 1
  apply Array.ext
  · rw [hA.1, hB.1]
  · intro i h1 h2
    apply Array.ext
    · rw [hA.2 i h1, hB.2 i h2]
    · intro j h3 h4
      have e1 := hA.1
      have := h i j (by simp only at e1 ⊢; omega) (by rw [hA.2 i h1] at h3; exact h3)
      simpa [get, Array.getD, h1, h2, h3, h4] using this

theorem Mat.build_congr {r c : Nat} {f g : Nat → Nat → K}
    (h : ∀ i j, i < r → j < c → f i j = g i j) : build r c f = build r c g := by
  apply Mat.ext' (wf_build r c f) (wf_build r c g) rfl rfl
  intro i j hi hj
  simp only [build_r, build_c] at hi hj
  rw [get_build hi hj, get_build hi hj, h i j hi hj]

theorem Mat.eq_build {A : Mat K} (hA : A.WF) : A = build A.r A.c A.get := by
  apply Mat.ext' hA (wf_build _ _ _) rfl rfl
  intro i j hi hj
  rw [get_build hi hj]

end MatBasics

section MatOps
variable {K : Type} [CommRing K] [GateFns K]

@[simp] theorem Mat.wf_ofRows (r c : Nat) (rows : List (List K)) : (ofRows r c rows).WF := wf_build _ _ _
@[simp] theorem Mat.wf_eye (n : Nat) : (eye n : Mat K).WF := wf_build _ _ _
@[simp] theorem Mat.wf_kron (A B : Mat K) : (kron A B).WF := wf_build _ _ _
@[simp] theorem Mat.wf_mul (A B : Mat K) : (mul A B).WF := wf_build _ _ _
@[simp] theorem Mat.wf_adjoint (A : Mat K) : (adjoint A).WF := wf_build _ _ _
@[simp] theorem Mat.wf_add (A B : Mat K) : (add A B).WF := wf_build _ _ _
@[simp] theorem Mat.wf_scale (A : Mat K) (s : K) : (scale A s).WF := wf_build _ _ _
@[simp] theorem Mat.wf_setEntry (A : Mat K) (i j : Nat) (v : K) : (setEntry A i j v).WF := wf_build _ _ _

@[simp] theorem Mat.eye_r (n : Nat) : (eye n : Mat K).r = n := rfl
@[simp] theorem Mat.eye_c (n : Nat) : (eye n : Mat K).c = n := rfl
@[simp] theorem Mat.kron_r (A B : Mat K) : (kron A B).r = A.r * B.r := rfl
@[simp] theorem Mat.kron_c (A B : Mat K) : (kron A B).c = A.c * B.c := rfl
@[simp] theorem Mat.mul_r (A B : Mat K) : (mul A B).r = A.r := rfl
@[simp] theorem Mat.mul_c (A B : Mat K) : (mul A B).c = B.c := rfl
@[simp] theorem Mat.adjoint_r (A : Mat K) : (adjoint A).r = A.c := rfl
@[simp] theorem Mat.adjoint_c (A : Mat K) : (adjoint A).c = A.r := rfl
@[simp] theorem Mat.add_r (A B : Mat K) : (add A B).r = A.r := rfl
@[simp] theorem Mat.add_c (A B : Mat K) : (add A B).c = A.c := rfl

omit [GateFns K] in
theorem Mat.sumFrom_eq (f : Nat → K) (m k : Nat) (acc : K) :
    sumFrom f m k acc = acc + ∑ j ∈ Finset.range m, f (k + j) := by
  induction m generalizing k acc with
  | zero => simp [sumFrom]
  | succ m ih =>
    rw [sumFrom, ih, Finset.sum_range_succ']
    simp only [Nat.add_zero]
    have : ∀ j, f (k + 1 + j) = f (k + (j + 1)) := fun j => by congr 1; omega
    simp only [this]; ring

theorem Mat.sumTo_eq_sum (n : Nat) (f : Nat → K) : sumTo n f = ∑ k ∈ Finset.range n, f k := by
  unfold sumTo; rw [sumFrom_eq]; simp

omit [GateFns K] in
theorem Mat.get_eye {n i j : Nat} (hi : i < n) (hj : j < n) : (eye n : Mat K).get i j = if i = j then 1 else 0 :=
  get_build hi hj

theorem Mat.get_mul {A B : Mat K} {i j : Nat} (hi : i < A.r) (hj : j < B.c) :
    (mul A B).get i j = ∑ k ∈ Finset.range A.c, A.get i k * B.get k j := by
  unfold mul; rw [get_build hi hj, sumTo_eq_sum]

theorem Mat.get_adjoint {A : Mat K} {i j : Nat} (hi : i < A.c) (hj : j < A.r) :
    (adjoint A).get i j = conj (A.get j i) := get_build hi hj

omit [GateFns K] in
theorem Mat.get_kron {A B : Mat K} {i j : Nat} (hi : i < A.r * B.r) (hj : j < A.c * B.c) :
    (kron A B).get i j = A.get (i / B.r) (j / B.c) * B.get (i % B.r) (j % B.c) := get_build hi hj

omit [GateFns K] in
theorem Mat.get_add {A B : Mat K} {i j : Nat} (hi : i < A.r) (hj : j < A.c) :
    (add A B).get i j = A.get i j + B.get i j := get_build hi hj

theorem Mat.eye_mul {A : Mat K} (hA : A.WF) : mul (eye A.r) A = A := by
  refine Mat.ext' (A := mul (eye A.r) A) (B := A) (wf_mul _ _) hA rfl rfl ?_
  intro i j hi hj
  simp only [mul_r, eye_r, mul_c] at hi hj
  rw [get_mul (by simpa using hi) hj]
  simp only [eye_c]
  rw [Finset.sum_eq_single i]
  · rw [get_eye hi hi]; simp
  · intro k hk hne
    rw [get_eye hi (by simpa using hk)]; simp [Ne.symm hne]
  · intro h; simp at h; omega

theorem Mat.mul_eye {A : Mat K} (hA : A.WF) : mul A (eye A.c) = A := by
  refine Mat.ext' (A := mul A (eye A.c)) (B := A) (wf_mul _ _) hA rfl rfl ?_
  intro i j hi hj
  simp only [mul_r, mul_c, eye_c] at hi hj
  rw [get_mul hi (by simpa using hj)]
  rw [Finset.sum_eq_single j]
  · rw [get_eye hj hj]; simp
  · intro k hk hne
    rw [get_eye (by simpa using hk) hj]; simp [hne]
  · intro h; simp at h; omega

theorem Mat.mul_assoc' {A B C : Mat K} (hAB : A.c = B.r) :
    mul (mul A B) C = mul A (mul B C) := by
  refine Mat.ext' (A := mul (mul A B) C) (B := mul A (mul B C)) (wf_mul _ _) (wf_mul _ _) rfl rfl ?_
  intro i j hi hj
  simp only [mul_r, mul_c] at hi hj
  rw [get_mul (by simpa using hi) hj, get_mul hi (by simpa using hj)]
  simp only [mul_c]
  have e1 : ∀ k ∈ Finset.range B.c, (mul A B).get i k * C.get k j
      = ∑ l ∈ Finset.range A.c, A.get i l * B.get l k * C.get k j := by
    intro k hk
    rw [get_mul hi (by simpa using hk), Finset.sum_mul]
  have e2 : ∀ l ∈ Finset.range A.c, A.get i l * (mul B C).get l j
      = ∑ k ∈ Finset.range B.c, A.get i l * B.get l k * C.get k j := by
    intro l hl
    rw [get_mul (by rw [← hAB]; simpa using hl) hj, Finset.mul_sum]
    apply Finset.sum_congr rfl; intro k _; ring
  rw [Finset.sum_congr rfl e1, Finset.sum_congr rfl e2, Finset.sum_comm]

omit [GateFns K] in
/-- The hypothesis compares lists of rows, so checking a table by `rfl` evaluates `List.map` over
`List.range`, not the arrays behind `build` (which is far slower in the elaborator). -/
theorem Mat.ofRows_eq_build {r c : Nat} {rows : List (List K)} {f : Nat → Nat → K}
    (h : rows = (List.range r).map fun i => (List.range c).map (f i)) : ofRows r c rows = build r c f := by
  subst h
  refine build_congr fun i j hi hj => ?_
  simp [List.getD_eq_getElem?_getD, hi, hj]

omit [GateFns K] in
theorem Mat.scale_build (r c : Nat) (f : Nat → Nat → K) (s : K) :
    scale (build r c f) s = build r c fun i j => f i j * s :=
  build_congr fun _ _ hi hj => congrArg (· * s) (get_build hi hj)

/-- `p` is left open because the specification singles the basis state `a` out by its bits (`c.testBit 1 ∧ ¬ c.testBit 0`,
…), a different predicate for each gate; `hp` is then a `decide`. -/
theorem setEntry_eye_eq_diagGate {k a : Nat} (v : K) (p : Nat → Prop) [DecidablePred p]
    (hp : ∀ c < 2 ^ k, p c ↔ c = a) :
    setEntry (eye (2 ^ k)) a a v = diagGate k fun c => if p c then v else 1 := by
  refine build_congr fun r c hr hc => ?_
  rw [get_eye (n := 2 ^ k) hr hc]
  by_cases hrc : r = c
  · subst hrc; simp only [and_self, hp r hr, if_true]
  · simp only [hrc, if_false]; rw [if_neg (fun h => hrc (h.1.trans h.2.symm))]

omit [GateFns K] in
theorem get_liftSpec (U : Mat K) (qs : List Nat) {n r c : Nat} (hr : r < 2 ^ n) (hc : c < 2 ^ n) :
    (liftSpec U qs n).get r c =
      if agreeOutside qs n r c then U.get (gateIndex qs r) (gateIndex qs c) else 0 := get_build hr hc

end MatOps


/-- The laws the theorems use: `K` is a commutative ring with a star (conjugation), `conj` is that star, and
`cos`, `sin`, `cis`, the constants satisfy the identities below — all true of `ℂ` with the complex
`cos`/`sin`/`exp` (see `QV/C14/Complex.lean`) — and all *false* in general of rounded floating point, which
is the declared partial part of C14/C15. -/
class GateLaws (K : Type) [CommRing K] [StarRing K] [GateFns K] : Prop where
  conj_eq : ∀ x : K, conj x = star x
  i_sq : (i : K) * i = -1
  star_i : star (i : K) = -i
  cis_eq : ∀ x : K, cis x = cos x + i * sin x
  cos_neg : ∀ x : K, cos (-x) = cos x
  sin_neg : ∀ x : K, sin (-x) = -sin x
  cos_sq_add_sin_sq : ∀ x : K, cos x * cos x + sin x * sin x = 1
  star_cos : ∀ x : K, star (cos x) = cos (star x)
  star_sin : ∀ x : K, star (sin x) = sin (star x)
  star_half : ∀ x : K, star (half x) = half (star x)
  invSqrt2_sq : (invSqrt2 : K) * invSqrt2 * 2 = 1
  star_invSqrt2 : star (invSqrt2 : K) = invSqrt2
  cisPi4_eq : (cisPi4 : K) = cis pi4
  star_pi4 : star (pi4 : K) = pi4

section Tables
variable {K : Type} [CommRing K] [StarRing K] [GateFns K] [GateLaws K]

theorem conj_zero : conj (0 : K) = 0 := by rw [GateLaws.conj_eq]; exact star_zero K
theorem conj_one : conj (1 : K) = 1 := by rw [GateLaws.conj_eq]; exact star_one K

theorem cis_neg (x : K) : cis (-x) = cos x - i * sin x := by
  rw [GateLaws.cis_eq, GateLaws.cos_neg, GateLaws.sin_neg, mul_neg, sub_eq_add_neg]

omit [StarRing K] [GateLaws K] in
theorem specMatrix_two_params (name : String) (a b : K) (r : List K) : specMatrix name (a :: b :: r) = none := by
  unfold specMatrix
  split <;> simp_all

/-- `CONSTANT_GATE_MATRICES`, row by row in the order of the table. -/
theorem constTable_eq_spec (name : String) : constTable (K := K) name = specMatrix name [] := by
  unfold constTable
  split
  · rfl
  · exact congrArg some (ofRows_eq_build rfl)
  · exact congrArg some (ofRows_eq_build rfl)
  · exact congrArg some (ofRows_eq_build rfl)
  · -- H: the table scales on the right, the specification on the left
    have e : (ofRows 2 2 [[1, 1], [1, -1]] : Mat K) = build 2 2 fun r c => if r = 1 ∧ c = 1 then -1 else 1 :=
      ofRows_eq_build rfl
    show some (scale (ofRows 2 2 [[1, 1], [1, -1]]) invSqrt2) = _
    rw [e, scale_build]
    exact congrArg some (build_congr fun _ _ _ _ => mul_comm _ _)
  · exact congrArg some (ofRows_eq_build rfl)
  · exact congrArg some (ofRows_eq_build rfl)
  · exact congrArg some (ofRows_eq_build rfl)
  · rw [GateLaws.cisPi4_eq]; exact congrArg some (ofRows_eq_build rfl)
  · exact congrArg some (setEntry_eye_eq_diagGate (k := 2) _ _ (by decide))
  · exact congrArg some (ofRows_eq_build rfl)
  · exact congrArg some (ofRows_eq_build rfl)
  · exact congrArg some (ofRows_eq_build rfl)
  · symm; unfold specMatrix; split <;> first | rfl | contradiction

/-- `PARAMETERIZED_GATE_MATRICES`, row by row; the table spells `e^{ix}` as `cos x + i sin x`. -/
theorem paramTable_eq_spec (name : String) (θ : K) :
    (paramTable (K := K) name).map (· θ) = specMatrix name [θ] := by
  unfold paramTable
  split
  all_goals simp only [Option.map_some, Option.map_none, ← GateLaws.cis_eq, ← cis_neg]
  · exact congrArg some (ofRows_eq_build rfl)
  · exact congrArg some (ofRows_eq_build rfl)
  · exact congrArg some (ofRows_eq_build rfl)
  · exact congrArg some (setEntry_eye_eq_diagGate (k := 1) _ _ (by decide))
  · exact congrArg some (setEntry_eye_eq_diagGate (k := 2) _ _ (by decide))
  · exact congrArg some (setEntry_eye_eq_diagGate (k := 2) _ _ (by decide))
  · exact congrArg some (setEntry_eye_eq_diagGate (k := 2) _ _ (by decide))
  · exact congrArg some (setEntry_eye_eq_diagGate (k := 2) _ _ (by decide))
  · exact congrArg some (ofRows_eq_build rfl)
  · symm; unfold specMatrix; split <;> first | rfl | contradiction

omit [StarRing K] [GateLaws K] in
theorem specMatrix_square {name : String} {θs : List K} {U : Mat K} (h : specMatrix name θs = some U) :
    U.WF ∧ U.r = U.c := by
  unfold specMatrix at h
  split at h
  all_goals cases h
  all_goals exact ⟨Mat.wf_build _ _ _, rfl⟩

/-- **Table theorem.**  For every name and every parameter list (any number, any values of `K`), the base
case of `gate_matrix` succeeds exactly when the Quil specification defines that gate with that many
parameters, and then returns the specification's matrix. -/
theorem baseMatrix_eq_spec (name : String) (θs : List K) :
    (baseMatrix name (θs.map Param.num)).toOption = specMatrix name θs := by
  match θs with
  | [] =>
    simp only [List.map_nil, baseMatrix]
    rw [← constTable_eq_spec]
    cases constTable (K := K) name <;> rfl
  | [θ] =>
    simp only [List.map_cons, List.map_nil, baseMatrix]
    rw [← paramTable_eq_spec]
    cases paramTable (K := K) name <;> rfl
  | a :: b :: r =>
    rw [specMatrix_two_params]
    simp [baseMatrix, Except.toOption]

theorem baseMatrix_of_spec {name : String} {θs : List K} {U : Mat K} (h : specMatrix name θs = some U) :
    baseMatrix name (θs.map Param.num) = .ok U := by
  have := baseMatrix_eq_spec name θs
  rw [h] at this
  cases hb : baseMatrix name (θs.map Param.num) with
  | ok m => rw [hb] at this; exact congrArg Except.ok (Option.some.inj this)
  | error e => rw [hb] at this; cases this

theorem fixedQubits_map_fixed (l : List Nat) : fixedQubits (l.map Qubit.fixed) = .ok l := by
  induction l with
  | nil => rfl
  | cons q l ih => simp only [List.map_cons, fixedQubits, ih]; rfl

theorem toUnitary0_of_lift {name : String} {θs : List K} {U R : Mat K} {qs : List Nat} {n : Nat}
    (hspec : specMatrix name θs = some U) (hlift : liftedGateMatrix U qs n defaultFuel = .ok R) :
    toUnitary0 name (θs.map Param.num) (qs.map Qubit.fixed) n = .ok (.ok R) := by
  unfold toUnitary0
  rw [fixedQubits_map_fixed, baseMatrix_of_spec hspec]
  simp only [hlift, Outcome.bind]

end Tables

end QV.C14
