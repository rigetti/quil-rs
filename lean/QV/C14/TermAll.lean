import QV.C14.Term
import Mathlib.Data.List.Sort
/-
What is proved about the shadow alone (no matrix).  The alternating sweep of `permutation_arbitrary` terminates: for
every `n` within two sweeps, by a variant argument (`sweepsS_terminates`); and, independently of it, for the property's
own quantifier (`n ≤ 5`, default fuel) by kernel evaluation of the shadow on every injective placement (`checkAll_true`).
Also where `start`'s two bounds come from (`sorted_bounds`) and the divergence on a repeated qubit (`sweepsS_diverges`).
-/
namespace QV.C14



/-- position `x` of a list with position `j` taken out, as a position of the whole list -/
def skip (j x : Nat) : Nat := if x < j then x else x + 1

/-- where the element that ends at position `p` came from, when the element at `j` is moved to `k`: take
position `k` out of the new list and position `j` out of the old one; what is left is the same list -/
def pre (j k p : Nat) : Nat := if p = k then j else skip j (if p < k then p else p - 1)

theorem sw_skip_succ (j x : Nat) : sw j (skip (j + 1) x) = skip j x := by
  unfold sw skip; split_ifs <;> omega

theorem skip_lt_skip {j x y : Nat} (h : skip j x < skip j y) : x < y := by
  unfold skip at h; split_ifs at h <;> omega

theorem sw_pre_succ (j k p : Nat) : sw j (pre (j + 1) k p) = pre j k p := by
  unfold pre
  by_cases h : p = k
  · rw [if_pos h, if_pos h]; simp [sw]
  · rw [if_neg h, if_neg h]; exact sw_skip_succ _ _

theorem sw_pre (j k p : Nat) : sw j (pre j k p) = pre (j + 1) k p := by rw [← sw_pre_succ, sw_sw]

theorem pre_self (k p : Nat) : pre k k p = p := by
  unfold pre skip; split_ifs <;> omega

theorem pre_k (j k : Nat) : pre j k k = j := if_pos rfl

theorem pre_lt {j k p n : Nat} (hj : j < n) (hk : k < n) (hp : p < n) : pre j k p < n := by
  unfold pre skip; split_ifs <;> omega

theorem pre_eq_j {j k p : Nat} (h : pre j k p = j) : p = k := by
  unfold pre skip at h; split_ifs at h <;> omega

theorem pre_of_lt {j k p : Nat} (h1 : p < j) (h2 : p < k) : pre j k p = p := by
  unfold pre skip; split_ifs <;> omega

/-- read `pre j k p` as the old position and `p` as the new one: an element above the target, other than the moved
one, does not go down -/
theorem pre_le_self {j k p : Nat} (h1 : k < pre j k p) (h2 : pre j k p ≠ j) : pre j k p ≤ p := by
  unfold pre skip at *; split_ifs at * <;> omega

theorem pre_mono {j k p p' : Nat} (h' : pre j k p' ≠ j) (h : pre j k p ≠ j) (hlt : pre j k p' < pre j k p) :
    p' < p := by
  have hp' : p' ≠ k := fun e => h' (e ▸ pre_k j k)
  have hp : p ≠ k := fun e => h (e ▸ pre_k j k)
  unfold pre at hlt
  rw [if_neg hp', if_neg hp] at hlt
  have := skip_lt_skip hlt
  split_ifs at this <;> omega

theorem swapStepsS_foldr {n : Nat} : ∀ (ps arr : List Nat), Good n arr → (∀ p ∈ ps, p + 2 ≤ n) →
    ∃ arr', swapStepsS n ps arr = .ok arr' ∧ Good n arr' ∧ ∀ q, arr'.getD q 0 = arr.getD (ps.foldr sw q) 0 := by
  intro ps
  induction ps with
  | nil => intro arr hg _; exact ⟨arr, rfl, hg, fun _ => rfl⟩
  | cons p ps ih =>
    intro arr hg hps
    have hp : p + 2 ≤ n := hps p List.mem_cons_self
    have hl : p + 1 < arr.length := by rw [hg.len]; omega
    obtain ⟨arr', h1, h2, h3⟩ := ih (swapList arr p) (Good.swap hg hp)
      fun x hx => hps x (List.mem_cons_of_mem _ hx)
    refine ⟨arr', ?_, h2, fun q => ?_⟩
    · simp only [swapStepsS]
      rw [if_neg (by omega), swapAt_eq, if_pos hl]
      exact h1
    · rw [h3, getD_swapList hl]; rfl

theorem foldr_sw_up (p : Nat) : ∀ d j, (List.range' j d).foldr sw p = pre j (j + d) p := by
  intro d
  induction d with
  | zero => intro j; exact (pre_self j p).symm
  | succ d ih =>
    intro j
    rw [List.range'_succ, List.foldr_cons, ih, show j + 1 + d = j + (d + 1) by omega, sw_pre_succ]

theorem foldr_sw_down (k p : Nat) : ∀ d, (List.range' k d).reverse.foldr sw p = pre (k + d) k p := by
  intro d
  induction d with
  | zero => exact (pre_self k p).symm
  | succ d ih =>
    rw [List.range'_concat, List.reverse_append, List.reverse_singleton, List.singleton_append, List.foldr_cons, ih,
      Nat.one_mul, sw_pre]
    rfl

theorem foldr_sw_swapPositions (j k p : Nat) : (swapPositions j k).foldr sw p = pre j k p := by
  unfold swapPositions
  split_ifs with h1 h2
  · subst h1; exact (pre_self j p).symm
  · rw [foldr_sw_down]; congr 1; omega
  · rw [foldr_sw_up]; congr 1; omega

/-- `two_swap_helper(j, k, …)` as it acts on `qubit_arr`. -/
theorem swapStepsS_swapPositions {n j k : Nat} {arr : List Nat} (hg : Good n arr) (hj : j < n) (hk : k < n) :
    ∃ arr', swapStepsS n (swapPositions j k) arr = .ok arr' ∧ Good n arr' ∧
      ∀ p, arr'.getD p 0 = arr.getD (pre j k p) 0 := by
  have hps : ∀ p ∈ swapPositions j k, p + 2 ≤ n := by
    intro p hp
    unfold swapPositions at hp
    split_ifs at hp
    · simp at hp
    · rw [List.mem_reverse, List.mem_range'_1] at hp; omega
    · rw [List.mem_range'_1] at hp; omega
  obtain ⟨arr', h1, h2, h3⟩ := swapStepsS_foldr _ arr hg hps
  exact ⟨arr', h1, h2, fun p => by rw [h3, foldr_sw_swapPositions]⟩

theorem position_of_mem : ∀ (arr : List Nat) (q : Nat), q ∈ arr →
    ∃ j, position q arr = some j ∧ j < arr.length ∧ arr.getD j 0 = q := by
  intro arr
  induction arr with
  | nil => intro q h; simp at h
  | cons y ys ih =>
    intro q h
    by_cases hy : y = q
    · exact ⟨0, by simp [position, hy], by simp, by simp [hy]⟩
    · have : q ∈ ys := by
        rcases List.mem_cons.mp h with h | h
        · exact absurd h.symm hy
        · exact h
      obtain ⟨j, h1, h2, h3⟩ := ih q this
      exact ⟨j + 1, by simp [position, hy, h1], by simpa using h2, by simpa using h3⟩

theorem Good.position_some {n : Nat} {arr : List Nat} (hg : Good n arr) {q : Nat} (hq : q < n) :
    ∃ j, position q arr = some j ∧ j < n ∧ arr.getD j 0 = q := by
  obtain ⟨p, hp, e⟩ := hg.surj hq
  have hmem : q ∈ arr := by
    rw [← e, List.getD_eq_getElem _ _ (by rw [hg.len]; exact hp)]
    exact List.getElem_mem _
  obtain ⟨j, h1, h2, h3⟩ := position_of_mem arr q hmem
  exact ⟨j, h1, by rw [← hg.len]; exact h2, h3⟩


theorem madeIt_no_crash {arr : List Nat} : ∀ (qs : List Nat) (f : Nat), f < arr.length →
    ∃ b, madeIt arr f qs = .ok b := by
  intro qs
  induction qs with
  | nil => intro f _; exact ⟨true, rfl⟩
  | cons q qs ih =>
    intro f hf
    simp only [madeIt]
    rw [if_pos hf]
    by_cases h : arr.getD f 0 = q
    · rw [if_pos h]; exact ih (f - 1) (by omega)
    · rw [if_neg h]; exact ⟨false, rfl⟩


theorem insertSorted_eq (x : Nat) (l : List Nat) : insertSorted x l = l.orderedInsert (· ≤ ·) x := by
  induction l with
  | nil => rfl
  | cons y ys ih => simp only [insertSorted, List.orderedInsert_cons, ih]

theorem sortNat_eq (l : List Nat) : sortNat l = l.insertionSort (· ≤ ·) := by
  induction l with
  | nil => rfl
  | cons x xs ih => simp only [sortNat, List.insertionSort_cons, ih, insertSorted_eq]

/-- `sorted_inds` is strictly increasing with values below `n`, so its `r`-th entry is at least `r` and leaves
room for the `len - r` entries from it on.  At `r = len / 2` these are the two facts about `start = med - len/2`:
the `u64` subtraction does not underflow, and `start + len ≤ n`. -/
theorem sorted_bounds {qs : List Nat} {n : Nat} (hlt : ∀ q ∈ qs, q < n) (hnd : qs.Nodup) :
    (sortNat qs).length = qs.length ∧
    ∀ r, r < qs.length → r ≤ (sortNat qs).getD r 0 ∧ (sortNat qs).getD r 0 + (qs.length - r) ≤ n := by
  rw [sortNat_eq]
  set s := qs.insertionSort (· ≤ ·) with hs
  have hperm : s.Perm qs := List.perm_insertionSort _ _
  have hlen : s.length = qs.length := hperm.length_eq
  have hpw : s.Pairwise (· ≤ ·) := List.pairwise_insertionSort _ _
  have hnd' : s.Nodup := hperm.nodup_iff.mpr hnd
  have hlt' : ∀ q ∈ s, q < n := fun q hq => hlt q (hperm.mem_iff.mp hq)
  have hstrict : ∀ (a b : Nat) (ha : a < s.length) (hb : b < s.length), a < b → s[a] < s[b] := by
    intro a b ha hb hab
    have hle := List.pairwise_iff_getElem.mp hpw a b ha hb hab
    have hne : s[a] ≠ s[b] := by
      intro e
      have := (List.Nodup.getElem_inj_iff hnd').mp e
      omega
    omega
  have hstep : ∀ t r (h : r + t < s.length), s[r]'(by omega) + t ≤ s[r + t] := by
    intro t
    induction t with
    | zero => intro r h; simp
    | succ t ih =>
      intro r h
      have h1 := ih r (by omega)
      have h2 := hstrict (r + t) (r + (t + 1)) (by omega) h (by omega)
      omega
  refine ⟨hlen, fun r hr => ?_⟩
  have hr' : r < s.length := by omega
  rw [List.getD_eq_getElem _ _ hr']
  constructor
  · have := hstep r 0 (by omega)
    simp only [Nat.zero_add] at this
    omega
  · have h1 := hstep (s.length - 1 - r) r (by omega)
    have e : r + (s.length - 1 - r) = s.length - 1 := by omega
    have h2 : s[s.length - 1]'(by omega) < n := hlt' _ (List.getElem_mem _)
    simp only [e] at h1
    omega


/-! The variant.  In the left-to-right sweep qubit `i` is moved to its slot `slot qs start i`, *below* the slots of all
earlier ones; a later qubit arriving from above pushes the earlier ones up by one, never down and never out of order.  So
after the sweep the listed qubits sit each at or above its slot (`Above`) and in the right relative order, earlier
listed = higher position (`Ordered`).  The right-to-left sweep then pulls them down one after the other, lowest slot
first; each move displaces only unlisted qubits, so the set of qubits sitting on their slots grows from the bottom
(`Exact`), and `Exact qs start 0` is the exit test.  So on a valid placement two sweeps of fuel suffice. -/

def Above (qs : List Nat) (n start i : Nat) (arr : List Nat) : Prop :=
  ∀ m p, m < i → p < n → arr.getD p 0 = qs.getD m 0 → slot qs start m ≤ p

def Ordered (qs : List Nat) (n i : Nat) (arr : List Nat) : Prop :=
  ∀ m m' p p', m < m' → m' < i → p < n → p' < n →
    arr.getD p 0 = qs.getD m 0 → arr.getD p' 0 = qs.getD m' 0 → p' < p

def Exact (qs : List Nat) (start i : Nat) (arr : List Nat) : Prop :=
  ∀ m, i ≤ m → m < qs.length → arr.getD (slot qs start m) 0 = qs.getD m 0

theorem getD_inj_of_nodup {qs : List Nat} (hnd : qs.Nodup) {a b : Nat} (ha : a < qs.length) (hb : b < qs.length)
    (h : qs.getD a 0 = qs.getD b 0) : a = b := by
  rw [List.getD_eq_getElem _ _ ha, List.getD_eq_getElem _ _ hb] at h
  exact (List.Nodup.getElem_inj_iff hnd).mp h

/-- one iteration of the `for i in array` body up to and including the exit test -/
theorem sweepS_iteration {qs : List Nat} {n start i : Nat} {arr : List Nat} (hlt : ∀ q ∈ qs, q < n)
    (hfit : start + qs.length ≤ n) (hg : Good n arr) (hi : i < qs.length) :
    ∃ j arr' b, position (qs.getD i 0) arr = some j ∧ j < n ∧ arr.getD j 0 = qs.getD i 0 ∧
      swapStepsS n (swapPositions j (slot qs start i)) arr = .ok arr' ∧ Good n arr' ∧
      (∀ p, arr'.getD p 0 = arr.getD (pre j (slot qs start i) p) 0) ∧
      madeIt arr' (start + qs.length - 1) qs = .ok b := by
  have hq : qs.getD i 0 < n := by
    rw [List.getD_eq_getElem _ _ hi]; exact hlt _ (List.getElem_mem _)
  obtain ⟨j, h1, h2, h3⟩ := Good.position_some hg hq
  have hk : slot qs start i < n := by unfold slot; omega
  obtain ⟨arr', e1, e2, e3⟩ := swapStepsS_swapPositions hg h2 hk
  obtain ⟨b, hb⟩ := madeIt_no_crash (arr := arr') qs (start + qs.length - 1) (by rw [e2.len]; omega)
  exact ⟨j, arr', b, h1, h2, h3, e1, e2, e3, hb⟩

theorem sweepS_cons {qs : List Nat} {n start i j : Nat} {is arr arr' : List Nat} {b : Bool}
    (h1 : position (qs.getD i 0) arr = some j)
    (h2 : swapStepsS n (swapPositions j (slot qs start i)) arr = .ok arr')
    (h3 : madeIt arr' (start + qs.length - 1) qs = .ok b) :
    sweepS qs n start (i :: is) arr = if b then .ok (true, arr') else sweepS qs n start is arr' := by
  simp only [sweepS, h1]
  rw [h2]
  simp only [Outcome.bind, h3]

theorem sweepS_no_crash {qs : List Nat} {n start : Nat} (hlt : ∀ q ∈ qs, q < n) (hfit : start + qs.length ≤ n) :
    ∀ (is : List Nat) (arr : List Nat), (∀ i ∈ is, i < qs.length) → Good n arr →
    ∃ made arr', sweepS qs n start is arr = .ok (made, arr') ∧ Good n arr' ∧
      (made = true → madeIt arr' (start + qs.length - 1) qs = .ok true) := by
  intro is
  induction is with
  | nil => intro arr _ hg; exact ⟨false, arr, rfl, hg, by simp⟩
  | cons i is ih =>
    intro arr his hg
    obtain ⟨j, arr', b, h1, _, _, h4, h5, _, h7⟩ := sweepS_iteration hlt hfit hg (his i List.mem_cons_self)
    rw [sweepS_cons h1 h4 h7]
    cases b with
    | true => exact ⟨true, arr', rfl, h5, fun _ => h7⟩
    | false => exact ih arr' (fun x hx => his x (List.mem_cons_of_mem _ hx)) h5


theorem slot_lt_slot {qs : List Nat} {start m i : Nat} (hm : m < i) (hi : i < qs.length) :
    slot qs start i < slot qs start m := by
  unfold slot; omega

theorem forward_step {qs : List Nat} {n start i j : Nat} {arr arr' : List Nat} (hnd : qs.Nodup)
    (hfit : start + qs.length ≤ n) (hg : Good n arr) (hi : i < qs.length) (hj : j < n)
    (hjq : arr.getD j 0 = qs.getD i 0)
    (hpre : ∀ p, arr'.getD p 0 = arr.getD (pre j (slot qs start i) p) 0)
    (hA : Above qs n start i arr) (hO : Ordered qs n i arr) :
    Above qs n start (i + 1) arr' ∧ Ordered qs n (i + 1) arr' := by
  have hk : slot qs start i < n := by unfold slot; omega
  -- an earlier listed qubit sits strictly above the target slot and is not the moved element: what `pre_le_self`
  -- and `pre_mono` ask for
  have early : ∀ m q, m < i → q < n → arr.getD q 0 = qs.getD m 0 →
      slot qs start i < q ∧ q ≠ j ∧ slot qs start m ≤ q := by
    intro m q hm hq h
    have h1 := hA m q hm hq h
    have h2 := slot_lt_slot (qs := qs) (start := start) hm hi
    refine ⟨by omega, ?_, h1⟩
    intro e
    rw [e, hjq] at h
    have := getD_inj_of_nodup hnd hi (by omega) h
    omega
  constructor
  · intro m p hm hp h
    rw [hpre] at h
    have hq := pre_lt hj hk hp
    by_cases hmi : m = i
    · subst hmi
      have := hg.inj _ _ hq hj (h.trans hjq.symm)
      rw [pre_eq_j this]
    · obtain ⟨e1, e2, e3⟩ := early m _ (by omega) hq h
      exact e3.trans (pre_le_self e1 e2)
  · intro m m' p p' hmm hm' hp hp' h h'
    rw [hpre] at h h'
    have hq := pre_lt hj hk hp
    have hq' := pre_lt hj hk hp'
    obtain ⟨e1, e2, e3⟩ := early m _ (by omega) hq h
    by_cases hmi : m' = i
    · subst hmi
      have := hg.inj _ _ hq' hj (h'.trans hjq.symm)
      rw [pre_eq_j this]
      exact lt_of_lt_of_le e1 (pre_le_self e1 e2)
    · obtain ⟨f1, f2, f3⟩ := early m' _ (by omega) hq' h'
      exact pre_mono f2 e2 (hO m m' _ _ hmm (by omega) hq hq' h h')

theorem backward_step {qs : List Nat} {n start i j : Nat} {arr arr' : List Nat}
    (hfit : start + qs.length ≤ n) (hi1 : 1 ≤ i) (hj : j < n)
    (hjq : arr.getD j 0 = qs.getD (i - 1) 0)
    (hpre : ∀ p, arr'.getD p 0 = arr.getD (pre j (slot qs start (i - 1)) p) 0)
    (hE : Exact qs start i arr) (hA : Above qs n start i arr) (hO : Ordered qs n i arr) :
    Exact qs start (i - 1) arr' ∧ Above qs n start (i - 1) arr' ∧ Ordered qs n (i - 1) arr' := by
  have hk : slot qs start (i - 1) < n := by unfold slot; omega
  -- the moved qubit comes down from `j`, at or above its slot (`Above`): the placed ones (`m ≥ i`) are below the slot,
  -- untouched (`pre_of_lt`); the earlier listed ones are above `j` (`Ordered`); what is displaced in between is unlisted
  have hkj : slot qs start (i - 1) ≤ j := hA (i - 1) j (by omega) hj hjq
  have upper : ∀ m q, m < i - 1 → q < n → arr.getD q 0 = qs.getD m 0 → j < q ∧ slot qs start m ≤ q := by
    intro m q hm hq h
    exact ⟨hO m (i - 1) q j hm (by omega) hq hj h hjq, hA m q (by omega) hq h⟩
  refine ⟨?_, ?_, ?_⟩
  · intro m hm hmL
    rw [hpre]
    by_cases hmi : m = i - 1
    · subst hmi; rw [pre_k]; exact hjq
    · have h1 : slot qs start m < slot qs start (i - 1) := slot_lt_slot (by omega) hmL
      rw [pre_of_lt (by omega) h1]
      exact hE m (by omega) hmL
  · intro m p hm hp h
    rw [hpre] at h
    obtain ⟨e1, e2⟩ := upper m _ hm (pre_lt hj hk hp) h
    exact e2.trans (pre_le_self (by omega) (by omega))
  · intro m m' p p' hmm hm' hp hp' h h'
    rw [hpre] at h h'
    have hq := pre_lt hj hk hp
    have hq' := pre_lt hj hk hp'
    obtain ⟨e1, _⟩ := upper m _ (by omega) hq h
    obtain ⟨f1, _⟩ := upper m' _ hm' hq' h'
    exact pre_mono (by omega) (by omega) (hO m m' _ _ hmm (by omega) hq hq' h h')


theorem forward_sweep {qs : List Nat} {n start : Nat} (hlt : ∀ q ∈ qs, q < n) (hnd : qs.Nodup)
    (hfit : start + qs.length ≤ n) :
    ∀ (d i : Nat) (arr : List Nat), i + d = qs.length → Good n arr →
      Above qs n start i arr → Ordered qs n i arr →
      ∃ made arr', sweepS qs n start (List.range' i d) arr = .ok (made, arr') ∧ Good n arr' ∧
        (made = false → Above qs n start qs.length arr' ∧ Ordered qs n qs.length arr') := by
  intro d
  induction d with
  | zero =>
    intro i arr hid hg hA hO
    have : i = qs.length := by omega
    subst this
    exact ⟨false, arr, rfl, hg, fun _ => ⟨hA, hO⟩⟩
  | succ d ih =>
    intro i arr hid hg hA hO
    have hi : i < qs.length := by omega
    obtain ⟨j, arr', b, h1, h2, h3, h4, h5, h6, h7⟩ := sweepS_iteration hlt hfit hg hi
    rw [List.range'_succ, sweepS_cons h1 h4 h7]
    cases b with
    | true => exact ⟨true, arr', rfl, h5, by simp⟩
    | false =>
      obtain ⟨hA', hO'⟩ := forward_step hnd hfit hg hi h2 h3 h6 hA hO
      exact ih (i + 1) arr' (by omega) h5 hA' hO'

theorem backward_sweep {qs : List Nat} {n start : Nat} (hlt : ∀ q ∈ qs, q < n)
    (hfit : start + qs.length ≤ n) :
    ∀ (i : Nat) (arr : List Nat), 1 ≤ i → i ≤ qs.length → Good n arr →
      Exact qs start i arr → Above qs n start i arr → Ordered qs n i arr →
      ∃ arr', sweepS qs n start (List.range i).reverse arr = .ok (true, arr') := by
  intro i
  induction i with
  | zero => intro arr h; omega
  | succ i ih =>
    intro arr _ hi hg hE hA hO
    have hi' : i < qs.length := by omega
    obtain ⟨j, arr', b, h1, h2, h3, h4, h5, h6, h7⟩ := sweepS_iteration hlt hfit hg hi'
    rw [List.range_succ, List.reverse_append, List.reverse_cons, List.reverse_nil, List.nil_append,
      List.singleton_append, sweepS_cons h1 h4 h7]
    cases b with
    | true => exact ⟨arr', rfl⟩
    | false =>
      obtain ⟨hE', hA', hO'⟩ := backward_step (i := i + 1) hfit (by omega) h2
        (by simpa using h3) (by simpa using h6) hE hA hO
      simp only [Nat.add_sub_cancel] at hE' hA' hO'
      by_cases h0 : i = 0
      · -- everything is placed, so the exit test cannot have failed
        exfalso
        subst h0
        have : madeIt arr' (start + qs.length - 1) qs = .ok true :=
          madeIt_iff_placed.mpr fun m hm => ⟨by rw [h5.len]; unfold slot; omega, hE' m (by omega) hm⟩
        rw [this] at h7
        injection h7 with h7
        cases h7
      · exact ih arr' (by omega) (by omega) h5 hE' hA' hO'

theorem sweepsS_terminates {qs : List Nat} {n start : Nat} (hlt : ∀ q ∈ qs, q < n) (hnd : qs.Nodup)
    (hfit : start + qs.length ≤ n) (hlen : 1 ≤ qs.length) (fuel : Nat) :
    sweepsS qs n start (fuel + 2) true (List.range n) = .ok () := by
  simp only [sweepsS, if_true]
  obtain ⟨made, arr1, h1, hg1, hf1⟩ := forward_sweep hlt hnd hfit qs.length 0 (List.range n)
    (by omega) (good_range n) (fun m p hm => by omega) (fun m m' p p' _ hm' => by omega)
  rw [List.range_eq_range', h1]
  simp only [Outcome.bind]
  cases made with
  | true => simp
  | false =>
    simp only [Bool.false_eq_true, if_false, Bool.not_true]
    obtain ⟨hA, hO⟩ := hf1 rfl
    obtain ⟨arr2, h2⟩ := backward_sweep hlt hfit qs.length arr1 hlen (le_refl _) hg1
      (fun m hm hmL => by omega) hA hO
    rw [← List.range_eq_range', h2]
    rfl

theorem shadow_ok_alln {qs : List Nat} {n : Nat} (hv : validPlacement qs n = true) (fuel : Nat) :
    (liftS qs.length qs n (fuel + 2)).isOk = true := by
  obtain ⟨hne, hlt, hnd⟩ := (validPlacement_iff qs n).mp hv
  have hlen : 1 ≤ qs.length := List.length_pos_iff.mpr hne
  obtain ⟨hsl, hb⟩ := sorted_bounds hlt hnd
  obtain ⟨hb1, hb2⟩ := hb (qs.length / 2) (by omega)
  have hfit : (sortNat qs).getD (qs.length / 2) 0 - qs.length / 2 + qs.length ≤ n := by omega
  unfold liftS permArbS
  simp only
  rw [if_pos (by rw [hsl]; omega), if_neg (by omega)]
  by_cases h1 : qs.length > 1
  · rw [if_pos h1, sweepsS_terminates hlt hnd hfit hlen fuel]
    simp only [Outcome.bind]
    rw [if_neg (by omega)]
    rfl
  · rw [if_neg h1]
    simp only [Outcome.bind]
    rw [if_neg (by omega)]
    rfl

def placements (n : Nat) : Nat → List (List Nat)
  | 0 => [[]]
  | k + 1 => (placements n k).flatMap fun qs => ((List.range n).filter fun a => !qs.contains a).map (· :: qs)

theorem mem_placements {n : Nat} : ∀ (qs : List Nat), (∀ q ∈ qs, q < n) → qs.Nodup → qs ∈ placements n qs.length := by
  intro qs
  induction qs with
  | nil => intro _ _; simp [placements]
  | cons a qs ih =>
    intro h hnd
    obtain ⟨ha, hnd'⟩ := List.nodup_cons.mp hnd
    simp only [List.length_cons, placements, List.mem_flatMap, List.mem_map, List.mem_filter, List.mem_range]
    exact ⟨qs, ih (fun q hq => h q (List.mem_cons_of_mem _ hq)) hnd', a,
      ⟨h a List.mem_cons_self, by simpa using ha⟩, rfl⟩

/-- Every list of `1 … 5` distinct qubits below `n ≤ 5`: 409 lists. -/
def checkAll : Bool :=
  (List.range 6).all fun n => (List.range 5).all fun k =>
    (placements n (k + 1)).all fun qs => (liftS (k + 1) qs n defaultFuel).isOk

theorem checkAll_true : checkAll = true := by decide +kernel

/-- Termination on the property's own quantifier: `n ≤ 5`, default fuel. -/
theorem shadow_ok_defaultFuel {qs : List Nat} {n : Nat} (hn : n ≤ 5) (hv : validPlacement qs n = true) :
    (liftS qs.length qs n defaultFuel).isOk = true := by
  obtain ⟨hne, hlt, hnd⟩ := (validPlacement_iff qs n).mp hv
  have hlen : qs.length ≤ n := by
    rw [← List.toFinset_card_of_nodup hnd, ← Finset.card_range n]
    exact Finset.card_le_card fun x hx => Finset.mem_range.mpr (hlt x (List.mem_toFinset.mp hx))
  have hpos : 0 < qs.length := List.length_pos_iff.mpr hne
  have h := checkAll_true
  simp only [checkAll, List.all_eq_true, List.mem_range] at h
  have hk : qs.length - 1 + 1 = qs.length := by omega
  have := h n (by omega) (qs.length - 1) (by omega) qs (by rw [hk]; exact mem_placements qs hlt hnd)
  rwa [hk] at this

/-- Outside the property.  With a repeated qubit in the list (all qubits `< n`, window inside the register)
the exit test can never hold — two different slots would have to hold the same qubit of a bijective
arrangement — and no step panics, so the `while !made_it` loop never exits: the shadow runs out of any fuel (and the
model with it: `sweeps_diverges` in `Lift.lean`). -/
theorem sweepsS_diverges {qs : List Nat} {n start : Nat} (hlt : ∀ q ∈ qs, q < n)
    (hfit : start + qs.length ≤ n) (hdup : ¬ qs.Nodup) :
    ∀ (fuel : Nat) (right : Bool) (arr : List Nat), Good n arr →
      sweepsS qs n start fuel right arr = .outOfFuel := by
  have hab : ∃ a b, a < b ∧ b < qs.length ∧ qs.getD a 0 = qs.getD b 0 := by
    by_contra hcon
    apply hdup
    rw [List.Nodup, List.pairwise_iff_getElem]
    intro a b ha hb hlt' e
    apply hcon
    exact ⟨a, b, hlt', hb, by rw [List.getD_eq_getElem _ _ ha, List.getD_eq_getElem _ _ hb, e]⟩
  obtain ⟨a, b, hab1, hb, hq⟩ := hab
  intro fuel
  induction fuel with
  | zero => intro right arr _; rfl
  | succ fuel ih =>
    intro right arr hg
    simp only [sweepsS]
    have hidx : ∀ i ∈ (if right = true then List.range qs.length else (List.range qs.length).reverse),
        i < qs.length := by
      intro i hi
      split_ifs at hi
      · exact List.mem_range.mp hi
      · exact List.mem_range.mp (List.mem_reverse.mp hi)
    obtain ⟨made, arr', h1, hg', hm⟩ := sweepS_no_crash hlt hfit _ arr hidx hg
    rw [h1]
    simp only [Outcome.bind]
    cases made with
    | false => simp only [Bool.false_eq_true, if_false]; exact ih _ _ hg'
    | true =>
      exfalso
      have hmt := (madeIt_eq_true_iff qs _).mp (hm rfl)
      obtain ⟨ha1, ha2⟩ := hmt a (by omega)
      obtain ⟨hb1, hb2⟩ := hmt b hb
      rw [hg'.len] at ha1 hb1
      have := hg'.inj _ _ ha1 hb1 (by rw [ha2, hb2, hq])
      omega

end QV.C14
