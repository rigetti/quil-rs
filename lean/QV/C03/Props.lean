import QV.Shared.ExprRoundTrip
/-!
# C03 — Serialized expressions denote the same value when parsed back

> For every expression with finite numeric literals, its Quil text parses successfully.  The parsed
> expression evaluates to the same complex value as the original under every assignment of variables and
> memory.  This includes complex and negative literals, nested negation, exponentiation and function calls.

Models (shared, tied to the code by the C03 correspondence check on every run):
`QV.ExprPrint.printTop` = `impl Quil for Expression` + `format_inner_expression` + `format_complex` +
`starts_with_minus` (expression/mod.rs), as a function to the tokens the real lexer produces from the printed text;
`QV.Parse.parseExpressionStr` = `Expression::from_str` after lexing (the Pratt parser of parser/expression.rs);
`QV.eval` = `Expression::evaluate`.

Hypotheses, all decidable and checked on every generated case by the driver:
* `finiteLits e` — every literal component is finite and is not `-0.0`.  For `-0.0` the full statement is
  FALSE of the code (`C03_negzero_counterexample`, known finding `C03/negative-zero-literal`);
* `plainNames e` — no memory region is named like a reserved word of the lexer (`ADD`, `DAGGER`, `mut`, `BIT`
  …): such a name is written as it is and lexes as a `Command` / `Modifier` / keyword token, so the text
  does not parse (`C03_reserved_name_counterexample`, known finding `C03/reserved-word-region-name`);
* `numTokOk F e` — the NumTok hypothesis: the decimal text of each literal component's magnitude lexes to a
  token denoting the same bits (`lexical`'s formatting and parsing are not modelled; validated on every
  numeric leaf through the real printer + real lexer).
-/
namespace QV.C03
open QV QV.Tok QV.Ast QV.Parse QV.ExprPrint QV.ExprRoundTrip

/-- The specification: `Expression::from_str` (after lexing) accepts the tokens, nothing left over, and the
expression it returns has the value of `e` under every assignment of variables and memory. -/
def RoundTrips {K : Type} [Scalar K] (den : CBits → K) (toks : List Token) (e : PExpr) : Prop :=
  ∃ e', parseExpressionStr toks = .ok e' [] ∧ ∀ (ρ : VarEnv K) (μ : MemEnv K), evalP den ρ μ e' = evalP den ρ μ e

/-- **C03** (every expression tree with `finiteLits`, of any depth; any scalar with `LitLaws`; any number formatter
satisfying the NumTok hypothesis on the literals of `e`): the printed tokens parse back, completely, to an
expression that evaluates to the same value as `e` under every assignment. -/
theorem C03 {K : Type} [Scalar K] (den : CBits → K) (L : LitLaws K den) (F : NumFmt) (e : PExpr)
    (hf : finiteLits e = true) (hn : numTokOk F e = true) : RoundTrips den (printTop F e) e :=
  ⟨norm e, parseExpressionStr_printTop F e hf hn, fun ρ μ => eval_norm L ρ μ e hf⟩

/-- C03 for the concrete printer `printExprTokens` (= `lex_tokens ∘ to_quil`, compared on every case): the
idealised `printTop stdFmt` with every written name classified the way the lexer does; needs `plainNames`
(no memory region named like a reserved word of the lexer) — see `C03_reserved_name_counterexample`. -/
theorem C03_std {K : Type} [Scalar K] (den : CBits → K) (L : LitLaws K den) (e : PExpr)
    (hf : finiteLits e = true) (hm : plainNames e = true) (hn : numTokOk stdFmt e = true) :
    RoundTrips den (printExprTokens e) e := by
  rw [printExprTokens_eq e hm]
  exact C03 den L stdFmt e hf hn

/-- C03 for an expression inside an instruction: the printed tokens followed by ANY `rest` that does not begin with
an operator, the identifier `i` or `[` are consumed exactly, at every depth budget larger than the number of printed
tokens, and yield `norm e`, whose value is that of `e`.  (C02 applies the parsing half at the entry point's own
budget, `parseExpression_printTop`.) -/
theorem C03_with_tail {K : Type} [Scalar K] (den : CBits → K) (L : LitLaws K den) (F : NumFmt) (e : PExpr)
    (hf : finiteLits e = true) (hn : numTokOk F e = true) (d : Nat) (rest : List Token)
    (hd : (printTop F e).length < d) (he : endOk rest = true) :
    parseExpressionAt d (printTop F e ++ rest) = .ok (norm e) rest ∧
      ∀ (ρ : VarEnv K) (μ : MemEnv K), evalP den ρ μ (norm e) = evalP den ρ μ e :=
  ⟨parseExpressionAt_printTop F e hf hn d rest hd he, fun ρ μ => eval_norm L ρ μ e hf⟩

/-- Operand form at any precedence `p`: what `format_inner_expression` writes, followed by a `rest` that
does not begin with an operator binding tighter than `p` (nor `i`, nor `[`), is consumed exactly. -/
theorem C03_operand (F : NumFmt) (e : PExpr) (hf : finiteLits e = true) (hn : numTokOk F e = true)
    (d : Nat) (rest : List Token) (p : Prec) (hd : (inner F e).length ≤ d) (ht : tailOk rest = true)
    (hs : stopsAt p rest = true) : parse (d + 1) (inner F e ++ rest) p = .ok (norm e) rest :=
  parse_inner F e hf hn d rest p hd ht hs

/-- The parser never runs out of its model budgets on printed expressions, and never fails: a corollary
worth stating because `Outcome` has `crash` / `err` / `fail` constructors. -/
theorem C03_parses (F : NumFmt) (e : PExpr) (hf : finiteLits e = true) (hn : numTokOk F e = true) :
    (parseExpressionStr (printTop F e)).isOk = true := by
  rw [parseExpressionStr_printTop F e hf hn]; rfl

/-- A second round trip is the identity: the re-parsed tree has the shape the parser produces (no prefix
plus, literals non-negative and purely real or purely imaginary), such trees are fixed points of `norm`,
hence `norm` is idempotent. -/
theorem C03_normal_form (e : PExpr) (hf : finiteLits e = true) :
    parserShaped (norm e) = true ∧ norm (norm e) = norm e ∧
      ∀ e' : PExpr, parserShaped e' = true → norm e' = e' :=
  ⟨norm_parserShaped e hf, norm_norm e hf, norm_eq_self⟩

/-- For `stdFmt` the hypothesis is trivially true of every component that is written as a `Float` token
(all imaginary parts, all non-integral or large real parts); what remains is, for each real part that is
an integer `n < 10^16`: `n as f64` has the bits of that real part (`DecF64.ofNat`, an exact-rounding
definition) — validated numerically by the driver on every literal, not proved. -/
theorem numTokOkAt_std (z : CBits)
    (h : ∀ n, intValue? (fAbs z.re) = some n → n < 10 ^ 16 → QV.DecF64.ofNat n = fAbs z.re) :
    numTokOkAt stdFmt z = true := by
  simp only [numTokOkAt, stdFmt, Bool.and_eq_true, beq_iff_eq]
  refine ⟨?_, rfl⟩
  cases hv : intValue? (fAbs z.re) with
  | none => rfl
  | some n =>
    simp only
    by_cases hlt : n < 10 ^ 16
    · simp only [hlt, if_true, tokBits]; rw [h n hv hlt]
    · simp only [hlt, if_false, tokBits]

/-! ## non-vacuity: the literal laws hold in exact arithmetic -/

/-- the Gaussian integers, with `negate x = 0 - x` (the operations the laws do not mention are arbitrary) -/
def GI : Type := Int × Int

instance : Scalar GI where
  add a b := (a.1 + b.1, a.2 + b.2)
  sub a b := (a.1 - b.1, a.2 - b.2)
  mul a b := (a.1 * b.1 - a.2 * b.2, a.1 * b.2 + a.2 * b.1)
  div a _ := a
  pow a _ := a
  neg a := (0 - a.1, 0 - a.2)
  sin a := a
  cos a := a
  exp a := a
  sqrt a := a
  cis a := a
  pi := (3, 0)
  zero := (0, 0)
  one := (1, 0)

/-- sign-magnitude reading of a bit pattern (the order-preserving integer reading of a double) -/
def sval (b : Nat) : Int := if b < two63 then (b : Int) else -((b - two63 : Nat) : Int)

def denGI (z : CBits) : GI := (sval z.re, sval z.im)

theorem plainBits_lt (b : Nat) (h : plainBits b = true) : b < 18446744073709551616 := by
  rw [plainBits_iff] at h; omega

theorem sval_neg {b : Nat} (hb : plainBits b = true) (hlt : two63 < b) : sval b = 0 - sval (b - two63) := by
  have := plainBits_lt b hb
  have h63 : two63 = 9223372036854775808 := rfl
  simp only [sval, h63] at hlt ⊢
  split <;> split <;> omega

theorem litLaws_GI : LitLaws GI denGI := by
  have h0 : sval 0 = 0 := by simp [sval, two63]
  refine ⟨fun b hb hlt => ?_, fun b hb hlt => ?_, fun re im _ _ _ _ _ => ?_, fun re im _ him _ hlt => ?_⟩
  · simp only [denGI, Scalar.neg, sval_neg hb hlt, h0]; rfl
  · simp only [denGI, Scalar.neg, sval_neg hb hlt, h0]; rfl
  · simp only [denGI, Scalar.add, h0, Int.add_zero, Int.zero_add]; rfl
  · simp only [denGI, Scalar.sub, sval_neg him hlt, h0, Int.sub_zero]; rfl

def b1 : Nat := 0x3FF0000000000000       -- 1.0
def b1h : Nat := 0x3FF8000000000000      -- 1.5
def bm1h : Nat := 0xBFF8000000000000     -- -1.5
def b2 : Nat := 0x4000000000000000       -- 2.0
def bm2 : Nat := 0xC000000000000000      -- -2.0

/-- `-(-1.5) ^ ((1.5-2.0i) * sqrt(%x - pi))`-like tree: negation of a negative literal, a complex literal
with a negative imaginary part as an operand, exponentiation, a function call, subtraction -/
def witness : PExpr :=
  .bin (.pre .minus (.number ⟨bm1h, 0⟩)) .caret
    (.bin (.number ⟨b1h, bm2⟩) .star (.call .sqrt (.bin (.var "x") .minus .pi)))

/-- the hypotheses of `C03_std` are satisfiable on a non-trivial tree, and the conclusion is not trivial:
the re-parsed tree differs from the original -/
example : finiteLits witness = true ∧ plainNames witness = true ∧ numTokOk stdFmt witness = true ∧
    norm witness ≠ witness := by
  decide

example : RoundTrips denGI (printExprTokens witness) witness :=
  C03_std denGI litLaws_GI witness (by decide) (by decide) (by decide)

/-- what the witness prints to: `-(-1.5)^((1.5-2.0i)*sqrt(%x - pi))` -/
example : printExprTokens witness =
    [.operator .minus, .lParenthesis, .operator .minus, .float b1h, .rParenthesis, .operator .caret,
     .lParenthesis, .lParenthesis, .float b1h, .operator .minus, .float b2, tokI, .rParenthesis,
     .operator .star, .identifier "sqrt".toList, .lParenthesis, .variable ['x'], .operator .minus, tokPi,
     .rParenthesis, .rParenthesis] :=
  (printExprTokens_eq witness (by decide)).trans (by decide)

/-- the side condition of the tail form is satisfiable by the tokens that follow an expression in a
program: `)`, `,`, a newline, an integer (qubit), a string -/
example : endOk [.rParenthesis] = true ∧ endOk [.comma] = true ∧ endOk [.newLine] = true ∧
    endOk [.integer 0] = true ∧ endOk [.string []] = true ∧ endOk [] = true := by decide

/-! ## the full statement is false for literals with a `-0.0` component

The statement of C03 quantifies over "finite numeric literals"; `-0.0` is finite.  But `format_complex`
decides what to print with `== 0f64`, so the sign of a zero is never written: two different literals print
to the same tokens, and no parser whatsoever can read both back value-preservingly in a scalar type where
`sqrt` tells them apart (as IEEE `Complex64::sqrt` does: `sqrt(-9-0.0i) = -3i`, `sqrt(-9+0.0i) = +3i` —
observed on the real code in the harness stream `negzero`). -/

def bm9 : Nat := 0xC022000000000000      -- -9.0
def negZero : Nat := two63               -- -0.0

/-- `sqrt(-9-0.0i)` and `sqrt(-9+0.0i)` are different trees whose literals are finite doubles and that print
identically; the third conjunct says that the first lies outside `finiteLits`, which excludes `-0.0` -/
theorem C03_negzero_collision :
    printExprTokens (.call .sqrt (.number ⟨bm9, negZero⟩)) = printExprTokens (.call .sqrt (.number ⟨bm9, 0⟩)) ∧
    (Expr.call .sqrt (.number ⟨bm9, negZero⟩) : PExpr) ≠ .call .sqrt (.number ⟨bm9, 0⟩) ∧
    finiteLits (.call .sqrt (.number ⟨bm9, negZero⟩)) = false :=
  -- the two already agree before the lexer classifies the names
  ⟨congrArg (List.map relex) (by decide : printTop stdFmt _ = printTop stdFmt _), by decide, by decide⟩

/-- Full statement (FALSE of the code, kept visible):
`∀ den F e, (all literal components of e finite) → RoundTrips den (printTop F e) e`.
Its negation on the witness, for every scalar whose `sqrt` separates the two literals.  (The proof uses of the
parser only that it is a function of the tokens: the two trees print to the same tokens.) -/
theorem C03_negzero_counterexample {K : Type} [Scalar K] (den : CBits → K)
    (hsep : (Scalar.sqrt (den ⟨bm9, negZero⟩) : K) ≠ Scalar.sqrt (den ⟨bm9, 0⟩)) :
    ¬ (RoundTrips den (printExprTokens (.call .sqrt (.number ⟨bm9, negZero⟩)))
          (.call .sqrt (.number ⟨bm9, negZero⟩)) ∧
       RoundTrips den (printExprTokens (.call .sqrt (.number ⟨bm9, 0⟩)))
          (.call .sqrt (.number ⟨bm9, 0⟩))) := by
  rintro ⟨⟨e1, h1, v1⟩, ⟨e2, h2, v2⟩⟩
  rw [C03_negzero_collision.1] at h1
  rw [h1] at h2
  have he : e1 = e2 := by injection h2
  subst he
  have a := v1 (fun _ => none) (fun _ => none)
  have b := v2 (fun _ => none) (fun _ => none)
  rw [a] at b
  simp only [evalP, Expr.mapNum, eval, calcFn] at b
  injection b with b
  exact hsep b

/-! ## the full statement is false for a memory region named like a reserved word

`MemoryReference { name, index }` has public fields and no validation; `name[index]` is written verbatim and
the lexer classifies `ADD`, `DAGGER`, `BIT`, `mut`, `PAULI-SUM` … as `Command` / `Modifier` / `DataType` /
keyword tokens, which `parse_expression` rejects. -/

theorem C03_reserved_name_counterexample :
    finiteLits (.address ⟨"ADD", 0⟩) = true ∧ plainNames (.address ⟨"ADD", 0⟩) = false ∧
    printExprTokens (.address ⟨"ADD", 0⟩) = [.command .add, .lBracket, .integer 0, .rBracket] ∧
    (parseExpressionStr (printExprTokens (.address ⟨"ADD", 0⟩))).isOk = false ∧
    (parseExpressionStr (printExprTokens (.bin (.address ⟨"DAGGER", 1⟩) .star (.address ⟨"mut", 0⟩)))).isOk = false := by
  decide +kernel

end QV.C03
