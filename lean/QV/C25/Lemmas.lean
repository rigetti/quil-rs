import QV.Shared.Sched
import QV.Shared.ListLemmas
/-! The span fold of `BasicBlock::as_schedule` (control_flow_graph.rs:278-295) and its source map. -/
namespace QV.C25
open QV.Sched

/-- what `foldSpans` does to the entry of one source index, given the items mapped to that index (`foldSpans_lookup`) -/
def hullFold : Option (Int × Int) → List SItem → Option (Int × Int)
  | o, [] => o
  | none, it :: rest => hullFold (some (it.start, it.dur)) rest
  | some sp, it :: rest => hullFold (some (spanUnion sp (it.start, it.dur))) rest

theorem spanUnion_start (a b : Int × Int) : (spanUnion a b).1 = min a.1 b.1 := by
  simp only [spanUnion]; split <;> omega

theorem spanUnion_stop (a b : Int × Int) :
    (spanUnion a b).1 + (spanUnion a b).2 = max (a.1 + a.2) (b.1 + b.2) := by
  simp only [spanUnion]; split <;> split <;> omega

theorem spanUnion_spec (a b : Int × Int) :
    ((spanUnion a b).1 ≤ a.1 ∧ (spanUnion a b).1 ≤ b.1 ∧ ((spanUnion a b).1 = a.1 ∨ (spanUnion a b).1 = b.1)) ∧
    (a.1 + a.2 ≤ (spanUnion a b).1 + (spanUnion a b).2 ∧ b.1 + b.2 ≤ (spanUnion a b).1 + (spanUnion a b).2 ∧
      ((spanUnion a b).1 + (spanUnion a b).2 = a.1 + a.2 ∨ (spanUnion a b).1 + (spanUnion a b).2 = b.1 + b.2)) := by
  rw [spanUnion_stop, spanUnion_start]
  refine ⟨⟨Int.min_le_left .., Int.min_le_right .., ?_⟩, Int.le_max_left .., Int.le_max_right .., ?_⟩
  · rw [Int.min_def]; split <;> simp
  · rw [Int.max_def]; split <;> simp

theorem hullFold_some (sp : Int × Int) : ∀ (l : List SItem), ∃ r, hullFold (some sp) l = some r ∧
    r.1 ≤ sp.1 ∧ sp.1 + sp.2 ≤ r.1 + r.2 ∧
    (∀ y ∈ l, r.1 ≤ y.start ∧ y.stop ≤ r.1 + r.2) ∧
    (r.1 = sp.1 ∨ ∃ y ∈ l, y.start = r.1) ∧ (r.1 + r.2 = sp.1 + sp.2 ∨ ∃ y ∈ l, y.stop = r.1 + r.2) := by
  intro l
  induction l generalizing sp with
  | nil => exact ⟨sp, rfl, Int.le_refl _, Int.le_refl _, (fun _ h => nomatch h), .inl rfl, .inl rfl⟩
  | cons it rest ih =>
    obtain ⟨r, hr, h1, h2, h3, h4, h5⟩ := ih (spanUnion sp (it.start, it.dur))
    obtain ⟨⟨s1, s2, s3⟩, e1, e2, e3⟩ := spanUnion_spec sp (it.start, it.dur)
    refine ⟨r, by rw [hullFold]; exact hr, Int.le_trans h1 s1, Int.le_trans e1 h2, ?_, ?_, ?_⟩
    · intro y hy
      rcases List.mem_cons.1 hy with rfl | hy
      · exact ⟨Int.le_trans h1 s2, Int.le_trans e2 h2⟩
      · exact h3 y hy
    · rcases h4 with h4 | ⟨y, hy, h4⟩
      · rcases s3 with s3 | s3
        · exact .inl (h4.trans s3)
        · exact .inr ⟨it, List.mem_cons_self, (h4.trans s3).symm⟩
      · exact .inr ⟨y, List.mem_cons_of_mem _ hy, h4⟩
    · rcases h5 with h5 | ⟨y, hy, h5⟩
      · rcases e3 with e3 | e3
        · exact .inl (h5.trans e3)
        · exact .inr ⟨it, List.mem_cons_self, (h5.trans e3).symm⟩
      · exact .inr ⟨y, List.mem_cons_of_mem _ hy, h5⟩

theorem hullFold_none : ∀ (l : List SItem), l ≠ [] → ∃ r, hullFold none l = some r ∧
    (∀ y ∈ l, r.1 ≤ y.start ∧ y.stop ≤ r.1 + r.2) ∧
    (∃ y ∈ l, y.start = r.1) ∧ (∃ y ∈ l, y.stop = r.1 + r.2) := by
  intro l hl
  cases l with
  | nil => exact absurd rfl hl
  | cons it rest =>
    obtain ⟨r, hr, h1, h2, h3, h4, h5⟩ := hullFold_some (it.start, it.dur) rest
    simp only at h1 h2 h4 h5
    refine ⟨r, by simpa [hullFold] using hr, ?_, ?_, ?_⟩
    · intro y hy
      rcases List.mem_cons.1 hy with rfl | hy
      · simp only [SItem.stop]; constructor <;> omega
      · exact h3 y hy
    · rcases h4 with h4 | ⟨y, hy, h4⟩
      · exact ⟨it, List.mem_cons_self, h4.symm⟩
      · exact ⟨y, List.mem_cons_of_mem _ hy, h4⟩
    · rcases h5 with h5 | ⟨y, hy, h5⟩
      · exact ⟨it, List.mem_cons_self, by simp only [SItem.stop]; omega⟩
      · exact ⟨y, List.mem_cons_of_mem _ hy, h5⟩

theorem hullFold_nil_none : ∀ (l : List SItem), hullFold none l = none → l = [] := by
  intro l h
  cases l with
  | nil => rfl
  | cons it rest =>
    obtain ⟨r, hr, _⟩ := hullFold_some (it.start, it.dur) rest
    simp only [hullFold] at h
    rw [hr] at h; cases h

theorem lookup_update {β : Type} (s s' : Nat) (v : β) : ∀ (acc : List (Nat × β)),
    (acc.map fun kv => if kv.1 = s then (s, v) else kv).lookup s' =
      if s' = s then (acc.lookup s).map (fun _ => v) else acc.lookup s' := by
  intro acc
  induction acc with
  | nil => simp
  | cons kv rest ih =>
    obtain ⟨k, x⟩ := kv
    by_cases hk : k = s
    · subst hk
      by_cases hs : s' = k
      · subst hs; simp
      · have h1 : (s' == k) = false := by simpa using hs
        simp [List.lookup_cons, h1, hs, ih]
    · by_cases hs : s' = s
      · subst hs
        have h1 : (s' == k) = false := by simpa using fun h => hk h.symm
        simp [List.lookup_cons, h1, hk, ih]
      · by_cases hk' : s' = k
        · subst hk'; simp [hk]
        · have h1 : (s' == k) = false := by simpa using hk'
          simp [List.lookup_cons, h1, hk, hs, ih]

theorem keys_update {β : Type} (s : Nat) (v : β) (acc : List (Nat × β)) :
    (acc.map fun kv => if kv.1 = s then (s, v) else kv).map (·.1) = acc.map (·.1) := by
  induction acc with
  | nil => rfl
  | cons kv rest ih =>
    simp only [List.map_cons, ih]
    by_cases hk : kv.1 = s <;> simp [hk]

theorem lookup_append_new {β : Type} (s s' : Nat) (v : β) (acc : List (Nat × β)) (h : acc.lookup s = none) :
    (acc ++ [(s, v)]).lookup s' = if s' = s then some v else acc.lookup s' := by
  rw [List.lookup_append]
  by_cases hs : s' = s
  · simp [hs, h]
  · have hb : (s' == s) = false := by simpa using hs
    simp [hs, hb, List.lookup_cons]

theorem foldSpans_lookup (m : List (Nat × Nat)) : ∀ (items : List SItem) (acc : List (Nat × (Int × Int))),
    (acc.map (·.1)).Nodup →
    ((foldSpans m items acc).map (·.1)).Nodup ∧
    ∀ s, (foldSpans m items acc).lookup s =
      hullFold (acc.lookup s) (items.filter fun it => sourceOf m it.index = some s) := by
  intro items
  induction items with
  | nil => intro acc h; exact ⟨h, fun s => by simp [foldSpans, hullFold]⟩
  | cons it rest ih =>
    intro acc hnd
    simp only [foldSpans]
    cases hsrc : sourceOf m it.index with
    | none =>
      simp only
      obtain ⟨h1, h2⟩ := ih acc hnd
      refine ⟨h1, fun s => ?_⟩
      rw [h2 s]
      simp [hsrc]
    | some s0 =>
      simp only
      -- either way the entry of `s0` becomes the fold of `it` onto what was there; the other entries stay
      have tail : ∀ acc' : List (Nat × (Int × Int)), (acc'.map (·.1)).Nodup →
          (∀ s, acc'.lookup s = if s = s0 then hullFold (acc.lookup s0) [it] else acc.lookup s) →
          ((foldSpans m rest acc').map (·.1)).Nodup ∧ ∀ s, (foldSpans m rest acc').lookup s =
            hullFold (acc.lookup s) ((it :: rest).filter fun it => sourceOf m it.index = some s) := by
        intro acc' hnd' hlook
        obtain ⟨h1, h2⟩ := ih acc' hnd'
        refine ⟨h1, fun s => ?_⟩
        rw [h2 s, hlook s]
        by_cases hs : s = s0
        · subst hs
          cases acc.lookup s <;> simp [hsrc, hullFold]
        · have : ¬ (some s0 = some s) := by simpa using fun h => hs h.symm
          simp [hsrc, hs, this]
      cases hl : acc.lookup s0 with
      | some sp =>
        exact tail _ (by rw [keys_update]; exact hnd) fun s => by rw [lookup_update, hl]; rfl
      | none =>
        refine tail _ ?_ fun s => by rw [lookup_append_new _ _ _ _ hl, hl]; rfl
        rw [List.map_append, List.nodup_append]
        refine ⟨hnd, by simp, fun a ha b hb heq => ?_⟩
        obtain rfl : b = s0 := by simpa using hb
        exact lookup_eq_none_iff_not_mem_keys.1 hl (heq ▸ ha)

def srcStep (idx : Nat) (best : Option (Nat × Nat)) (kv : Nat × Nat) : Option (Nat × Nat) :=
  if kv.1 ≤ idx then
    match best with
    | some b => if b.1 ≤ kv.1 then some kv else some b
    | none => some kv
  else best

theorem sourceOf_eq (m : List (Nat × Nat)) (idx : Nat) :
    sourceOf m idx = (m.foldl (srcStep idx) none).map (·.2) := rfl

theorem srcStep_take {idx : Nat} {best : Option (Nat × Nat)} {kv : Nat × Nat} (h : kv.1 ≤ idx)
    (hb : ∀ b, best = some b → b.1 ≤ kv.1) : srcStep idx best kv = some kv := by
  simp only [srcStep]
  rw [if_pos h]
  cases best with
  | none => rfl
  | some b => simp only; rw [if_pos (hb b rfl)]

theorem srcStep_key_le {idx c : Nat} {best : Option (Nat × Nat)} {kv : Nat × Nat}
    (hb : ∀ b, best = some b → b.1 ≤ c) (hkv : kv.1 ≤ c) : ∀ b, srcStep idx best kv = some b → b.1 ≤ c := by
  intro b h
  simp only [srcStep] at h
  split at h
  · cases best with
    | none => exact Option.some.inj h ▸ hkv
    | some b0 =>
      simp only at h
      split at h
      · exact Option.some.inj h ▸ hkv
      · exact Option.some.inj h ▸ hb b0 rfl
  · exact hb b h

theorem sourceOf_fold_skip (idx : Nat) : ∀ (lens : List Nat) (s acc : Nat) (best : Option (Nat × Nat)), idx < acc →
    (firstIndices lens s acc).foldl (srcStep idx) best = best := by
  intro lens
  induction lens with
  | nil => intro s acc best _; rfl
  | cons len rest ih =>
    intro s acc best h
    simp only [firstIndices, List.foldl_cons]
    have : srcStep idx best (acc, s) = best := by
      simp only [srcStep]
      rw [if_neg (by omega)]
    rw [this]
    exact ih (s + 1) (acc + len) best (by omega)

theorem firstIndices_get : ∀ (lens : List Nat) (s acc j len : Nat), lens[j]? = some len →
    ∃ first, (firstIndices lens s acc)[j]? = some (first, s + j) ∧ acc ≤ first ∧ first + len ≤ acc + lens.sum := by
  intro lens
  induction lens with
  | nil => intro s acc j len h; simp at h
  | cons l0 rest ih =>
    intro s acc j len h
    cases j with
    | zero =>
      simp only [List.getElem?_cons_zero, Option.some.injEq] at h
      subst h
      exact ⟨acc, by simp [firstIndices], Nat.le_refl _, by simp only [List.sum_cons]; omega⟩
    | succ j' =>
      simp only [List.getElem?_cons_succ] at h
      obtain ⟨first, h1, h2, h3⟩ := ih (s + 1) (acc + l0) j' len h
      refine ⟨first, ?_, by omega, by simp only [List.sum_cons]; omega⟩
      simp only [firstIndices, List.getElem?_cons_succ]
      have e : s + (j' + 1) = s + 1 + j' := by omega
      rw [e]; exact h1

theorem sourceOf_fold_hit (idx : Nat) : ∀ (lens : List Nat) (s acc : Nat) (best : Option (Nat × Nat)),
    (∀ b, best = some b → b.1 ≤ acc) → ∀ j first len, (firstIndices lens s acc)[j]? = some (first, s + j) →
    lens[j]? = some len → first ≤ idx → idx < first + len →
    ((firstIndices lens s acc).foldl (srcStep idx) best).map (·.2) = some (s + j) := by
  intro lens
  induction lens with
  | nil => intro s acc best _ j first len h; simp [firstIndices] at h
  | cons l0 rest ih =>
    intro s acc best hb j first len hf hl h1 h2
    simp only [firstIndices, List.foldl_cons]
    cases j with
    | zero =>
      simp only [firstIndices, List.getElem?_cons_zero, Option.some.injEq, Prod.mk.injEq] at hf
      simp only [List.getElem?_cons_zero, Option.some.injEq] at hl
      obtain ⟨rfl, _⟩ := hf
      subst hl
      -- this entry replaces the best so far, whose key is at most `acc`, and every later key is beyond `idx`
      rw [srcStep_take h1 hb, sourceOf_fold_skip idx rest (s + 1) (acc + l0) _ (by omega)]
      simp
    | succ j' =>
      simp only [firstIndices, List.getElem?_cons_succ] at hf hl
      have e : s + (j' + 1) = s + 1 + j' := by omega
      rw [e] at hf ⊢
      exact ih (s + 1) (acc + l0) _ (srcStep_key_le (fun b h => Nat.le_trans (hb b h) (Nat.le_add_right _ _))
        (Nat.le_add_right acc l0)) j' first len hf hl h1 h2

theorem firstIndices_interval : ∀ (lens : List Nat) (s acc idx : Nat), acc ≤ idx → idx < acc + lens.sum →
    ∃ j first len, (firstIndices lens s acc)[j]? = some (first, s + j) ∧ lens[j]? = some len ∧
      first ≤ idx ∧ idx < first + len := by
  intro lens
  induction lens with
  | nil => intro s acc idx h1 h2; simp at h2; omega
  | cons l0 rest ih =>
    intro s acc idx h1 h2
    simp only [List.sum_cons] at h2
    by_cases hlt : idx < acc + l0
    · exact ⟨0, acc, l0, by simp [firstIndices], by simp, h1, hlt⟩
    · obtain ⟨j, first, len, a, b, c, d⟩ := ih (s + 1) (acc + l0) idx (by omega) (by omega)
      refine ⟨j + 1, first, len, ?_, by simpa using b, c, d⟩
      simp only [firstIndices, List.getElem?_cons_succ]
      have e : s + (j + 1) = s + 1 + j := by omega
      rw [e]; exact a

end QV.C25
