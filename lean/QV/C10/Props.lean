import QV.C10.Lemmas
/-
C10 — A program's used-qubit set and equality depend only on its content.

"After any sequence of public operations, a program's used-qubit set equals the set of qubits
mentioned by its instructions. Two programs with the same instruction listing compare equal. The
operations include building, adding, concatenating, cloning without body, resolving placeholders,
expanding calibrations or gate sequences, and simplifying."

FULL STATEMENT (false of the code, see `C10_full_counterexample`):
    ∀ h : Hist, h.valid → Inv (eval h)
where `Inv p := ∀ q, q ∈ p.used ↔ q ∈ qubitsOf (toInstructions p)`.

The invariant splits into two inclusions and each of the two known findings breaks exactly one:
* `Complete p` (listing ⊆ cache) fails only through `clone_without_body_instructions` (directly
  or inside `wrap_in_loop`) on a program whose retained definitions mention qubits
  — finding C10/clone-without-body-resets-cache; excluded by `Hist.noLoss`;
* `Fresh p` (cache ⊆ listing) fails only when a definition carrying qubits is replaced and one of
  its qubits is no longer mentioned — finding C10/redefined-calibration-leaves-stale-qubits;
  excluded by `Hist.noStale`.
Both predicates are decidable functions of the history (`QV/C10/Model.lean`). They are sufficient,
not necessary; at a single `clone_without_body_instructions` and a single `add_instruction` from a
state satisfying the invariant they are exact (`C10_clone_iff`, `C10_add_iff`). All theorems are
unbounded: induction over histories of any shape and size (a tree, since a concatenation operand
has its own history).
-/
namespace QV.C10
open QV.Prog

theorem C10_wf_reachable (h : Hist) (hv : h.valid = true) : WF (eval h) := (eval_facts h hv).1

theorem C10_inv_empty : Inv empty := inv_empty

/-- listing ⊆ cache after every history that never clones-without-body a program whose retained
definitions mention qubits — however many calibrations were redefined on the way -/
theorem C10_complete_partial (h : Hist) (hv : h.valid = true) (hl : h.noLoss = true) :
    Complete (eval h) :=
  (eval_facts h hv).2.1 hl

/-- cache ⊆ listing after every history in which no replaced definition loses a qubit — however
often the program was cloned without body -/
theorem C10_fresh_partial (h : Hist) (hv : h.valid = true) (hs : h.noStale = true) :
    Fresh (eval h) :=
  (eval_facts h hv).2.2 hs

/-- the invariant, for every history that avoids the two known findings -/
theorem C10_partial (h : Hist) (hv : h.valid = true) (hl : h.noLoss = true) (hs : h.noStale = true) :
    Inv (eval h) :=
  .intro (C10_complete_partial h hv hl) (C10_fresh_partial h hv hs)

/-- the inductive step on its own: any single operation keeps the invariant when the two
step-predicates hold -/
theorem C10_step_inv {p : Program} (hw : WF p) (hi : Inv p) (o : Op)
    (hl : stepNoLoss p o = true) (hs : stepNoStale p o = true) : Inv (step p o) :=
  .intro ((step_halves hw o).1 hi.complete hl) ((step_halves hw o).2 hi.fresh hs)

theorem C10_concat_inv {p q : Program} (hq : WF q) (hip : Inv p) (hiq : Inv q)
    (hc : concatClean p q = true) : Inv (concat p q) :=
  .intro (complete_concat hip.complete hiq.complete) (fresh_concat_clean hip.fresh hiq.fresh hq hc)

/-- `simplify`, `resolve_placeholders`, `filter_instructions` and rebuilding from either listing
recompute the cache: on a well-formed program the invariant holds afterwards even if it did not
before -/
theorem C10_restoring_ops {p : Program} (hw : WF p) :
    (∀ out kF kW kE, Inv (step p (.simplify (some (out, kF, kW, kE))))) ∧
    (∀ nb, Inv (step p (.resolvePlaceholders nb))) ∧
    (∀ mask, Inv (step p (.filter mask))) ∧
    Inv (step p .rebuild) ∧ Inv (step p .intoRebuild) :=
  ⟨fun out kF kW kE => inv_simplify hw out kF kW kE, fun _ => inv_rebuildUsed _,
   fun mask => inv_filterInstructions hw mask, inv_rebuild hw, inv_intoRebuild hw⟩

/-- cloning without body keeps the invariant iff the retained definitions mention no qubit -/
theorem C10_clone_iff (p : Program) : Inv (cloneWithoutBody p) ↔ cloneClean p = true := by
  rw [inv_iff, complete_cloneWithoutBody_iff]
  exact ⟨fun h => h.1, fun h => ⟨h, fresh_cloneWithoutBody p⟩⟩

/-- from a state satisfying the invariant, `add_instruction` keeps it iff no replaced definition
loses a qubit -/
theorem C10_add_iff {p : Program} (hi : Inv p) (i : Instr) : Inv (add p i) ↔ addClean p i = true :=
  ⟨fun h => addClean_iff.mpr (fresh_add_converse hi.complete i h.fresh),
   fun h => .intro (complete_add hi.complete i) (fresh_add hi.fresh i (addClean_iff.mp h))⟩

/-- two well-formed programs satisfying the invariant with the same listing compare equal under
the derived `PartialEq` (which also compares the cache) -/
theorem C10_equal_listing_equal_program {p q : Program} (hp : WF p) (hq : WF q) (ip : Inv p) (iq : Inv q)
    (hl : toInstructions p = toInstructions q) : progEq p q = true := by
  apply progEq_of_containers hp
  · intro k
    rw [← ofKind_toInstructions hp k, ← ofKind_toInstructions hq k, hl]
  · intro x; rw [ip x, iq x, hl]

theorem C10_equal_listing_equal_history (a b : Hist)
    (va : a.valid = true) (vb : b.valid = true) (la : a.noLoss = true) (lb : b.noLoss = true)
    (sa : a.noStale = true) (sb : b.noStale = true)
    (hl : toInstructions (eval a) = toInstructions (eval b)) : progEq (eval a) (eval b) = true :=
  C10_equal_listing_equal_program (C10_wf_reachable a va) (C10_wf_reachable b vb) (C10_partial a va la sa)
    (C10_partial b vb lb sb) hl

/-- conversely, equal programs have equal caches as sets: where the invariant fails on one side
only, two programs with the same listing compare UNEQUAL -/
theorem C10_unequal_of_broken {p q : Program} (hl : toInstructions p = toInstructions q)
    (iq : Inv q) (np : ¬ Inv p) : progEq p q = false := by
  cases h : progEq p q with
  | false => rfl
  | true =>
    exfalso; apply np
    intro x; rw [progEq_used h x, iq x, hl]

private def cal5 : Instr := ⟨.cal, "X 5", 0, "DEFCAL X 5:\n\tNOP", [.fixed 5]⟩
private def x0 : Instr := ⟨.body, "", 1, "X 0", [.fixed 0]⟩
private def calA : Instr := ⟨.cal, "X 0", 2, "DEFCAL X 0:\n\tY 7", [.fixed 0, .fixed 7]⟩
private def calB : Instr := ⟨.cal, "X 0", 3, "DEFCAL X 0:\n\tY 13", [.fixed 0, .fixed 13]⟩
private def declN : Instr := ⟨.decl, "n", 4, "DECLARE n INTEGER[1]", []⟩
private def mv : Instr := ⟨.body, "", 5, "MOVE n[0] 3", []⟩
private def lbl : Instr := ⟨.body, "", 6, "LABEL @l", []⟩
private def sb : Instr := ⟨.body, "", 7, "SUB n[0] 1", []⟩
private def jw : Instr := ⟨.body, "", 8, "JUMP-WHEN @l n[0]", []⟩

private def hClone : Hist := .op (.new [cal5, x0]) .cloneWithoutBody
private def hWrap0 : Hist := .op (.new [cal5, x0]) (.wrapInLoop 0 [declN, mv, lbl] [sb, jw])
private def hWrap3 : Hist := .op (.new [cal5, x0]) (.wrapInLoop 3 [declN, mv, lbl] [sb, jw])
private def hRedef : Hist := .new [calA, calB]
private def hRedefAdd : Hist := .op (.new [calA]) (.add calB)
private def hRedefConcat : Hist := .concat (.new [calA]) (.new [calB])

private theorem not_inv_of_invB {p : Program} (h : invB p = false) : ¬ Inv p := by
  rw [← invB_iff, h]; simp

/-- finding C10/clone-without-body-resets-cache: `DEFCAL X 5: NOP; X 0`, clone without body →
cache {} but the listing mentions qubit 5; `wrap_in_loop` inherits it (n=0: {} vs {5}; n=3: {0} vs {0,5}) -/
theorem C10_clone_counterexample :
    ¬ Inv (eval hClone) ∧ ¬ Inv (eval hWrap0) ∧ ¬ Inv (eval hWrap3) ∧
    hClone.noLoss = false ∧ hWrap0.noLoss = false ∧ hWrap3.noLoss = false ∧
    hClone.noStale = true ∧ hWrap3.noStale = true :=
  ⟨not_inv_of_invB (by decide +kernel), not_inv_of_invB (by decide +kernel), not_inv_of_invB (by decide +kernel),
   by decide +kernel, by decide +kernel, by decide +kernel, by decide +kernel, by decide +kernel⟩

/-- finding C10/redefined-calibration-leaves-stale-qubits: `DEFCAL X 0: Y 7; DEFCAL X 0: Y 13` has
cache {0,7,13} while its listing mentions {0,13} — through from_instructions, add_instruction and += -/
theorem C10_redefinition_counterexample :
    ¬ Inv (eval hRedef) ∧ ¬ Inv (eval hRedefAdd) ∧ ¬ Inv (eval hRedefConcat) ∧
    hRedef.noStale = false ∧ hRedefAdd.noStale = false ∧ hRedefConcat.noStale = false ∧
    hRedef.noLoss = true :=
  ⟨not_inv_of_invB (by decide +kernel), not_inv_of_invB (by decide +kernel), not_inv_of_invB (by decide +kernel),
   by decide +kernel, by decide +kernel, by decide +kernel, by decide +kernel⟩

/-- the full statement is false of the code as it is -/
theorem C10_full_counterexample : ¬ (∀ h : Hist, h.valid = true → Inv (eval h)) := fun h =>
  C10_clone_counterexample.1 (h hClone rfl)

/-- and so is "same listing ⇒ equal": the redefined program and the program rebuilt from its
listing have the same listing and compare unequal -/
theorem C10_equality_counterexample :
    toInstructions (eval hRedef) = toInstructions (eval (.op hRedef .rebuild)) ∧
    progEq (eval hRedef) (eval (.op hRedef .rebuild)) = false := by
  constructor <;> decide +kernel

private def hLong : Hist :=
  .op (.concat (.op (.new [cal5, x0, calA]) (.expandCalibrations (some [x0, ⟨.body, "", 9, "Y 7", [.fixed 7]⟩])))
               (.op (.new [declN, x0]) (.wrapInLoop 2 [declN, mv, lbl] [sb, jw])))
      (.simplify (some ([x0], [], [], [])))

example : hLong.valid = true ∧ hLong.noLoss = true ∧ hLong.noStale = true := by decide +kernel
example : Inv (eval hLong) := C10_partial hLong (by decide +kernel) (by decide +kernel) (by decide +kernel)
/-- a clean history that does replace a calibration (the replaced one's qubits survive) -/
example : (Hist.new [calA, x0, ⟨.body, "", 9, "Y 7", [.fixed 7]⟩, calB]).noStale = true := by decide +kernel
/-- a clean clone: no calibration is retained -/
example : (Hist.op (.new [declN, x0]) .cloneWithoutBody).noLoss = true := by decide +kernel

end QV.C10
