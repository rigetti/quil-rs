import QV.Shared.ProgramLemmas
import QV.C10.Model
/-! C10's subject: the two halves of the cache invariant (`Complete`, `Fresh`, in `namespace QV.Prog` beside `Inv`) and
how `add`, `addMany`, `concat` and `cloneWithoutBody` treat each; then, per operation of the state machine,
well-formedness (`wf_step`) and the halves (`step_halves`), and the one induction over histories (`eval_facts`). -/
namespace QV.Prog

/-- listing ⊆ cache -/
def Complete (p : Program) : Prop := ∀ q, q ∈ qubitsOf (toInstructions p) → q ∈ p.used
/-- cache ⊆ listing -/
def Fresh (p : Program) : Prop := ∀ q, q ∈ p.used → q ∈ qubitsOf (toInstructions p)

theorem Inv.complete {p : Program} (h : Inv p) : Complete p := fun q => (h q).mpr

theorem Inv.fresh {p : Program} (h : Inv p) : Fresh p := fun q => (h q).mp

theorem Inv.intro {p : Program} (hc : Complete p) (hf : Fresh p) : Inv p := fun q => ⟨hf q, hc q⟩

theorem inv_iff (p : Program) : Inv p ↔ Complete p ∧ Fresh p :=
  ⟨fun h => ⟨h.complete, h.fresh⟩, fun h => .intro h.1 h.2⟩

-- `Q` in the names below is `qubitsOf (toInstructions p)`, the qubits the listing mentions
theorem mem_Q {p : Program} {q : Qubit} :
    q ∈ qubitsOf (toInstructions p) ↔ ∃ k, ∃ x ∈ p.container k, q ∈ x.getQubits := by
  simp only [qubitsOf, List.mem_flatMap, mem_toInstructions]
  constructor
  · rintro ⟨x, ⟨k, hx⟩, hq⟩; exact ⟨k, x, hx, hq⟩
  · rintro ⟨k, x, hx, hq⟩; exact ⟨x, ⟨k, hx⟩, hq⟩

theorem kind_of_mem_getQubits {x : Instr} {q : Qubit} (h : q ∈ x.getQubits) :
    x.kind = .cal ∨ x.kind = .mcal ∨ x.kind = .body := by
  unfold Instr.getQubits at h
  split at h
  · exact .inr (.inr ‹_›)
  · exact .inl ‹_›
  · exact .inr (.inl ‹_›)
  · cases h

/-- only calibrations and body instructions carry qubits (`kind_of_mem_getQubits`) -/
theorem Q_subset {p p' : Program} (h : WF p)
    (he : ∀ k, k = .cal ∨ k = .mcal ∨ k = .body → p.container k = p'.container k) {q : Qubit}
    (hq : q ∈ qubitsOf (toInstructions p)) : q ∈ qubitsOf (toInstructions p') := by
  obtain ⟨k, x, hx, hqx⟩ := mem_Q.mp hq
  have hk := h.kinds k x hx ▸ kind_of_mem_getQubits hqx
  exact mem_Q.mpr ⟨k, x, he k hk ▸ hx, hqx⟩

theorem Q_congr {p p' : Program} (h : WF p) (h' : WF p')
    (he : ∀ k, k = .cal ∨ k = .mcal ∨ k = .body → p.container k = p'.container k) (q : Qubit) :
    q ∈ qubitsOf (toInstructions p) ↔ q ∈ qubitsOf (toInstructions p') :=
  ⟨Q_subset h he, Q_subset h' fun k hk => (he k hk).symm⟩

theorem complete_add {p : Program} (h : Complete p) (i : Instr) : Complete (add p i) := by
  intro q hq
  rw [used_add, List.mem_append]
  obtain ⟨k, x, hx, hqx⟩ := mem_Q.mp hq
  rcases mem_container_add hx with ⟨rfl, _⟩ | hx'
  · exact Or.inr hqx
  · exact Or.inl (h q (mem_Q.mpr ⟨k, x, hx', hqx⟩))

theorem complete_addMany {p : Program} (h : Complete p) (is : List Instr) : Complete (addMany p is) := by
  induction is generalizing p with
  | nil => exact h
  | cons i is ih => exact ih (complete_add h i)

/-- the definition `add p i` overwrites, if any -/
def replacedBy (p : Program) (i : Instr) : Option Instr :=
  if i.kind = .body then none else lookup (p.container i.kind) i.key

theorem mem_container_add_of_not_replaced {p : Program} {i x : Instr} {k : Kind}
    (hx : x ∈ p.container k) (hr : k = i.kind → replacedBy p i ≠ some x) : x ∈ (add p i).container k := by
  rw [container_add]
  split
  · next hi =>
    subst hi
    split
    · exact List.mem_append_left _ hx
    · next hb => exact mem_upsert_of_not_lookup hx (by simpa [replacedBy, hb] using hr rfl)
  · exact hx

theorem fresh_add {p : Program} (h : Fresh p) (i : Instr)
    (hc : ∀ old, replacedBy p i = some old → ∀ q ∈ old.getQubits, q ∈ qubitsOf (toInstructions (add p i))) :
    Fresh (add p i) := by
  intro q hq
  rw [used_add, List.mem_append] at hq
  rcases hq with hq | hq
  · obtain ⟨k, x, hx, hqx⟩ := mem_Q.mp (h q hq)
    by_cases hr : k = i.kind ∧ replacedBy p i = some x
    · exact hc x hr.2 q hqx
    · exact mem_Q.mpr ⟨k, x, mem_container_add_of_not_replaced hx fun e h => hr ⟨e, h⟩, hqx⟩
  · exact mem_Q.mpr ⟨i.kind, i, self_mem_container_add p i, hq⟩

theorem replacedBy_mem {p : Program} {i old : Instr} (h : replacedBy p i = some old) :
    old ∈ p.container i.kind := by
  unfold replacedBy at h
  split at h
  · cases h
  · exact (mem_of_lookup h).1

theorem fresh_add_converse {p : Program} (hc : Complete p) (i : Instr) (hf : Fresh (add p i))
    (old : Instr) (hr : replacedBy p i = some old) :
    ∀ q ∈ old.getQubits, q ∈ qubitsOf (toInstructions (add p i)) := by
  intro q hq
  apply hf
  rw [used_add, List.mem_append]
  exact Or.inl (hc q (mem_Q.mpr ⟨i.kind, old, replacedBy_mem hr, hq⟩))

theorem complete_concat {p q : Program} (hp : Complete p) (hq : Complete q) : Complete (concat p q) := by
  intro x hx
  obtain ⟨k, y, hy, hxy⟩ := mem_Q.mp hx
  exact List.mem_append.mpr <| (mem_container_concat hy).imp
    (fun h => hp x (mem_Q.mpr ⟨k, y, h, hxy⟩)) (fun h => hq x (mem_Q.mpr ⟨k, y, h, hxy⟩))

/-- `y` is a definition of `p` that `p += q` overwrites -/
def Overwritten (p q : Program) (y : Instr) : Prop :=
  ∃ k, k ≠ .body ∧ y ∈ p.container k ∧ y.key ∈ keys (q.container k)

theorem fresh_concat {p q : Program} (hp : Fresh p) (hq : Fresh q) (hwq : WF q)
    (hc : ∀ y, Overwritten p q y → ∀ x ∈ y.getQubits, x ∈ qubitsOf (toInstructions (concat p q))) :
    Fresh (concat p q) := by
  intro x hx
  rcases List.mem_append.mp hx with hx | hx
  · obtain ⟨k, y, hy, hxy⟩ := mem_Q.mp (hp x hx)
    by_cases hk : k = .body ∨ y.key ∉ keys (q.container k)
    · exact mem_Q.mpr ⟨k, y, mem_container_concat_left hy hk, hxy⟩
    · rw [not_or, Decidable.not_not] at hk
      exact hc y ⟨k, hk.1, hy, hk.2⟩ x hxy
  · obtain ⟨k, y, hy, hxy⟩ := mem_Q.mp (hq x hx)
    exact mem_Q.mpr ⟨k, y, mem_container_concat_right hwq hy, hxy⟩

theorem fresh_cloneWithoutBody (p : Program) : Fresh (cloneWithoutBody p) := by
  intro q hq; cases hq

end QV.Prog

namespace QV.C10
open QV.Prog

theorem wf_of_sub2 {p₁ p₂ p' : Program} (h₁ : WF p₁) (h₂ : WF p₂)
    (hs : ∀ k, (p'.container k).Sublist (p₁.container k) ∨ (p'.container k).Sublist (p₂.container k)) :
    WF p' :=
  wf_of_sublists fun k => (hs k).elim (fun h => ⟨p₁, h₁, h⟩) (fun h => ⟨p₂, h₂, h⟩)

def seqBase (p : Program) (kept : List String) : Program :=
  { p with gateDefs := p.gateDefs.filter (fun g => kept.contains g.key), body := [], used := [] }

theorem wf_seqBase {p : Program} (h : WF p) (kept : List String) : WF (seqBase p kept) := by
  apply wf_of_sub h
  intro k
  cases k
  case gateDef => exact List.filter_sublist
  case body => exact List.nil_sublist _
  all_goals exact .refl _

theorem expandSequences_eq (p : Program) (kept : List String) (out : List Instr) :
    expandSequences p kept out = addMany (rebuildUsed (seqBase p kept)) out := rfl

theorem wf_step {p : Program} (h : WF p) (o : Op) (hv : o.valid = true) : WF (step p o) := by
  cases o with
  | add i => exact wf_add h i
  | addMany is => exact wf_addMany h is
  | cloneWithoutBody => exact wf_cloneWithoutBody h
  | expandCalibrations r => cases r with
    | none => exact h
    | some out => exact wf_expandCalibrations h out
  | expandSequences r => cases r with
    | none => exact h
    | some r => exact wf_addMany (wf_rebuildUsed (wf_seqBase h r.1)) r.2
  | simplify r => cases r with
    | none => exact h
    | some r => obtain ⟨out, kF, kW, kE⟩ := r; exact wf_simplify h out kF kW kE
  | wrapInLoop n hd tl => exact wf_wrapInLoop h n hd tl
  | resolvePlaceholders nb => exact wf_resolvePlaceholders h nb (by simpa only [Op.valid, List.all_eq_true, beq_iff_eq] using hv)
  | filter mask => exact wf_fromInstructions _
  | rebuild => exact wf_fromInstructions _
  | intoRebuild => exact wf_fromInstructions _
  | clone => exact h

theorem inv_simplify {p : Program} (h : WF p) (out : List Instr) (kF kW kE : List String) :
    Inv (simplify p out kF kW kE) := by
  -- the cache is that of `simpMid`, exact there; filtering frames, waveforms and externs afterwards
  -- removes no qubit
  have hm : WF (simpMid p out) := wf_of_sub (wf_expandCalibrations h out) (simpMid_sublist p out)
  intro q
  rw [Q_congr (wf_simplify h out kF kW kE) hm (by rintro _ (rfl | rfl | rfl) <;> rfl) q]
  exact inv_rebuildUsed _ q

theorem inv_rebuild {p : Program} (h : WF p) : Inv (fromInstructions (toInstructions p)) := by
  rw [fromInstructions_toInstructions h]; exact inv_rebuildUsed p

theorem inv_intoRebuild {p : Program} (h : WF p) : Inv (fromInstructions (intoInstructions p)) := by
  rw [intoInstructions_eq]; exact inv_rebuild h

/-! ### completeness (`Q ⊆ used`): broken only by clone-without-body -/

theorem complete_cloneWithoutBody_iff (p : Program) : Complete (cloneWithoutBody p) ↔ cloneClean p = true := by
  have hu : (cloneWithoutBody p).used = [] := rfl
  simp [Complete, cloneClean, hu, List.eq_nil_iff_forall_not_mem]

/-! ### freshness (`used ⊆ Q`): broken only by replacing a definition that carries qubits -/

theorem addClean_eq (p : Program) (i : Instr) :
    addClean p i =
      match replacedBy p i with
      | some old => subset old.getQubits (qubitsOf (toInstructions (add p i)))
      | none => true := rfl

theorem addClean_iff {p : Program} {i : Instr} : addClean p i = true ↔
    ∀ old, replacedBy p i = some old → ∀ q ∈ old.getQubits, q ∈ qubitsOf (toInstructions (add p i)) := by
  rw [addClean_eq]
  cases replacedBy p i with
  | none => simp
  | some old => simp [subset_iff]

theorem fresh_addMany_clean {p : Program} (h : Fresh p) (is : List Instr) (hc : addManyClean p is = true) :
    Fresh (addMany p is) := by
  induction is generalizing p with
  | nil => exact h
  | cons i is ih =>
    simp only [addManyClean, Bool.and_eq_true] at hc
    exact ih (fresh_add h i (addClean_iff.mp hc.1)) hc.2

theorem mem_replaced {p q : Program} {y : Instr} : y ∈ replaced p q ↔ Overwritten p q y := by
  simp only [replaced, Overwritten, List.mem_flatMap, List.mem_filter, List.contains_iff_mem,
    Kind.mem_defs]

theorem fresh_concat_clean {p q : Program} (hp : Fresh p) (hq : Fresh q) (hwq : WF q)
    (hc : concatClean p q = true) : Fresh (concat p q) :=
  fresh_concat hp hq hwq fun y hy x hx =>
    subset_iff.mp hc x (List.mem_flatMap.mpr ⟨y, mem_replaced.mpr hy, hx⟩)

/-- the hypotheses are arbitrary propositions so that the lemma fits each arm of `step_halves`, whose premises differ
from operation to operation -/
private theorem halves_of_inv {q : Program} {a b c d : Prop} (h : Inv q) :
    (a → b → Complete q) ∧ (c → d → Fresh q) :=
  ⟨fun _ _ => h.complete, fun _ _ => h.fresh⟩

private theorem halves_same {p : Program} {a b : Prop} :
    (Complete p → a → Complete p) ∧ (Fresh p → b → Fresh p) :=
  ⟨fun hc _ => hc, fun hf _ => hf⟩

private theorem halves_addMany_rebuilt (b : Program) (is : List Instr) {a c d : Prop} :
    (a → c → Complete (addMany (rebuildUsed b) is)) ∧
    (d → addManyClean (rebuildUsed b) is = true → Fresh (addMany (rebuildUsed b) is)) :=
  ⟨fun _ _ => complete_addMany (inv_rebuildUsed b).complete is,
    fun _ hs => fresh_addMany_clean (inv_rebuildUsed b).fresh is hs⟩

/-- an operation leaves the program alone, recomputes the cache from the listing (then both halves
hold whatever the state was), or comes down to `add`, `addMany` and `cloneWithoutBody` -/
theorem step_halves {p : Program} (hw : WF p) (o : Op) :
    (Complete p → stepNoLoss p o = true → Complete (step p o)) ∧
    (Fresh p → stepNoStale p o = true → Fresh (step p o)) := by
  cases o with
  | add i => exact ⟨fun hc _ => complete_add hc i, fun hf hs => fresh_add hf i (addClean_iff.mp hs)⟩
  | addMany is => exact ⟨fun hc _ => complete_addMany hc is, fun hf hs => fresh_addMany_clean hf is hs⟩
  | cloneWithoutBody =>
    exact ⟨fun _ hl => (complete_cloneWithoutBody_iff p).mpr hl, fun _ _ => fresh_cloneWithoutBody p⟩
  | expandCalibrations r => cases r with
    | none => exact halves_same
    | some out => exact halves_addMany_rebuilt _ out
  | expandSequences r => cases r with
    | none => exact halves_same
    | some r => exact halves_addMany_rebuilt _ r.2
  | simplify r => cases r with
    | none => exact halves_same
    | some r => obtain ⟨out, kF, kW, kE⟩ := r; exact halves_of_inv (inv_simplify hw out kF kW kE)
  | wrapInLoop n hd tl =>
    match n with
    | 0 => exact ⟨fun _ hl => (complete_cloneWithoutBody_iff p).mpr (by simpa [stepNoLoss] using hl),
        fun _ _ => fresh_cloneWithoutBody p⟩
    | 1 => exact halves_same
    | n + 2 =>
      exact ⟨fun _ hl => complete_addMany
          ((complete_cloneWithoutBody_iff p).mpr (by simpa [stepNoLoss] using hl)) _,
        fun _ hs => fresh_addMany_clean (fresh_cloneWithoutBody p) _ (by simpa [stepNoStale] using hs)⟩
  | resolvePlaceholders nb => exact halves_of_inv (inv_rebuildUsed _)
  | filter mask => exact halves_of_inv (inv_filterInstructions hw mask)
  | rebuild => exact halves_of_inv (inv_rebuild hw)
  | intoRebuild => exact halves_of_inv (inv_intoRebuild hw)
  | clone => exact halves_same

/-- one induction over histories gives well-formedness and the two halves of the invariant, each half under the
predicate that excludes the finding which breaks it -/
theorem eval_facts (h : Hist) (hv : h.valid = true) :
    WF (eval h) ∧ (h.noLoss = true → Complete (eval h)) ∧ (h.noStale = true → Fresh (eval h)) := by
  induction h with
  | new is =>
    exact ⟨wf_fromInstructions is, fun _ => complete_addMany inv_empty.complete is,
      fun hs => fresh_addMany_clean inv_empty.fresh is hs⟩
  | op h o ih =>
    simp only [Hist.valid, Hist.noLoss, Hist.noStale, Bool.and_eq_true] at hv ⊢
    obtain ⟨hw, hc, hf⟩ := ih hv.1
    exact ⟨wf_step hw o hv.2, fun hl => (step_halves hw o).1 (hc hl.1) hl.2,
      fun hs => (step_halves hw o).2 (hf hs.1) hs.2⟩
  | concat a b iha ihb =>
    simp only [Hist.valid, Hist.noLoss, Hist.noStale, Bool.and_eq_true] at hv ⊢
    obtain ⟨wa, ca, fa⟩ := iha hv.1
    obtain ⟨wb, cb, fb⟩ := ihb hv.2
    exact ⟨wf_concat wa wb, fun hl => complete_concat (ca hl.1) (cb hl.2),
      fun hs => fresh_concat_clean (fa hs.1.1) (fb hs.1.2) wb hs.2⟩

end QV.C10
