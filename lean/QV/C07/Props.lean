import QV.C07.Model
/-
C07 — Quoted strings survive printing and parsing unchanged.  The two replacements of `unescape` are
followed through the intermediate form `half` (backslashes doubled, quotes bare).
-/
namespace QV.C07

def half : List Char → List Char
  | [] => []
  | c :: cs => if c = '\\' then '\\' :: '\\' :: half cs else c :: half cs

private theorem replQ_cons_ne (c : Char) (cs : List Char) (h : c ≠ '\\') :
    replQ (c :: cs) = c :: replQ cs := by
  cases cs with
  | nil => simp [replQ]
  | cons d ds => simp [replQ, h]

private theorem replB_cons_ne (c : Char) (cs : List Char) (h : c ≠ '\\') :
    replB (c :: cs) = c :: replB cs := by
  cases cs with
  | nil => simp [replB]
  | cons d ds => simp [replB, h]

private theorem escape_head (s : List Char) : (escape s).head? ≠ some '"' := by
  cases s with
  | nil => simp [escape]
  | cons c cs =>
    by_cases h1 : c = '"'
    · subst h1; simp [escape]
    · by_cases h2 : c = '\\'
      · subst h2; simp [escape]
      · simp [escape, h1, h2]

private theorem replQ_bs (t : List Char) (h : t.head? ≠ some '"') :
    replQ ('\\' :: t) = '\\' :: replQ t := by
  cases t with
  | nil => simp [replQ]
  | cons d ds =>
    have hd : d ≠ '"' := by simpa using h
    simp [replQ, hd]

theorem replQ_escape (s : List Char) : replQ (escape s) = half s := by
  induction s with
  | nil => simp [escape, replQ, half]
  | cons c cs ih =>
    by_cases h1 : c = '"'
    · subst h1; simp [escape, replQ, half, ih]
    · by_cases h2 : c = '\\'
      · subst h2
        have e : escape ('\\' :: cs) = '\\' :: '\\' :: escape cs := by simp [escape]
        have hh : half ('\\' :: cs) = '\\' :: '\\' :: half cs := by simp [half]
        rw [e, hh, replQ_bs _ (by simp), replQ_bs _ (escape_head cs), ih]
      · simp only [escape, half, h1, h2, if_false]
        rw [replQ_cons_ne _ _ h2, ih]

theorem replB_half (s : List Char) : replB (half s) = s := by
  induction s with
  | nil => simp [half, replB]
  | cons c cs ih =>
    by_cases h2 : c = '\\'
    · subst h2; simp [half, replB, ih]
    · simp only [half, h2, if_false]; rw [replB_cons_ne _ _ h2, ih]

/-- **C07 (a)**: the lexer's two `str::replace`s undo the escaping of `QuotedString::fmt`. -/
theorem unescape_escape (s : List Char) : unescape (escape s) = s := by
  simp [unescape, replQ_escape, replB_half]

/-- **C07 (b)**: scanning the escaped form followed by a closing quote stops exactly at that
quote, whatever follows. -/
theorem scan_escape (s rest : List Char) :
    scan false (escape s ++ '"' :: rest) = some (escape s, rest) := by
  induction s with
  | nil => simp [escape, scan]
  | cons c cs ih =>
    by_cases h1 : c = '"'
    · subst h1
      simp [escape, scan, ih]
    · by_cases h2 : c = '\\'
      · subst h2
        simp [escape, scan, ih]
      · simp [escape, scan, h1, h2, ih]

/-- **C07**: lexing the printer's quoted form of `s`, followed by anything, yields exactly `s`
and leaves exactly the rest — for all strings (any Unicode, newlines, `#`, `;`, quotes, backslashes). -/
theorem C07_lex_quote (s rest : List Char) : lexString (quote s ++ rest) = some (s, rest) := by
  simp [lexString, quote, surrounded, scan_escape, unescape_escape]

/-- **C07, for every template**: whatever fixed text surrounds the quoted string (any prefix, any
suffix — in particular the header and indentation of an enclosing DEFCAL / DEFCAL MEASURE /
DEFCIRCUIT body), the string is read back unchanged. -/
theorem C07_template (t : Template) (s : List Char) : t.read (t.print s) = some s := by
  have h : (t.print s).drop t.pre.length = quote s ++ t.post := by
    simp [Template.print]
  simp [Template.read, h, C07_lex_quote]

/-- the positions and placements of the model; the surrounding text is skipped by length, not lexed -/
theorem C07_position_placed (pl : Place) (p : Pos) (s : List Char) :
    (template pl p).read ((template pl p).print s) = some s := C07_template _ s

theorem C07_position (p : Pos) (s : List Char) : readAt p (printAt p s) = some s :=
  C07_template _ s

theorem C07_quote_injective (s t : List Char) (h : quote s = quote t) : s = t := by
  have h1 := C07_lex_quote s []
  have h2 := C07_lex_quote t []
  rw [h] at h1
  simp_all

/-- a string made of the awkward characters round-trips by evaluation too -/
example : lexString (quote "a\"b\\\\\"\n# ;\\".toList ++ " tail".toList)
    = some ("a\"b\\\\\"\n# ;\\".toList, " tail".toList) := by decide +kernel

end QV.C07
