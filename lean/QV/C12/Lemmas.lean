import Mathlib.Tactic.Ring
import Mathlib.Tactic.FieldSimp
import Mathlib.Algebra.Field.Basic
import Mathlib.Algebra.Field.Rat
import QV.C12.Hoare
import QV.C12.Spec
/-
The relations the generic soundness proof (`Hoare.lean`) is instantiated with: `valueRel L`, value preservation over an
exact field (`ScalarLaws`), the arm `0^e ⇒ 0` excluded through `bad`; `leafRel`, which needs no laws at all (it holds
for `CFloat` too), at `varsRel` (no new variables or memory references) and `piRel` (a `pi`-free expression stays
`pi`-free).  `ratLaws`: `ScalarLaws ℚ` is inhabited.
-/
namespace QV.C12
open QV Expr


/-- What the theorems assume of the scalar: a field, the `Scalar` operations are its operations, the tests are
exact, and the three laws of `pow` that the arms `x^0`, `1^x`, `x^1` use. Nothing about `sin cos exp sqrt cis pi nan`. -/
structure ScalarLaws (K : Type) [Field K] [SimpScalar K] : Prop where
  add : ∀ a b : K, Scalar.add a b = a + b
  sub : ∀ a b : K, Scalar.sub a b = a - b
  mul : ∀ a b : K, Scalar.mul a b = a * b
  div : ∀ a b : K, Scalar.div a b = a / b
  neg : ∀ a : K, Scalar.neg a = -a
  zero : (Scalar.zero : K) = 0
  one : (Scalar.one : K) = 1
  two : (SimpScalar.two : K) = 2
  negOne : (SimpScalar.negOne : K) = -1
  isZero : ∀ x : K, SimpScalar.isZero x = true ↔ x = 0
  isOne : ∀ x : K, SimpScalar.isOne x = true ↔ x = 1
  eqv : ∀ x y : K, SimpScalar.eqv x y = true ↔ x = y
  pow_zero : ∀ x : K, Scalar.pow x 0 = 1
  one_pow : ∀ y : K, Scalar.pow 1 y = 1
  pow_one : ∀ x : K, Scalar.pow x 1 = x

section value
variable {K : Type} [Field K] [SimpScalar K]

open Classical

/-- Evaluation with explicit definedness: `QV.eval` (the model of `Expression::evaluate`), except that a division
by zero is `none` — over an exact field "the value is finite" means "no divisor was zero". -/
noncomputable def evalD (ρ : VarEnv K) (μ : MemEnv K) : Expr K → Option K
  | .call f e => (evalD ρ μ e).map (calcFn f)
  | .bin l op r =>
    (evalD ρ μ l).bind fun a => (evalD ρ μ r).bind fun b =>
      if op = .slash ∧ b = 0 then none else some (calcInfix a op b)
  | .pre op e => (evalD ρ μ e).map fun v => match op with
      | .minus => Scalar.neg v
      | .plus => v
  | .var x => ρ x
  | .address r => (μ r.name).bind fun vs => vs[r.index]?
  | .pi => some Scalar.pi
  | .number z => some z

theorem evalD_eval (ρ : VarEnv K) (μ : MemEnv K) (e : Expr K) (v : K) (h : evalD ρ μ e = some v) :
    eval ρ μ e = .ok v := by
  induction e generalizing v with
  | address r =>
    simp only [evalD] at h
    simp only [eval]
    cases hm : μ r.name with
    | none => simp [hm] at h
    | some vs =>
      simp only [hm, Option.bind_some] at h
      simp [h]
  | call f e ih =>
    simp only [evalD, Option.map_eq_some_iff] at h
    obtain ⟨a, ha, rfl⟩ := h
    simp [eval, ih a ha]
  | bin l op r ihl ihr =>
    simp only [evalD] at h
    cases hl : evalD ρ μ l with
    | none => simp [hl] at h
    | some a =>
      cases hr : evalD ρ μ r with
      | none => simp [hl, hr] at h
      | some b =>
        simp only [hl, hr, Option.bind_some] at h
        split at h
        · cases h
        · cases h; simp [eval, ihl a hl, ihr b hr]
  | number z => simp only [evalD] at h; cases h; simp [eval]
  | pi => simp only [evalD] at h; cases h; simp [eval]
  | pre op e ih =>
    simp only [evalD, Option.map_eq_some_iff] at h
    obtain ⟨a, ha, rfl⟩ := h
    cases op <;> simp [eval, ih a ha]
  | var x => simp only [evalD] at h; simp [eval, h]

def Refines (o r : Expr K) : Prop := ∀ ρ μ v, evalD ρ μ o = some v → evalD ρ μ r = some v

theorem Refines.refl (e : Expr K) : Refines e e := fun _ _ _ h => h
theorem Refines.trans {a b c : Expr K} (h1 : Refines a b) (h2 : Refines b c) : Refines a c :=
  fun ρ μ v h => h2 ρ μ v (h1 ρ μ v h)

theorem Refines.bin {a a' b b' : Expr K} (op : InfixOp) (h1 : Refines a a') (h2 : Refines b b') :
    Refines (.bin a op b) (.bin a' op b') := by
  intro ρ μ v h
  simp only [evalD] at h ⊢
  cases ha : evalD ρ μ a with
  | none => simp [ha] at h
  | some x =>
    cases hb : evalD ρ μ b with
    | none => simp [ha, hb] at h
    | some y =>
      rw [h1 _ _ _ ha, h2 _ _ _ hb]
      simpa [ha, hb] using h

theorem Refines.pre {a a' : Expr K} (op : PrefixOp) (h1 : Refines a a') : Refines (.pre op a) (.pre op a') := by
  intro ρ μ v h
  simp only [evalD, Option.map_eq_some_iff] at h ⊢
  obtain ⟨x, hx, rfl⟩ := h
  exact ⟨x, h1 _ _ _ hx, rfl⟩

theorem Refines.call {a a' : Expr K} (f : ExprFn) (h1 : Refines a a') : Refines (.call f a) (.call f a') := by
  intro ρ μ v h
  simp only [evalD, Option.map_eq_some_iff] at h ⊢
  obtain ⟨x, hx, rfl⟩ := h
  exact ⟨x, h1 _ _ _ hx, rfl⟩

omit [Field K] [SimpScalar K] in
theorem beqWith_rec {eq : K → K → Bool} {P : Expr K → Expr K → Prop}
    (addr : ∀ r, P (.address r) (.address r)) (var : ∀ x, P (.var x) (.var x)) (pi : P .pi .pi)
    (num : ∀ x y, eq x y = true → P (.number x) (.number y))
    (call : ∀ f a b, P a b → P (.call f a) (.call f b))
    (pre : ∀ o a b, P a b → P (.pre o a) (.pre o b))
    (bin : ∀ o a b c d, P a c → P b d → P (.bin a o b) (.bin c o d)) :
    ∀ a b, Expr.beqWith eq a b = true → P a b := by
  intro a
  induction a with
  | address r =>
    intro b h
    cases b <;> first | cases h | (simp only [Expr.beqWith, beq_iff_eq] at h; exact h ▸ addr r)
  | call f e ih =>
    intro b h
    cases b <;> first | cases h | skip
    simp only [Expr.beqWith, Bool.and_eq_true, beq_iff_eq] at h
    exact h.1 ▸ call _ _ _ (ih _ h.2)
  | bin l o r ihl ihr =>
    intro b h
    cases b <;> first | cases h | skip
    simp only [Expr.beqWith, Bool.and_eq_true, beq_iff_eq] at h
    exact h.1.1 ▸ bin _ _ _ _ _ (ihl _ h.1.2) (ihr _ h.2)
  | number z => intro b h; cases b <;> first | cases h | exact num _ _ h
  | pi => intro b h; cases b <;> first | exact pi | cases h
  | pre o e ih =>
    intro b h
    cases b <;> first | cases h | skip
    simp only [Expr.beqWith, Bool.and_eq_true, beq_iff_eq] at h
    exact h.1 ▸ pre _ _ _ (ih _ h.2)
  | var x =>
    intro b h
    cases b <;> first | cases h | (simp only [Expr.beqWith, beq_iff_eq] at h; exact h ▸ var x)

omit [Field K] [SimpScalar K] in
theorem beqWith_eq {eq : K → K → Bool} (heq : ∀ x y, eq x y = true → x = y) :
    ∀ a b : Expr K, Expr.beqWith eq a b = true → a = b :=
  beqWith_rec (fun _ => rfl) (fun _ => rfl) rfl (fun x y h => congrArg _ (heq x y h)) (fun _ _ _ h => congrArg _ h)
    (fun _ _ _ h => congrArg _ h) (fun _ _ _ _ _ h1 h2 => h1 ▸ h2 ▸ rfl)

section laws
variable (L : ScalarLaws K)
include L

theorem beqE_eq {a b : Expr K} (h : beqE a b = true) : a = b :=
  beqWith_eq (fun x y h => (L.eqv x y).mp h) a b h

variable (ρ : VarEnv K) (μ : MemEnv K)

theorem evalD_plus (l r : Expr K) : evalD ρ μ (.bin l .plus r) =
    (evalD ρ μ l).bind fun a => (evalD ρ μ r).bind fun b => some (a + b) := by
  simp [evalD, calcInfix, L.add]
theorem evalD_minus (l r : Expr K) : evalD ρ μ (.bin l .minus r) =
    (evalD ρ μ l).bind fun a => (evalD ρ μ r).bind fun b => some (a - b) := by
  simp [evalD, calcInfix, L.sub]
theorem evalD_star (l r : Expr K) : evalD ρ μ (.bin l .star r) =
    (evalD ρ μ l).bind fun a => (evalD ρ μ r).bind fun b => some (a * b) := by
  simp [evalD, calcInfix, L.mul]
theorem evalD_slash (l r : Expr K) : evalD ρ μ (.bin l .slash r) =
    (evalD ρ μ l).bind fun a => (evalD ρ μ r).bind fun b => if b = 0 then none else some (a / b) := by
  simp [evalD, calcInfix, L.div]
omit L in
theorem evalD_caret (l r : Expr K) : evalD ρ μ (.bin l .caret r) =
    (evalD ρ μ l).bind fun a => (evalD ρ μ r).bind fun b => some (Scalar.pow a b) := by
  simp [evalD, calcInfix]
theorem evalD_neg (e : Expr K) : evalD ρ μ (.pre .minus e) = (evalD ρ μ e).map fun v => -v := by
  simp [evalD, L.neg]
omit L in
theorem evalD_pos (e : Expr K) : evalD ρ μ (.pre .plus e) = evalD ρ μ e := by
  simp [evalD]
omit L in
theorem evalD_num (z : K) : evalD ρ μ (.number z) = some z := by simp [evalD]

end laws

/-! `val` and `Dfd` split `evalD` into a total value and a definedness condition, so that an identity between
two shapes is one goal about field elements (splitting every sub-evaluation into `none`/`some` gives `2^k`).  Both
are stated over the field, by cases of the operator: on a concrete shape they unfold by `rfl` to the terms the
field lemmas speak of; the arm fields proved by `refines_of` use that the `Scalar` operations are the field's
(`ScalarLaws`) only through `evalD_iff`. -/

/-- the value of `e` with a missing leaf read as `0` (and `x / 0 = 0`, as in any field) -/
noncomputable def val (ρ : VarEnv K) (μ : MemEnv K) : Expr K → K
  | .bin l .plus r => val ρ μ l + val ρ μ r
  | .bin l .minus r => val ρ μ l - val ρ μ r
  | .bin l .star r => val ρ μ l * val ρ μ r
  | .bin l .slash r => val ρ μ l / val ρ μ r
  | .bin l .caret r => Scalar.pow (val ρ μ l) (val ρ μ r)
  | .pre .minus e => - val ρ μ e
  | .pre .plus e => val ρ μ e
  | .call f e => calcFn f (val ρ μ e)
  | .number z => z
  | e => (evalD ρ μ e).getD 0

def Dfd (ρ : VarEnv K) (μ : MemEnv K) : Expr K → Prop
  | .bin l .slash r => Dfd ρ μ l ∧ Dfd ρ μ r ∧ val ρ μ r ≠ 0
  | .bin l _ r => Dfd ρ μ l ∧ Dfd ρ μ r
  | .pre _ e => Dfd ρ μ e
  | .call _ e => Dfd ρ μ e
  | .number _ => True
  | e => (evalD ρ μ e).isSome

section arms
variable (L : ScalarLaws K)
include L

theorem evalD_iff (ρ : VarEnv K) (μ : MemEnv K) (e : Expr K) (v : K) :
    evalD ρ μ e = some v ↔ Dfd ρ μ e ∧ val ρ μ e = v := by
  have leaf : ∀ (o : Option K) v, o = some v ↔ o.isSome ∧ o.getD 0 = v := fun o v => by cases o <;> simp
  induction e generalizing v with
  | call f e ih =>
    simp only [evalD, Option.map_eq_some_iff, ih, Dfd, val]
    exact ⟨fun ⟨_, ⟨hd, ha⟩, hv⟩ => ⟨hd, ha ▸ hv⟩, fun ⟨hd, hv⟩ => ⟨_, ⟨hd, rfl⟩, hv⟩⟩
  | bin l op r ihl ihr =>
    simp only [evalD, Option.bind_eq_some_iff, ihl, ihr]
    cases op
    case slash =>
      simp only [true_and, Dfd, val, calcInfix, L.div]
      constructor
      · rintro ⟨a, ⟨hl, rfl⟩, b, ⟨hr, rfl⟩, h⟩
        split at h
        · cases h
        · exact ⟨⟨hl, hr, ‹_›⟩, Option.some.inj h⟩
      · rintro ⟨⟨hl, hr, h0⟩, rfl⟩
        exact ⟨_, ⟨hl, rfl⟩, _, ⟨hr, rfl⟩, if_neg h0⟩
    all_goals
      simp only [reduceCtorEq, false_and, if_false, Option.some.injEq, Dfd, val, calcInfix, L.add, L.sub, L.mul]
      exact ⟨fun ⟨_, ⟨hl, rfl⟩, _, ⟨hr, rfl⟩, h⟩ => ⟨⟨hl, hr⟩, h⟩, fun ⟨⟨hl, hr⟩, h⟩ => ⟨_, ⟨hl, rfl⟩, _, ⟨hr, rfl⟩, h⟩⟩
  | pre op e ih =>
    cases op <;> simp only [evalD, Option.map_eq_some_iff, ih, Dfd, val, L.neg] <;>
      exact ⟨fun ⟨_, ⟨hd, ha⟩, hv⟩ => ⟨hd, ha ▸ hv⟩, fun ⟨hd, hv⟩ => ⟨_, ⟨hd, rfl⟩, hv⟩⟩
  | number z => simp only [evalD, Option.some.injEq, Dfd, val, true_and]
  | _ => exact leaf _ _

theorem refines_of {o r : Expr K} (h : ∀ ρ μ, Dfd ρ μ o → Dfd ρ μ r ∧ val ρ μ r = val ρ μ o) :
    Refines o r := fun ρ μ v hv => by
  obtain ⟨ho, rfl⟩ := (evalD_iff L ρ μ o v).mp hv
  exact (evalD_iff L ρ μ r _).mpr (h ρ μ ho)

/-- **The relation of the value theorem**: `Refines`, with the arm `0^e ⇒ 0` declared `bad`.  Each arm is an
identity *under the definedness of its left side*: `a / a ⇒ 1`, `(a * b) / a ⇒ b`, `a / (b / c) ⇒ (a * c) / b` hold
because the left side is undefined where a divisor vanishes, `x / 0 ⇒ NaN` because it is never defined. -/
def valueRel : Rel K (fun a => a = Arm.powZeroBase) where
  R := Refines
  Pre := fun _ => True
  preBin := by simp
  prePre := by simp
  preCall := by simp
  preNum := fun _ => trivial
  keep := fun _ _ => trivial
  refl := Refines.refl
  trans := Refines.trans
  beqL := fun h => by cases beqE_eq L h; exact Refines.refl _
  beqR := fun h => by cases beqE_eq L h; exact Refines.refl _
  congBin := fun op h1 h2 => Refines.bin op h1 h2
  congPre := fun op h => Refines.pre op h
  congCall := fun f h => Refines.call f h
  numEqv := fun h => by cases (L.eqv _ _).mp h; exact Refines.refl _
  piNum := fun _ _ _ h => by simpa [evalD] using h
  callFold := fun _ _ _ _ _ h => by simpa [evalD] using h
  prePlus := fun _ => refines_of L fun _ _ h => ⟨h, rfl⟩
  preNegNum := fun _ _ _ _ h => by simpa [evalD, L.neg, L.sub, L.zero] using h
  preNegNeg := fun _ => refines_of L fun _ _ h => ⟨h, (neg_neg _).symm⟩
  addZeroL := fun _ hz => by cases (L.isZero _).mp hz; exact refines_of L fun _ _ ⟨_, hr⟩ => ⟨hr, (zero_add _).symm⟩
  addZeroR := fun _ hz => by cases (L.isZero _).mp hz; exact refines_of L fun _ _ ⟨hl, _⟩ => ⟨hl, (add_zero _).symm⟩
  subZeroL := fun _ hz => by cases (L.isZero _).mp hz; exact refines_of L fun _ _ ⟨_, hr⟩ => ⟨hr, (zero_sub _).symm⟩
  subZeroR := fun _ hz => by cases (L.isZero _).mp hz; exact refines_of L fun _ _ ⟨hl, _⟩ => ⟨hl, (sub_zero _).symm⟩
  subSelf := fun hb => by cases beqE_eq L hb; exact refines_of L fun _ _ _ => ⟨trivial, L.zero.trans (sub_self _).symm⟩
  mulZeroL := fun _ hz => by
    cases (L.isZero _).mp hz
    exact refines_of L fun _ _ _ => ⟨trivial, L.zero.trans (zero_mul _).symm⟩
  mulZeroR := fun _ hz => by
    cases (L.isZero _).mp hz
    exact refines_of L fun _ _ _ => ⟨trivial, L.zero.trans (mul_zero _).symm⟩
  mulOneL := fun _ hz => by cases (L.isOne _).mp hz; exact refines_of L fun _ _ ⟨_, hr⟩ => ⟨hr, (one_mul _).symm⟩
  mulOneR := fun _ hz => by cases (L.isOne _).mp hz; exact refines_of L fun _ _ ⟨hl, _⟩ => ⟨hl, (mul_one _).symm⟩
  divZeroL := fun _ hz => by
    cases (L.isZero _).mp hz
    exact refines_of L fun _ _ _ => ⟨trivial, L.zero.trans (zero_div _).symm⟩
  divByZero := fun _ hz => by cases (L.isZero _).mp hz; exact refines_of L fun _ _ ⟨_, _, h0⟩ => absurd rfl h0
  divOne := fun _ hz => by cases (L.isOne _).mp hz; exact refines_of L fun _ _ ⟨hl, _⟩ => ⟨hl, (div_one _).symm⟩
  divSelf := fun hb => by
    cases beqE_eq L hb
    exact refines_of L fun _ _ ⟨_, _, h0⟩ => ⟨trivial, L.one.trans (div_self h0).symm⟩
  powZeroExp := fun _ hz => by
    cases (L.isZero _).mp hz
    exact refines_of L fun _ _ _ => ⟨trivial, L.one.trans (L.pow_zero _).symm⟩
  powZeroBase := fun h => absurd rfl h
  powOneBase := fun _ hz => by
    cases (L.isOne _).mp hz
    exact refines_of L fun _ _ _ => ⟨trivial, L.one.trans (L.one_pow _).symm⟩
  powOneExp := fun _ hz => by cases (L.isOne _).mp hz; exact refines_of L fun _ _ ⟨hl, _⟩ => ⟨hl, (L.pow_one _).symm⟩
  fold := fun x op y ρ μ v h => by
    simp only [evalD, Option.bind_some] at h ⊢
    split at h
    · cases h
    · exact h
  addNegR := fun _ _ => refines_of L fun _ _ h => ⟨h, sub_eq_add_neg _ _⟩
  addNegL := fun _ _ => refines_of L fun _ _ ⟨he, hr⟩ => ⟨⟨hr, he⟩, (neg_add_eq_sub _ _).symm⟩
  subNegR := fun _ _ => refines_of L fun _ _ h => ⟨h, (sub_neg_eq_add _ _).symm⟩
  subNegL := fun _ _ => refines_of L fun _ _ h => ⟨h, by dsimp only [val]; ring⟩
  negNeg := fun {op} _ _ h => by
    cases op <;> cases h
    · exact refines_of L fun _ _ ⟨ha, hb, h0⟩ => ⟨⟨ha, hb, neg_ne_zero.1 h0⟩, (neg_div_neg_eq _ _).symm⟩
    · exact refines_of L fun _ _ h => ⟨h, (neg_mul_neg _ _).symm⟩
  divNegSelfR := fun hb => by
    cases beqE_eq L hb
    exact refines_of L fun _ _ ⟨_, _, h0⟩ => ⟨trivial, L.negOne.trans (div_neg_self (neg_ne_zero.1 h0)).symm⟩
  divNegSelfL := fun hb => by
    cases beqE_eq L hb
    exact refines_of L fun _ _ ⟨_, _, h0⟩ => ⟨trivial, L.negOne.trans (neg_div_self h0).symm⟩
  negR := fun {op} _ _ h => by
    cases op <;> cases h
    · exact refines_of L fun _ _ ⟨hl, he, h0⟩ =>
        ⟨⟨hl, he, neg_ne_zero.1 h0⟩, by dsimp only [val]; rw [neg_div, div_neg]⟩
    · exact refines_of L fun _ _ h => ⟨h, by dsimp only [val]; rw [neg_mul, mul_neg]⟩
  negL := fun {op} _ _ h => by
    cases op <;> cases h
    · exact refines_of L fun _ _ ⟨he, hr, h0⟩ =>
        ⟨⟨he, hr, neg_ne_zero.2 h0⟩, by dsimp only [val]; rw [neg_div, div_neg]⟩
    · exact refines_of L fun _ _ h => ⟨h, by dsimp only [val]; rw [neg_mul, mul_neg]⟩
  affine1 := fun hb => by
    cases beqE_eq L hb
    exact refines_of L fun _ _ ⟨⟨⟨h1, h2⟩, h3⟩, ⟨_, h4⟩, h5⟩ => ⟨⟨⟨⟨h2, h4⟩, h1⟩, h3, h5⟩, by dsimp only [val]; ring⟩
  affine2 := fun hb => by
    cases beqE_eq L hb
    exact refines_of L fun _ _ ⟨⟨⟨h1, h2⟩, h3⟩, ⟨h4, _⟩, h5⟩ => ⟨⟨⟨⟨h2, h4⟩, h1⟩, h3, h5⟩, by dsimp only [val]; ring⟩
  affine3 := fun hb => by
    cases beqE_eq L hb
    exact refines_of L fun _ _ ⟨⟨⟨h1, h2⟩, h3⟩, ⟨_, h4⟩, h5⟩ => ⟨⟨⟨⟨h1, h4⟩, h2⟩, h3, h5⟩, by dsimp only [val]; ring⟩
  affine4 := fun hb => by
    cases beqE_eq L hb
    exact refines_of L fun _ _ ⟨⟨⟨h1, h2⟩, h3⟩, ⟨h4, _⟩, h5⟩ => ⟨⟨⟨⟨h1, h4⟩, h2⟩, h3, h5⟩, by dsimp only [val]; ring⟩
  mulCommon := fun hb => by
    cases beqE_eq L hb
    exact refines_of L fun _ _ ⟨⟨ha, hx⟩, hr, _⟩ => ⟨⟨⟨ha, hr⟩, hx⟩, add_mul _ _ _⟩
  addCommon := fun hb => by
    cases beqE_eq L hb
    exact refines_of L fun _ _ ⟨⟨hx, hb⟩, _, hr⟩ => ⟨⟨⟨trivial, hx⟩, hb, hr⟩, by dsimp only [val]; rw [L.two]; ring⟩
  assocR := fun {op} _ _ _ h => by
    cases op <;> cases h
    · exact refines_of L fun _ _ ⟨hl, hb, hc⟩ => ⟨⟨⟨hl, hb⟩, hc⟩, add_assoc _ _ _⟩
    · exact refines_of L fun _ _ ⟨hl, hb, hc⟩ => ⟨⟨⟨hl, hb⟩, hc⟩, mul_assoc _ _ _⟩
  pseudoAssocR := fun {op} _ _ _ h => by
    have h1 : invOp .minus = .plus := rfl
    have h2 : invOp .slash = .star := rfl
    cases op <;> cases h <;> simp only [h1, h2]
    · exact refines_of L fun _ _ ⟨hl, hb, hc⟩ => ⟨⟨⟨hl, hc⟩, hb⟩, by dsimp only [val]; ring⟩
    · exact refines_of L fun _ _ ⟨hl, ⟨hb, hc, _⟩, bc0⟩ =>
        ⟨⟨⟨hl, hc⟩, hb, (div_ne_zero_iff.1 bc0).1⟩, by dsimp only [val] at bc0 ⊢; field_simp⟩
  assocL := fun {op} _ _ _ h => by
    cases op <;> cases h
    · exact refines_of L fun _ _ ⟨⟨ha, hb⟩, hr⟩ => ⟨⟨ha, hb, hr⟩, (add_assoc _ _ _).symm⟩
    · exact refines_of L fun _ _ ⟨⟨ha, hb⟩, hr⟩ => ⟨⟨ha, hb, hr⟩, (sub_sub _ _ _).symm⟩
    · exact refines_of L fun _ _ ⟨⟨ha, hb, b0⟩, hr, r0⟩ => ⟨⟨ha, ⟨hb, hr⟩, mul_ne_zero b0 r0⟩, (div_div _ _ _).symm⟩
    · exact refines_of L fun _ _ ⟨⟨ha, hb⟩, hr⟩ => ⟨⟨ha, hb, hr⟩, (mul_assoc _ _ _).symm⟩
  distR := fun _ _ _ => refines_of L fun _ _ ⟨hl, hb, hc⟩ => ⟨⟨⟨hl, hb⟩, hl, hc⟩, (mul_add _ _ _).symm⟩
  distL := fun _ _ _ => refines_of L fun _ _ ⟨⟨ha, hb⟩, hr⟩ => ⟨⟨⟨ha, hr⟩, hb, hr⟩, (add_mul _ _ _).symm⟩
  mulDivCancelL1 := fun hb => by
    cases beqE_eq L hb
    exact refines_of L fun _ _ ⟨⟨_, hq⟩, _, p0⟩ => ⟨hq, (mul_div_cancel_left₀ _ p0).symm⟩
  mulDivCancelL2 := fun hb => by
    cases beqE_eq L hb
    exact refines_of L fun _ _ ⟨⟨hp, _⟩, _, q0⟩ => ⟨hp, (mul_div_cancel_right₀ _ q0).symm⟩
  divMulCancelR1 := fun hb => by
    cases beqE_eq L hb
    exact refines_of L fun _ _ ⟨_, ⟨_, hq⟩, pq0⟩ =>
      have ⟨p0, q0⟩ := mul_ne_zero_iff.1 pq0
      ⟨⟨trivial, hq, q0⟩, by dsimp only [val]; rw [L.one]; field_simp⟩
  divMulCancelR2 := fun hb => by
    cases beqE_eq L hb
    exact refines_of L fun _ _ ⟨_, ⟨hp, _⟩, pq0⟩ =>
      have ⟨p0, q0⟩ := mul_ne_zero_iff.1 pq0
      ⟨⟨trivial, hp, p0⟩, by dsimp only [val]; rw [L.one]; field_simp⟩
  mulInDivL := fun _ _ _ => refines_of L fun _ _ ⟨⟨h1, h2⟩, hr, r0⟩ => ⟨⟨h1, h2, hr, r0⟩, (mul_div_assoc _ _ _).symm⟩
  mulInDivR := fun _ _ _ => refines_of L fun _ _ ⟨hl, ⟨h1, h2⟩, m0⟩ =>
    ⟨⟨⟨hl, h1, (mul_ne_zero_iff.1 m0).1⟩, h2, (mul_ne_zero_iff.1 m0).2⟩, div_div _ _ _⟩
  divMulCancelL := fun hb => by
    cases beqE_eq L hb
    exact refines_of L fun _ _ ⟨⟨ho, _, s0⟩, _⟩ => ⟨ho, (div_mul_cancel₀ _ s0).symm⟩
  mulDivCancelR := fun hb => by
    cases beqE_eq L hb
    exact refines_of L fun _ _ ⟨_, ho, _, s0⟩ => ⟨ho, (mul_div_cancel₀ _ s0).symm⟩

/-- The excluded arm really is not an identity: `0^%x ⇒ 0`, but at `%x = 0` the left side is `0^0 = 1`. -/
theorem powZeroBase_unsound :
    ¬ Refines (.bin (.number (0 : K)) .caret (.var "x")) (.number Scalar.zero) := by
  intro h
  have := h (fun _ => some 0) (fun _ => none) 1 (by simp [evalD, calcInfix, L.pow_zero])
  simp [evalD, L.zero] at this

end arms
end value

section leaves
variable {K : Type}

/-- A property of expressions decided at the leaves other than numbers: "`x` occurs", "the reference `a` occurs",
"`pi` occurs".  `P` is an *occurrence* ("some leaf is …"): to show that a property `Q` of all leaves survives
simplification take `P` to be its defect `¬ Q`; `(leafRel hP J).R o r`, which says `P r → P o`, then reads `Q o → Q r`. -/
structure LeafPred (P : Expr K → Prop) : Prop where
  bin : ∀ {a op b}, P (.bin a op b) ↔ P a ∨ P b
  pre : ∀ {op a}, P (.pre op a) ↔ P a
  call : ∀ {f a}, P (.call f a) ↔ P a
  num : ∀ {z}, ¬ P (.number z)

/-- hash-consing equality cannot tell a leaf property apart: it only identifies numbers, which have none -/
theorem LeafPred.iff_of_beqWith {P : Expr K → Prop} (hP : LeafPred P) {eq : K → K → Bool} :
    ∀ a b : Expr K, Expr.beqWith eq a b = true → (P a ↔ P b) :=
  beqWith_rec (fun _ => .rfl) (fun _ => .rfl) .rfl (fun _ _ _ => iff_of_false hP.num hP.num)
    (fun _ _ _ h => hP.call.trans (h.trans hP.call.symm)) (fun _ _ _ h => hP.pre.trans (h.trans hP.pre.symm))
    (fun _ _ _ _ _ h1 h2 => hP.bin.trans ((or_congr h1 h2).trans hP.bin.symm))

variable [SimpScalar K]

/-- **The relation of the structural clauses**, for a family `P` of leaf properties: every `P i` the replacement
has, the original has.  The class is "has no `P i` with `i` in `J`".  No arm is excluded.  `J` may only select
properties that no variable or memory-reference leaf has (else the hypothesis `hleaf` of `simplifyWith_sound` — every
leaf but `pi` is in the class — fails): in effect "`pi` occurs".  For any other property take `J := fun _ => False`;
the class is then everything and `simplify_sound_total`, `simplifyTopWith_sound_total` apply, without a depth bound. -/
def leafRel {ι : Type} {P : ι → Expr K → Prop} (hP : ∀ i, LeafPred (P i)) (J : ι → Prop) :
    Rel K (fun _ => False) := by
  refine' {
    R := fun o r => ∀ i, P i r → P i o
    Pre := fun e => ∀ i, J i → ¬ P i e
    preBin := by intros; simp only [(hP _).bin, not_or, imp_and, forall_and]
    prePre := by intros; simp only [(hP _).pre]
    preCall := by intros; simp only [(hP _).call]
    preNum := fun _ _ _ => (hP _).num
    keep := fun h hp i hj hr => hp i hj (h i hr)
    refl := fun _ _ h => h
    trans := fun h1 h2 i h => h1 i (h2 i h)
    beqL := fun h i => ((hP i).iff_of_beqWith _ _ h).mpr
    beqR := fun h i => ((hP i).iff_of_beqWith _ _ h).mp
    congBin := fun op h1 h2 i => by simp only [(hP i).bin]; exact Or.imp (h1 i) (h2 i)
    congPre := fun op h i => by simp only [(hP i).pre]; exact h i
    congCall := fun f h i => by simp only [(hP i).call]; exact h i
    numEqv := fun _ i h => absurd h (hP i).num
    piNum := fun i h => absurd h (hP i).num
    .. } <;>
  /- What is left are the arms' identities, and they all hold for the one reason: an arm builds its right side from
  subterms of its left side and from numbers.  The four `LeafPred` equations push the property to those subterms on
  both sides (a number has none); every disjunct of the hypothesis is then a disjunct of the conclusion. -/
  simp +contextual only [(hP _).bin, (hP _).pre, (hP _).call, (hP _).num, or_imp, true_or, or_true, and_self,
    implies_true, false_imp_iff]

def SubLeaves (o r : Expr K) : Prop :=
  (∀ x, x ∈ r.vars → x ∈ o.vars) ∧ (∀ a, a ∈ r.addrs → a ∈ o.addrs)

def Occ : String ⊕ MemRef → Expr K → Prop
  | .inl x, e => x ∈ e.vars
  | .inr a, e => a ∈ e.addrs

omit [SimpScalar K] in
theorem occ_leafPred : ∀ i, LeafPred (Occ (K := K) i)
  | .inl _ => ⟨List.mem_append, Iff.rfl, Iff.rfl, List.not_mem_nil⟩
  | .inr _ => ⟨List.mem_append, Iff.rfl, Iff.rfl, List.not_mem_nil⟩

/-- **"No new variables or memory references"**: the leaf relation of `Occ`, on all expressions. -/
def varsRel : Rel K (fun _ => False) := leafRel occ_leafPred (fun _ => False)

/-- the class of `varsRel` is everything -/
theorem varsRel_pre (e : Expr K) : varsRel.Pre e := fun _ => False.elim

theorem varsRel_iff {o r : Expr K} : varsRel.R o r ↔ SubLeaves o r :=
  Sum.forall

omit [SimpScalar K] in
theorem piFree_leafPred : LeafPred fun e : Expr K => piFree e = false :=
  ⟨Bool.and_eq_false_iff, Iff.rfl, Iff.rfl, Bool.noConfusion⟩

/-- **"No `pi`"**: the leaf relation of "`pi` occurs", on the class of `pi`-free expressions. -/
def piRel : Rel K (fun _ => False) := leafRel (fun _ : Unit => piFree_leafPred) (fun _ => True)

theorem piRel_pre {e : Expr K} : piRel.Pre e ↔ piFree e = true := by
  simp [piRel, leafRel]

theorem piRel_leaf (e : Expr K) (hd : e.depth = 0) (hpi : e ≠ .pi) : piRel.Pre e :=
  piRel_pre.mpr (by cases e <;> first | rfl | exact absurd rfl hpi | cases hd)

end leaves

/-! `ScalarLaws` is inhabited: the rationals, with `pow` some function satisfying the three laws. -/

instance ratSimpScalar : SimpScalar ℚ where
  add := (· + ·)
  sub := (· - ·)
  mul := (· * ·)
  div := (· / ·)
  pow x y := if y = 0 then 1 else if y = 1 then x else if x = 1 then 1 else 0
  neg := fun x => -x
  sin := id
  cos := id
  exp := id
  sqrt := id
  cis := id
  pi := 3
  zero := 0
  one := 1
  isZero x := decide (x = 0)
  isOne x := decide (x = 1)
  eqv x y := decide (x = y)
  nan := 0
  two := 2
  negOne := -1

theorem ratLaws : ScalarLaws ℚ where
  add := fun _ _ => rfl
  sub := fun _ _ => rfl
  mul := fun _ _ => rfl
  div := fun _ _ => rfl
  neg := fun _ => rfl
  zero := rfl
  one := rfl
  two := rfl
  negOne := rfl
  isZero := fun x => by simp [SimpScalar.isZero]
  isOne := fun x => by simp [SimpScalar.isOne]
  eqv := fun x y => by simp [SimpScalar.eqv]
  pow_zero := fun x => by simp [Scalar.pow]
  one_pow := fun y => by simp [Scalar.pow]
  pow_one := fun x => by simp [Scalar.pow]

end QV.C12
