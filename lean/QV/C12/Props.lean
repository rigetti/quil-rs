import QV.C12.Lemmas
/-
C12 — Expression simplification preserves the expression's value.

  "For every expression e and every assignment where e evaluates to a finite value, the simplified form of e
   evaluates to the same value up to floating-point rounding.  Simplification never introduces new variables or
   memory references, and never returns the symbolic constant pi."

Each theorem about the simplifier or about the entry point is `simplify_sound` or `simplifyTopWith_sound` (`Hoare.lean`)
at one relation of `Lemmas.lean`; only the clause `out ≠ pi` is read off the entry point's own case analysis
(`runWith_ind`, `simplifyTopWith_ind`).  No size bound, except that "no `pi` anywhere in the result" is proved for
expressions no deeper than the limit (`C12_piFree_depth11_counterexample`: it fails beyond).

* value clause: over any field `K` with `ScalarLaws` (exact arithmetic; `pow` opaque up to `x^0 = 1`, `1^y = 1`,
  `x^1 = x`; `sin cos exp sqrt cis` opaque).  PARTIAL in two declared ways: (a) the arm `0^e ⇒ 0` for non-constant
  `e` (known finding C12/zero-pow-variable-exponent) is excluded — the theorems hold for every run whose arm log
  does not contain `powZeroBase`, and `C12_value_full_counterexample` refutes the unrestricted statement;
  (b) IEEE effects (rounding, the 1e-10 tolerance of `is_zero`, signed zeros on branch cuts) are outside an exact
  field and are covered by the sampled correspondence check only.
* structural clauses: for every `SimpScalar` whatsoever, in particular the rounding `CFloat` the driver runs.
-/
namespace QV.C12
open QV Expr

section wrappers
variable {K : Type} [SimpScalar K]

theorem runWith_ind {P : Expr K × List Arm → Prop} (T : ArmTable K) (amb : List K) (e : Expr K)
    (h : ∀ out, out = simplifyWith T LIMIT e { cache := [], pool := numbers e ++ amb } →
      (out.1 ≠ .pi → P (out.1, out.2.2)) ∧ (out.1 = .pi → P (.number Scalar.pi, out.2.2))) :
    P (runWith T amb e) := by
  unfold runWith
  obtain ⟨h1, h2⟩ := h _ rfl
  generalize simplifyWith T LIMIT e { cache := [], pool := numbers e ++ amb } = out at h1 h2
  obtain ⟨r, s', w⟩ := out
  cases r with
  | pi => exact h2 rfl
  | _ => exact h1 nofun

theorem simplifyTopWith_ind {P : Expr K → Expr K × List Arm → Prop} (T : ArmTable K) (amb : List K)
    (leaf : ∀ e, e.depth = 0 → e ≠ .pi → P e (e, [])) (pi : P .pi (.number Scalar.pi, []))
    (run : ∀ e, P e (runWith T amb e)) (e : Expr K) : P e (simplifyTopWith T amb e) := by
  cases e with
  | pi => exact pi
  | call | bin | pre => exact run _
  | _ => exact leaf _ rfl nofun

end wrappers

section value
variable {K : Type} [Field K] [SimpScalar K]

def CacheSound (c : List (Expr K × Expr K)) : Prop := ∀ k v, (k, v) ∈ c → Refines k v

/-- **C12, value clause, the simplifier proper** (`Simplifier::simplify(e, Limit(n))`), partial as declared above.
For every limit `n`, expression `e` and state `s` (memo table — whatever earlier calls with *other limits* left in
it — and live numbers): if the memo table is sound, then either the run took the arm `0^e ⇒ 0`, or the memo table
it leaves is sound and the result refines `e`. -/
theorem C12_simplify_sound_partial (L : ScalarLaws K) (n : Nat) (e : Expr K) (s : St K)
    (hc : CacheSound s.cache) :
    Arm.powZeroBase ∈ (simplify n e s).2.2 ∨
      (CacheSound (simplify n e s).2.1.cache ∧ Refines e (simplify n e s).1) :=
  (simplify_sound_total (R := valueRel L) (fun _ => trivial) n e s hc).imp (fun ⟨_, ha, hb⟩ => hb ▸ ha) id

/- The full statement, which is FALSE of the code (and of the model):
     theorem C12_value_full (L : ScalarLaws K) (amb : List K) (e : Expr K) : Refines e (simplifyTop amb e)
   see `C12_value_full_counterexample`. -/

/-- **C12, value clause, at the entry point** (`Expression::simplify` / `into_simplified`): for every expression
and every set of live numbers, if the run did not take the arm `0^e ⇒ 0`, then at every assignment at which `e` is
defined (all variables and memory cells present, no division by zero) the simplified expression is defined and has
the same value. -/
theorem C12_value_partial (L : ScalarLaws K) (amb : List K) (e : Expr K)
    (hlog : Arm.powZeroBase ∉ (simplifyTopWith arms amb e).2) :
    ∀ ρ μ v, evalD ρ μ e = some v → evalD ρ μ (simplifyTop amb e) = some v :=
  (simplifyTopWith_sound_total (R := valueRel L) (fun _ => trivial) arms_sound amb e).elim
    (fun ⟨_, ha, hb⟩ => absurd (hb ▸ ha) hlog) id

/-- … and therefore the shared model of `Expression::evaluate` returns that value on the simplified expression. -/
theorem C12_value_partial_eval (L : ScalarLaws K) (amb : List K) (e : Expr K)
    (hlog : Arm.powZeroBase ∉ (simplifyTopWith arms amb e).2)
    (ρ : VarEnv K) (μ : MemEnv K) (v : K) (h : evalD ρ μ e = some v) :
    eval ρ μ (simplifyTop amb e) = .ok v :=
  evalD_eval ρ μ _ v (C12_value_partial L amb e hlog ρ μ v h)

end value

/-- the hypotheses of `C12_value_partial` are satisfiable on an expression that is really rewritten:
`(%x * %y) / %x ⇒ %y` -/
example : simplifyTop (K := ℚ) [] (.bin (.bin (.var "x") .star (.var "y")) .slash (.var "x")) = .var "y" ∧
    Arm.powZeroBase ∉
      (simplifyTopWith (K := ℚ) arms [] (.bin (.bin (.var "x") .star (.var "y")) .slash (.var "x"))).2 := by
  constructor
  · rfl
  · decide

/-- a sound, non-empty memo table -/
example : CacheSound (K := ℚ) [(.bin (.var "x") .plus (.number 0), .var "x")] := by
  intro k v h
  simp only [List.mem_singleton, Prod.mk.injEq] at h
  obtain ⟨rfl, rfl⟩ := h
  exact (valueRel ratLaws).addZeroR _ (by decide)

/-- The memo table ignores the limit, so the result depends on what was visited before: `%x + 0` simplifies to
`%x` from an empty table, but a visit with limit 0 leaves the entry `%x + 0 ↦ %x + 0`, and from that table the same
call (limit 10) returns `%x + 0`.  (Both results are sound; `C12_simplify_sound_partial` covers every such table.) -/
example :
    let e : Expr ℚ := .bin (.var "x") .plus (.number 0)
    (simplify 10 e { cache := [], pool := [] }).1 = .var "x" ∧
    (simplify 0 e { cache := [], pool := [] }).2.1.cache = [(e, e)] ∧
    (simplify 10 e { cache := [(e, e)], pool := [] }).1 = e := by
  refine ⟨by rfl, by rfl, by rfl⟩

/-- **The unrestricted value statement is false** (known finding C12/zero-pow-variable-exponent): `0^%x`
simplifies to `0`, but at `%x = 0` it is defined and evaluates to `0^0 = 1`. -/
theorem C12_value_full_counterexample :
    ¬ (∀ (e : Expr ℚ), Refines e (simplifyTop [] e)) := by
  intro h
  have h0 := h (.bin (.number 0) .caret (.var "x"))
  have hs : simplifyTop (K := ℚ) [] (.bin (.number 0) .caret (.var "x")) = .number 0 := by rfl
  rw [hs] at h0
  exact powZeroBase_unsound ratLaws h0

section structural
variable {K : Type} [SimpScalar K]

/-- **C12, "never introduces new variables or memory references"**, for the simplifier proper: every limit, every
expression, every state whose memo table has the property. -/
theorem C12_simplify_leaves (n : Nat) (e : Expr K) (s : St K)
    (hc : ∀ k v, (k, v) ∈ s.cache → SubLeaves k v) :
    (∀ k v, (k, v) ∈ (simplify n e s).2.1.cache → SubLeaves k v) ∧ SubLeaves e (simplify n e s).1 := by
  rcases simplify_sound_total (R := varsRel) varsRel_pre n e s fun k v h => varsRel_iff.mpr (hc k v h) with
    ⟨_, _, hf⟩ | h
  · exact hf.elim
  · exact ⟨fun k v hkv => varsRel_iff.mp (h.1 k v hkv), varsRel_iff.mp h.2⟩

/-- **C12, structural clauses at the entry point**: for every expression and every set of live numbers, the result
of `Expression::simplify` mentions only variables and memory references of the input, and it is not the symbolic
constant `pi` (`run` turns a `pi` result into the number: on `+(+(+(+(+(+(+(+(+((pi*%x)/%x)))))))))` the simplifier
proper returns `pi`, see the example at the end of the file). -/
theorem C12_structural (amb : List K) (e : Expr K) : StructSpec e (simplifyTop amb e) := by
  have hpi : (simplifyTopWith arms amb e).1 ≠ .pi :=
    simplifyTopWith_ind (P := fun _ out => out.1 ≠ .pi) arms amb (fun _ _ h => h) nofun
      (fun e => runWith_ind (P := fun out => out.1 ≠ .pi) arms amb e fun _ _ => ⟨id, fun _ => nofun⟩) e
  exact (simplifyTopWith_sound_total (R := varsRel) varsRel_pre arms_sound amb e).elim (fun ⟨_, _, hf⟩ => hf.elim)
    fun h => ⟨(varsRel_iff.mp h).1, (varsRel_iff.mp h).2, hpi⟩

/-- the Bool checker the driver evaluates on the implementation's output decides the structural specification -/
theorem C12_structSpecB_iff (e out : Expr K) : structSpecB e out = true ↔ StructSpec e out := by
  unfold structSpecB StructSpec
  simp only [Bool.and_eq_true, List.all_eq_true, List.contains_iff_mem, Bool.not_eq_true']
  constructor
  · rintro ⟨⟨h1, h2⟩, h3⟩
    refine ⟨h1, h2, ?_⟩
    intro hp; subst hp; simp [isPi] at h3
  · rintro ⟨h1, h2, h3⟩
    refine ⟨⟨h1, h2⟩, ?_⟩
    cases out <;> simp_all [isPi]

end structural

/-! ### "No `pi` anywhere in the result" — an additional, PARTIAL result

The property's clause is about the result *being* `pi` (`C12_structural`, all expressions).  The stronger "the result
*contains* no `pi`" holds exactly up to the depth the recursion limit can reach: -/

section pifree
variable {K : Type} [SimpScalar K]

/-- **No `pi` anywhere, up to the depth of the limit** (partial: `depth e ≤ n`).  For every limit `n`,
every expression no deeper than `n` and every state whose memoised values are `pi`-free (whatever their keys and
whatever limits they were computed with), the result contains no `pi` and the memoised values stay `pi`-free. -/
theorem C12_piFree_simplify_partial (n : Nat) (e : Expr K) (s : St K) (hd : e.depth ≤ n)
    (hc : ∀ k v, (k, v) ∈ s.cache → piFree v = true) :
    (∀ k v, (k, v) ∈ (simplify n e s).2.1.cache → piFree v = true) ∧ piFree (simplify n e s).1 = true := by
  have pre := fun k v h => piRel_pre.mpr (hc k v h)
  -- a `pi`-free value is `piRel`-related to every key: nothing is asked of the keys
  rcases simplify_sound piRel_leaf n e (.inr hd) s
    (fun k v h => ⟨pre k v h, fun i hv => absurd hv (pre k v h i trivial)⟩) with ⟨_, _, hf⟩ | h
  · exact absurd hf id
  · exact ⟨fun k v hkv => piRel_pre.mp (h.1 k v hkv).1, piRel_pre.mp h.2.2⟩

/-- … at the entry point: an expression of depth at most 10 simplifies to an expression without `pi`. -/
theorem C12_piFree_partial (amb : List K) (e : Expr K) (hd : e.depth ≤ LIMIT) :
    piFree (simplifyTop amb e) = true :=
  (simplifyTopWith_sound piRel_leaf arms_sound amb e (.inr hd)).elim (fun ⟨_, _, hf⟩ => hf.elim)
    fun h => piRel_pre.mp h.2

end pifree

/-- the nine-fold `+(…)` that exhausts the limit -/
def plus9 {K : Type} (e : Expr K) : Expr K :=
  .pre .plus (.pre .plus (.pre .plus (.pre .plus (.pre .plus (.pre .plus (.pre .plus (.pre .plus (.pre .plus e))))))))

/-- **The depth bound is tight, and this is outside the property's statement**: at depth 11 the limit is exhausted
inside; the result of `sin(+(+(+(+(+(+(+(+((pi*%x)/%x)))))))))` contains a `pi` (an inner one, it is not a `pi`
result). -/
theorem C12_piFree_depth11_counterexample :
    ∃ e : Expr ℚ, e.depth = 11 ∧ piFree (simplifyTop [] e) = false := by
  refine ⟨.call .sin (.pre .plus (.pre .plus (.pre .plus (.pre .plus (.pre .plus (.pre .plus (.pre .plus (.pre .plus
    (.bin (.bin .pi .star (.var "x")) .slash (.var "x")))))))))), by decide, by rfl⟩

/-- the simplifier proper returns `pi` here (limit exhausted), `run` turns it into the number -/
example : (simplify (K := ℚ) LIMIT (plus9 (.bin (.bin .pi .star (.var "x")) .slash (.var "x")))
      { cache := [], pool := [] }).1 = .pi ∧
    simplifyTop (K := ℚ) [] (plus9 (.bin (.bin .pi .star (.var "x")) .slash (.var "x"))) = .number 3 := by
  constructor <;> rfl

/-- the structural clauses hold in particular for the floating-point model that the driver runs against the code -/
example (amb : List CFloat) (e : Expr CFloat) : StructSpec e (simplifyTop amb e) := C12_structural amb e

end QV.C12
