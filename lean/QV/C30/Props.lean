import QV.C30.Lemmas
/-
C30 — Type checking is per-instruction and follows the typing rules.

  "A program type-checks iff each of its body instructions type-checks against the program's declarations
   on its own.  Every expression argument of SET-*/SHIFT-* must be real-valued at any nesting depth:
   declared REAL memory, real numbers or pi, combined by operators and functions, with no variables.  The
   verdict does not change under consistent renaming of memory regions or under reordering or duplicating
   instructions."

`imBig : K → Bool` is the test `value.im.abs() > f64::EPSILON` the code applies to a numeric literal (`K` is the
type of literals), and "real number" in the rules means `!imBig z`.
-/
namespace QV.C30
open QV

variable {K : Type}

theorem C30_realExprB_iff (isRealLit : K → Bool) (Γ : Decls) (e : Expr K) :
    realExprB isRealLit Γ e = true ↔ RealExpr isRealLit Γ e := by
  induction e with
  | address r =>
    simp only [realExprB, beq_iff_eq]
    exact ⟨fun h => .address h, fun h => by cases h; assumption⟩
  | call f e ih =>
    simp only [realExprB, ih]
    exact ⟨fun h => .call h, fun h => by cases h; assumption⟩
  | bin l o r ihl ihr =>
    simp only [realExprB, Bool.and_eq_true, ihl, ihr]
    exact ⟨fun h => .bin h.1 h.2, fun h => by cases h; exact ⟨by assumption, by assumption⟩⟩
  | number z =>
    simp only [realExprB]
    exact ⟨fun h => .number h, fun h => by cases h; assumption⟩
  | pi => simp only [realExprB]; exact ⟨fun _ => .pi, fun _ => trivial⟩
  | pre o e ih =>
    simp only [realExprB, ih]
    exact ⟨fun h => .pre h, fun h => by cases h; assumption⟩
  | var x => simp only [realExprB]; exact ⟨fun h => (by cases h), fun h => (by cases h)⟩

/-- **C30 (real-valued arguments, any nesting depth).**  `should_be_real` accepts an expression iff it is
built from declared-REAL memory references, real literals and pi by function calls, prefix and infix
operators — in particular it contains no variable, no undeclared and no non-REAL region, at any depth. -/
theorem C30_shouldBeReal_ok_iff (imBig : K → Bool) (Γ : Decls) (e : Expr K) :
    shouldBeReal imBig Γ e = .ok () ↔ RealExpr (fun z => !imBig z) Γ e := by
  rw [shouldBeReal_ok_iff_B, C30_realExprB_iff]

/-- `RealExpr` read on the leaves, as the property words it: no variables, declared REAL memory, real numbers. -/
theorem C30_realExpr_leaves (isRealLit : K → Bool) (Γ : Decls) (e : Expr K) :
    RealExpr isRealLit Γ e ↔
      e.vars = [] ∧ (∀ a ∈ e.addrs, Γ.get a.name = some .real) ∧ (∀ z ∈ literals e, isRealLit z = true) := by
  induction e with
  | address r =>
    simp only [Expr.vars, Expr.addrs, literals, List.mem_singleton, forall_eq, true_and, List.not_mem_nil,
      false_imp_iff, implies_true, and_true]
    exact ⟨fun h => by cases h; assumption, fun h => .address h⟩
  | call f e ih =>
    simp only [Expr.vars, Expr.addrs, literals, ← ih]
    exact ⟨fun h => by cases h; assumption, fun h => .call h⟩
  | bin l o r ihl ihr =>
    simp only [Expr.vars, Expr.addrs, literals, List.append_eq_nil_iff, List.mem_append]
    constructor
    · intro h
      cases h with
      | bin hl hr =>
        obtain ⟨a1, a2, a3⟩ := ihl.mp hl
        obtain ⟨b1, b2, b3⟩ := ihr.mp hr
        exact ⟨⟨a1, b1⟩, fun a ha => ha.elim (a2 a) (b2 a), fun z hz => hz.elim (a3 z) (b3 z)⟩
    · rintro ⟨⟨a1, b1⟩, h2, h3⟩
      exact .bin (ihl.mpr ⟨a1, fun a ha => h2 a (Or.inl ha), fun z hz => h3 z (Or.inl hz)⟩)
                 (ihr.mpr ⟨b1, fun a ha => h2 a (Or.inr ha), fun z hz => h3 z (Or.inr hz)⟩)
  | number z =>
    simp only [Expr.vars, Expr.addrs, literals, List.mem_singleton, forall_eq, true_and, List.not_mem_nil,
      false_imp_iff, implies_true]
    exact ⟨fun h => by cases h; assumption, fun h => .number h⟩
  | pi => simp [Expr.vars, Expr.addrs, literals]; exact .pi
  | pre o e ih =>
    simp only [Expr.vars, Expr.addrs, literals, ← ih]
    exact ⟨fun h => by cases h; assumption, fun h => .pre h⟩
  | var x =>
    simp only [Expr.vars, Expr.addrs, literals]
    exact ⟨fun h => (by cases h), fun h => (by simp at h)⟩

/-- **C30 (which error, any depth).**  `should_be_real` reports the defect of the LEFTMOST bad leaf of the
expression — undeclared region: `UndefinedMemoryReference`; non-REAL region, variable, non-real literal:
`RealValueRequired` — and succeeds iff there is none. -/
theorem C30_shouldBeReal_eq_first_leaf_error (imBig : K → Bool) (Γ : Decls) (e : Expr K) :
    shouldBeReal imBig Γ e =
      match (leafErrors imBig Γ e).head? with
      | none => .ok ()
      | some err => .error err := by
  induction e with
  | address r =>
    simp only [shouldBeReal, leafErrors]
    rcases Γ.get r.name with _ | t
    · rfl
    · cases t <;> simp
  | call f e ih => simpa [shouldBeReal, leafErrors] using ih
  | bin l o r ihl ihr =>
    simp only [shouldBeReal, leafErrors, ihl, ihr]
    cases hl : leafErrors imBig Γ l with
    | nil => simp
    | cons a as => simp
  | number z => simp only [shouldBeReal, leafErrors]; cases imBig z <;> simp
  | pi => simp [shouldBeReal, leafErrors]
  | pre o e ih => simpa [shouldBeReal, leafErrors] using ih
  | var x => simp [shouldBeReal, leafErrors]

theorem C30_wellTypedB_iff (isRealLit : K → Bool) (Γ : Decls) (i : Instr K) :
    wellTypedB isRealLit Γ i = true ↔ WellTyped isRealLit Γ i := by
  constructor
  · -- each shape of instruction has one rule, and the conjuncts of the checker are its premises
    intro h
    rcases i with ⟨k, e⟩ | ⟨d, _ | _ | s⟩ | ⟨d, l, _ | _ | r⟩ | ⟨d, _ | s⟩ | ⟨_ | _, x⟩ | ⟨d, _ | _ | s⟩ | ⟨l, r⟩ |
        ⟨d, s, o⟩ | ⟨d, o, _ | _ | s⟩ | _ <;>
      simp only [wellTypedB, Bool.and_eq_true, hasType_iff, sameType_iff, notReal_iff, isReal_iff, isInteger_iff,
        isBit_iff, isNumeric_iff, C30_realExprB_iff] at h
    · exact .realArg h
    · obtain ⟨t, h, rfl⟩ := h; exact .arithInt h
    · obtain ⟨t, h, rfl⟩ := h; exact .arithReal h
    · obtain ⟨t, h1, h2, h3⟩ := h; exact .arithRef h1 h2 h3
    · obtain ⟨⟨t, h, rfl⟩, t', h', ht'⟩ := h; exact .cmpInt h h' ht'
    · obtain ⟨⟨t, h, rfl⟩, t', h', rfl⟩ := h; exact .cmpReal h h'
    · obtain ⟨⟨t, h, rfl⟩, t', h1, h2, _⟩ := h; exact .cmpRef h h1 h2
    · obtain ⟨t, h, ht⟩ := h; exact .logicInt h ht
    · obtain ⟨⟨t, h, ht⟩, t', h', ht'⟩ := h; exact .logicRef h ht h' ht'
    · obtain ⟨t, h, ht⟩ := h; exact .neg h ht
    · obtain ⟨t, h, ht⟩ := h; exact .not h ht
    · obtain ⟨t, h, ht⟩ := h; exact .moveInt h ht
    · obtain ⟨t, h, rfl⟩ := h; exact .moveReal h
    · obtain ⟨t, h1, h2, _⟩ := h; exact .moveRef h1 h2
    · obtain ⟨t, h1, h2, _⟩ := h; exact .exchange h1 h2
    · obtain ⟨⟨t, h1, h2, _⟩, t', h', rfl⟩ := h; exact .load h1 h2 h'
    · obtain ⟨⟨t, h, ht⟩, t', h', rfl⟩ := h; exact .storeInt h ht h'
    · obtain ⟨⟨t, h, rfl⟩, t', h', rfl⟩ := h; exact .storeReal h h'
    · obtain ⟨⟨t, h1, h2, _⟩, t', h', rfl⟩ := h; exact .storeRef h1 h' h2
    · exact .other
  · -- on each rule the premises are the conjuncts
    intro h
    cases h <;>
      simp [wellTypedB, hasType_iff, sameType_iff, notReal_iff, isReal_iff, isInteger_iff, isBit_iff,
        isNumeric_iff, C30_realExprB_iff, *]

/-- **C30 (one instruction).**  The per-instruction check of `type_check` succeeds iff the instruction is
well-typed under the declarations according to the typing rules. -/
theorem C30_checkInstr_ok_iff (imBig : K → Bool) (Γ : Decls) (i : Instr K) :
    checkInstr imBig Γ i = .ok () ↔ WellTyped (fun z => !imBig z) Γ i := by
  rw [checkInstr_ok_iff_B, C30_wellTypedB_iff]

/-- **C30 (per-instruction).**  `type_check(program)` is `Ok` iff every body instruction, taken on its own,
is well-typed under the program's declarations. -/
theorem C30_typeCheck_ok_iff (imBig : K → Bool) (Γ : Decls) (body : List (Instr K)) :
    typeCheck imBig Γ body = .ok () ↔ ∀ i ∈ body, WellTyped (fun z => !imBig z) Γ i := by
  simp only [typeCheck, typeCheckFrom_ok_iff, C30_checkInstr_ok_iff]

/-- The Bool form the driver evaluates on the implementation's verdict. -/
theorem C30_allWellTypedB_iff (isRealLit : K → Bool) (Γ : Decls) (body : List (Instr K)) :
    allWellTypedB isRealLit Γ body = true ↔ ∀ i ∈ body, WellTyped isRealLit Γ i := by
  simp [allWellTypedB, List.all_eq_true, C30_wellTypedB_iff]

/-- **C30 (which error).**  `type_check` fails with error `err` "in instruction n" iff instruction `n` is
the FIRST body instruction whose own check fails, and `err` is that check's error. -/
theorem C30_typeCheck_error_iff (imBig : K → Bool) (Γ : Decls) (body : List (Instr K)) (n : Nat) (err : TypeErr) :
    typeCheck imBig Γ body = .error (n, err) ↔
      n < body.length ∧ (body[n]?.map (checkInstr imBig Γ)) = some (.error err) ∧
        ∀ j < n, (body[j]?.map (checkInstr imBig Γ)) = some (.ok ()) := by
  simp only [typeCheck, typeCheckFrom_error_iff, Nat.zero_add]
  constructor
  · rintro ⟨m, rfl, h⟩; exact h
  · intro h; exact ⟨n, rfl, h⟩

def accepts (imBig : K → Bool) (Γ : Decls) (body : List (Instr K)) : Bool :=
  match typeCheck imBig Γ body with
  | .ok _ => true
  | .error _ => false

/-- the Boolean verdict `accepts` is `typeCheck … = .ok ()` (with `C30_typeCheck_ok_iff`: every instruction well typed);
the four invariance theorems below are stated on it -/
theorem accepts_iff (imBig : K → Bool) (Γ : Decls) (body : List (Instr K)) :
    accepts imBig Γ body = true ↔ ∀ i ∈ body, WellTyped (fun z => !imBig z) Γ i := by
  rw [← C30_typeCheck_ok_iff]
  unfold accepts
  cases typeCheck imBig Γ body with
  | error e => simp
  | ok u => cases u; simp

/-- **C30 (order and multiplicity do not matter).**  Two bodies with the same *set* of instructions get the
same verdict under the same declarations. -/
theorem C30_verdict_depends_on_instruction_set (imBig : K → Bool) (Γ : Decls) (b₁ b₂ : List (Instr K))
    (h : ∀ i, i ∈ b₁ ↔ i ∈ b₂) : accepts imBig Γ b₁ = accepts imBig Γ b₂ := by
  rw [Bool.eq_iff_iff, accepts_iff, accepts_iff]
  exact ⟨fun H i hi => H i ((h i).mpr hi), fun H i hi => H i ((h i).mp hi)⟩

theorem C30_perm_invariant (imBig : K → Bool) (Γ : Decls) (b₁ b₂ : List (Instr K)) (h : b₁.Perm b₂) :
    accepts imBig Γ b₁ = accepts imBig Γ b₂ :=
  C30_verdict_depends_on_instruction_set imBig Γ b₁ b₂ (fun _ => h.mem_iff)

/-- duplicating: the whole body, or any instructions already present, appended at the end -/
theorem C30_duplication_invariant (imBig : K → Bool) (Γ : Decls) (b dup : List (Instr K))
    (h : ∀ i ∈ dup, i ∈ b) : accepts imBig Γ (b ++ dup) = accepts imBig Γ b :=
  C30_verdict_depends_on_instruction_set imBig Γ _ _ (fun i => by
    simp only [List.mem_append]; exact ⟨fun hi => hi.elim id (h i), Or.inl⟩)

theorem C30_append (imBig : K → Bool) (Γ : Decls) (b₁ b₂ : List (Instr K)) :
    accepts imBig Γ (b₁ ++ b₂) = (accepts imBig Γ b₁ && accepts imBig Γ b₂) := by
  rw [Bool.eq_iff_iff, Bool.and_eq_true, accepts_iff, accepts_iff, accepts_iff]
  simp only [List.mem_append]
  exact ⟨fun H => ⟨fun i hi => H i (Or.inl hi), fun i hi => H i (Or.inr hi)⟩,
         fun H i hi => hi.elim (H.1 i) (H.2 i)⟩

/-- **C30 (renaming), one instruction**: it suffices that `f` does not identify a region
the instruction mentions with a *different* declared region. -/
theorem C30_checkInstr_rename_on (imBig : K → Bool) (f : String → String) (Γ : Decls) (i : Instr K)
    (h : ∀ n ∈ i.names, ∀ m ∈ Γ.keys, f n = f m → n = m) :
    checkInstr imBig (Γ.rename f) (i.rename f) = checkInstr imBig Γ i :=
  checkInstr_congr imBig f Γ (Γ.rename f) i fun n hn => get_rename_on f Γ n (h n hn)

/-- **C30 (renaming), programs**: `f` injective on the declared names together with the names the body
mentions. -/
theorem C30_typeCheck_rename_on (imBig : K → Bool) (f : String → String) (Γ : Decls) (body : List (Instr K))
    (h : ∀ a ∈ Γ.keys ++ body.flatMap Instr.names, ∀ b ∈ Γ.keys ++ body.flatMap Instr.names, f a = f b → a = b) :
    typeCheck imBig (Γ.rename f) (body.map (Instr.rename f)) = typeCheck imBig Γ body :=
  typeCheck_rename_of_names_keys imBig f Γ body fun n hn m hm =>
    h n (List.mem_append_right _ hn) m (List.mem_append_left _ hm)

/-- **C30 (renaming), one instruction**: for a globally injective `f` nothing changes — not even the error. -/
theorem C30_checkInstr_rename (imBig : K → Bool) (f : String → String) (hf : ∀ a b, f a = f b → a = b)
    (Γ : Decls) (i : Instr K) :
    checkInstr imBig (Γ.rename f) (i.rename f) = checkInstr imBig Γ i :=
  C30_checkInstr_rename_on imBig f Γ i (fun n _ m _ => hf n m)

/-- **C30 (renaming), programs**: under a consistent injective renaming of memory regions `type_check`
returns the same result: `Ok`, or the same error for the same instruction index. -/
theorem C30_typeCheck_rename (imBig : K → Bool) (f : String → String) (hf : ∀ a b, f a = f b → a = b)
    (Γ : Decls) (body : List (Instr K)) :
    typeCheck imBig (Γ.rename f) (body.map (Instr.rename f)) = typeCheck imBig Γ body :=
  C30_typeCheck_rename_on imBig f Γ body (fun a _ b _ => hf a b)

/-- The hypothesis cannot be dropped: a renaming that identifies two regions of different types changes the
verdict (`MOVE i r` is ill-typed; after sending both names to `i` it is `MOVE i i`). -/
theorem C30_rename_needs_injectivity :
    ∃ (f : String → String) (Γ : Decls) (body : List (Instr Nat)),
      typeCheck (fun _ => false) (Γ.rename f) (body.map (Instr.rename f)) ≠ typeCheck (fun _ => false) Γ body :=
  ⟨fun _ => "i", [("i", .integer), ("r", .real)], [.move "i" (.mref "r")], by
    intro h
    have h' : (Except.ok () : Except (Nat × TypeErr) Unit) = .error (0, .dataTypeMismatch) := h
    cases h'⟩

private def Γ₀ : Decls := [("b", .bit), ("i", .integer), ("o", .octet), ("r", .real)]
private def big : Nat → Bool := fun z => z > 0

-- SET-PHASE 0 "f" sin(r[0]) * (0 + pi)   is real-valued, at depth 2 (the literal `0` is not `big`)
example : RealExpr (fun z => !big z) Γ₀
    (.bin (.call .sin (.address ⟨"r", 0⟩)) .star (.bin (.number 0) .plus .pi)) :=
  .bin (.call (.address rfl)) (.bin (.number rfl) .pi)
example : shouldBeReal big Γ₀ (.bin (.call .sin (.address ⟨"r", 0⟩)) .star (.bin (.number 0) .plus .pi))
    = .ok () := by rfl
-- a variable three levels down is rejected
example : shouldBeReal big Γ₀ (.pre .minus (.call .cos (.bin .pi .plus (.var "x"))))
    = .error .realValueRequired := by rfl
-- an undeclared region / an INTEGER region inside the expression
example : shouldBeReal big Γ₀ (.bin .pi .plus (.address ⟨"u", 0⟩)) = .error .undefinedMemoryReference := by rfl
example : shouldBeReal big Γ₀ (.bin .pi .plus (.address ⟨"i", 0⟩)) = .error .realValueRequired := by rfl
-- a two-instruction program that type-checks, one that does not (second instruction), and its permutation
example : typeCheck big Γ₀ [.arithmetic "i" .litInt, .comparison "b" "r" .litReal] = .ok () := by rfl
example : typeCheck big Γ₀ [.arithmetic "i" .litInt, .move "r" .litInt] = .error (1, .dataTypeMismatch) := by rfl
example : typeCheck big Γ₀ [.move "r" .litInt, .arithmetic "i" .litInt] = .error (0, .dataTypeMismatch) := by rfl
example : WellTyped (fun z => !big z) Γ₀ (.store "o" "i" (.mref "o")) := .storeRef rfl rfl rfl

end QV.C30
