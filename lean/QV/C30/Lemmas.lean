import QV.C30.Model
import QV.C30.Spec
/-! C30 lemmas: the Bool predicates of the checker unfolded; the model's checks against the Bool checker
(`shouldBeReal_ok_iff_B`, `checkInstr_ok_iff_B`); the loop (`typeCheckFrom_ok_iff`, `typeCheckFrom_error_iff`);
congruence: the check reads the declarations only through `get` at the names mentioned (`checkInstr_congr`). -/
namespace QV.C30
open QV

variable {K : Type}

theorem hasType_iff (Γ : Decls) (n : String) (p : ScalarType → Bool) :
    hasType Γ n p = true ↔ ∃ t, Γ.get n = some t ∧ p t = true := by
  unfold hasType
  cases Γ.get n <;> simp

theorem sameType_iff (Γ : Decls) (a b : String) (p : ScalarType → Bool) :
    sameType Γ a b p = true ↔ ∃ t, Γ.get a = some t ∧ Γ.get b = some t ∧ p t = true := by
  unfold sameType
  cases Γ.get a <;> cases Γ.get b <;> simp
  intro _; exact eq_comm

theorem notReal_iff (t : ScalarType) : notReal t = true ↔ t ≠ .real := by
  cases t <;> simp [notReal]
theorem isReal_iff (t : ScalarType) : isReal t = true ↔ t = .real := by
  cases t <;> simp [isReal]
theorem isInteger_iff (t : ScalarType) : isInteger t = true ↔ t = .integer := by
  cases t <;> simp [isInteger]
theorem isBit_iff (t : ScalarType) : isBit t = true ↔ t = .bit := by
  cases t <;> simp [isBit]
theorem isNumeric_iff (t : ScalarType) : isNumeric t = true ↔ t.numeric := by
  cases t <;> simp [isNumeric, ScalarType.numeric]

theorem shouldBeReal_ok_iff_B (imBig : K → Bool) (Γ : Decls) (e : Expr K) :
    (shouldBeReal imBig Γ e = .ok ()) ↔ realExprB (fun z => !imBig z) Γ e = true := by
  induction e with
  | address r =>
    simp only [shouldBeReal, realExprB]
    cases Γ.get r.name with
    | none => simp
    | some t => cases t <;> simp
  | call f e ih => simpa [shouldBeReal, realExprB] using ih
  | bin l o r ihl ihr =>
    simp only [shouldBeReal, realExprB, Bool.and_eq_true, ← ihl, ← ihr]
    cases shouldBeReal imBig Γ l <;> simp
  | number z => simp only [shouldBeReal, realExprB]; cases imBig z <;> simp
  | pi => simp [shouldBeReal, realExprB]
  | pre o e ih => simpa [shouldBeReal, realExprB] using ih
  | var x => simp [shouldBeReal, realExprB]

theorem ok_iff_of_isOk {r : TypeResult} {b : Bool} (h : r.isOk = b) : r = .ok () ↔ b = true := by
  subst h; rcases r with _ | ⟨⟨⟩⟩ <;> simp [Except.isOk, Except.toBool]

/-- Both sides are Boolean case distinctions on what `Γ.get` returns for the (at most three) regions mentioned.
They are compared value by value (`ok_iff_of_isOk`): a lookup is split into `none`/`some`, a declared type into
its four values, until both sides evaluate; `load` and `store` keep the test that two types are equal symbolic
(`by_cases`). -/
theorem checkInstr_ok_iff_B (imBig : K → Bool) (Γ : Decls) (i : Instr K) :
    (checkInstr imBig Γ i = .ok ()) ↔ wellTypedB (fun z => !imBig z) Γ i = true := by
  cases i with
  | realArg k e => exact shouldBeReal_ok_iff_B imBig Γ e
  | other => exact ok_iff_of_isOk rfl
  | arithmetic d s =>
    refine ok_iff_of_isOk ?_
    -- `dsimp only` lets the match on (operand, type of `d`) fire, which exposes the operand's own lookup
    cases s <;> simp only [checkInstr, checkArithmetic, wellTypedB, hasType, sameType] <;>
      rcases Γ.get d with _ | a <;> (try rfl) <;> cases a <;> (try rfl) <;> dsimp only <;>
      rcases Γ.get _ with _ | b <;> (try rfl) <;> cases b <;> rfl
  | comparison d l r =>
    refine ok_iff_of_isOk ?_
    cases r <;> simp only [checkInstr, checkComparison, wellTypedB, hasType, sameType] <;>
      rcases Γ.get d with _ | a <;> rcases Γ.get l with _ | b <;> (try rfl) <;> cases a <;> (try rfl) <;>
      cases b <;> (try rfl) <;> rcases Γ.get _ with _ | c <;> (try rfl) <;> cases c <;> rfl
  | binaryLogic d s =>
    refine ok_iff_of_isOk ?_
    cases s <;> simp only [checkInstr, checkBinaryLogic, checkBinaryLogicRef, wellTypedB, hasType] <;>
      rcases Γ.get d with _ | a <;> (try rfl) <;> cases a <;> (try rfl) <;>
      rcases Γ.get _ with _ | b <;> (try rfl) <;> cases b <;> rfl
  | unaryLogic op x =>
    refine ok_iff_of_isOk ?_
    cases op <;> simp only [checkInstr, checkUnaryLogic, wellTypedB, hasType] <;>
      rcases Γ.get x with _ | a <;> (try rfl) <;> cases a <;> rfl
  | move d s =>
    refine ok_iff_of_isOk ?_
    cases s <;> simp only [checkInstr, checkMove, wellTypedB, hasType, sameType] <;>
      rcases Γ.get d with _ | a <;> (try rfl) <;> cases a <;> (try rfl) <;>
      rcases Γ.get _ with _ | b <;> (try rfl) <;> cases b <;> rfl
  | exchange l r =>
    refine ok_iff_of_isOk ?_
    simp only [checkInstr, checkExchange, wellTypedB, sameType]
    rcases Γ.get l with _ | a <;> rcases Γ.get r with _ | b <;> (try rfl) <;> cases a <;> cases b <;> rfl
  | load d s o =>
    simp only [checkInstr, checkLoad, wellTypedB, hasType, sameType]
    rcases Γ.get d with _ | a <;> rcases Γ.get s with _ | b <;> rcases Γ.get o with _ | c <;> simp [isInteger]
    by_cases hc : c = .integer <;> by_cases hab : a = b <;> simp [hc, hab]
  | store d o s =>
    cases s <;> simp only [checkInstr, checkStore, wellTypedB, hasType, sameType] <;>
      rcases Γ.get d with _ | a <;> rcases Γ.get o with _ | c <;> simp [isInteger] <;>
      by_cases hc : c = .integer <;> simp [hc]
    · cases a <;> simp [notReal]
    · cases a <;> simp [isReal]
    · rcases Γ.get _ with _ | b <;> simp <;> exact eq_comm

theorem typeCheckFrom_ok_iff (imBig : K → Bool) (Γ : Decls) (k : Nat) (body : List (Instr K)) :
    typeCheckFrom imBig Γ k body = .ok () ↔ ∀ i ∈ body, checkInstr imBig Γ i = .ok () := by
  induction body generalizing k with
  | nil => simp [typeCheckFrom]
  | cons i rest ih =>
    simp only [typeCheckFrom, List.mem_cons, forall_eq_or_imp]
    cases h : checkInstr imBig Γ i with
    | error e => simp
    | ok u => cases u; simp [ih]

/-- A failing head is the witness `m = 0`; under a passing head the witness of the tail moves one place up. -/
theorem typeCheckFrom_error_iff (imBig : K → Bool) (Γ : Decls) (k : Nat) (body : List (Instr K))
    (n : Nat) (err : TypeErr) :
    typeCheckFrom imBig Γ k body = .error (n, err) ↔
      ∃ m, n = k + m ∧ m < body.length ∧ (body[m]?.map (checkInstr imBig Γ)) = some (.error err) ∧
        ∀ j < m, (body[j]?.map (checkInstr imBig Γ)) = some (.ok ()) := by
  induction body generalizing k with
  | nil => simp [typeCheckFrom]
  | cons i rest ih =>
    simp only [typeCheckFrom]
    cases h : checkInstr imBig Γ i with
    | error e =>
      simp only [Except.error.injEq, Prod.mk.injEq]
      constructor
      · rintro ⟨rfl, rfl⟩
        exact ⟨0, rfl, by simp, by simp [h], by intro j hj; omega⟩
      · rintro ⟨m, hn, _, hm, hall⟩
        cases m with
        | zero => simp [h] at hm; exact ⟨hn.symm ▸ rfl, hm⟩
        | succ m =>
          have := hall 0 (by omega)
          simp [h] at this
    | ok u =>
      cases u
      simp only [ih]
      constructor
      · rintro ⟨m, hn, hlt, hm, hall⟩
        refine ⟨m + 1, by omega, by simp; omega, by simpa using hm, ?_⟩
        intro j hj
        cases j with
        | zero => simp [h]
        | succ j => simpa using hall j (by omega)
      · rintro ⟨m, hn, hlt, hm, hall⟩
        cases m with
        | zero => simp [h] at hm
        | succ m =>
          refine ⟨m, by omega, by simpa using hlt, by simpa using hm, ?_⟩
          intro j hj
          simpa using hall (j + 1) (by omega)

theorem get_rename_on (f : String → String) (Γ : Decls) (n : String)
    (h : ∀ m ∈ Γ.keys, f n = f m → n = m) : (Γ.rename f).get (f n) = Γ.get n := by
  induction Γ with
  | nil => rfl
  | cons p rest ih =>
    obtain ⟨m, t⟩ := p
    have ih' := ih (fun m' hm' => h m' (by simp [Decls.keys] at hm' ⊢; exact Or.inr hm'))
    simp only [Decls.rename, Decls.get, List.map_cons, List.lookup_cons] at *
    by_cases hnm : n = m
    · subst hnm; simp
    · have : f n ≠ f m := fun e => hnm (h m (by simp [Decls.keys]) e)
      simp [beq_eq_false_iff_ne.mpr hnm, beq_eq_false_iff_ne.mpr this]
      exact ih'

theorem shouldBeReal_congr (imBig : K → Bool) (f : String → String) (Γ Γ' : Decls) (e : Expr K)
    (h : ∀ a ∈ e.addrs, Γ'.get (f a.name) = Γ.get a.name) :
    shouldBeReal imBig Γ' (renameExpr f e) = shouldBeReal imBig Γ e := by
  induction e with
  | address r => simp only [renameExpr, shouldBeReal, h r (by simp [Expr.addrs])]
  | call g e ih => exact ih h
  | bin l o r ihl ihr =>
    simp only [Expr.addrs, List.mem_append] at h
    simp only [renameExpr, shouldBeReal, ihl fun a ha => h a (.inl ha), ihr fun a ha => h a (.inr ha)]
  | pre o e ih => exact ih h
  | number z => rfl
  | pi => rfl
  | var x => rfl

/-- The per-instruction check reads the declarations only through `get` at the names the instruction mentions.
`Γ` is the context of `i` itself (right side), `Γ'` that of the renamed instruction (left side), and `Γ'` at `f n` has
to answer what `Γ` answers at `n`.  Stated with a renaming because the end results are; at `f := id` the left side still
reads `i.rename id` (there is no `Instr.rename_id`). -/
theorem checkInstr_congr (imBig : K → Bool) (f : String → String) (Γ Γ' : Decls) (i : Instr K)
    (h : ∀ n ∈ i.names, Γ'.get (f n) = Γ.get n) :
    checkInstr imBig Γ' (i.rename f) = checkInstr imBig Γ i := by
  cases i
  case realArg k e => exact shouldBeReal_congr imBig f Γ Γ' e fun a ha => h _ (List.mem_map_of_mem ha)
  case other => rfl
  -- rewrite the lookups and the two checks are the same expression; where the checker matches on the operand and a
  -- declared type together, the type has to be a constructor before the operand's own lookup shows
  all_goals simp only [Instr.names, List.forall_mem_cons] at h
  case arithmetic d s =>
    simp only [Instr.rename, checkInstr, checkArithmetic, h.1]
    rcases Γ.get d with _ | t <;> try rfl
    cases s with
    | mref s => cases t <;> simp only [ArithOperand.rename, h.2 s (List.mem_singleton_self s)]
    | _ => cases t <;> rfl
  case comparison d l r =>
    simp only [Instr.rename, checkInstr, checkComparison, h.1, h.2.1]
    rcases Γ.get d with _ | t <;> rcases Γ.get l with _ | u <;> try rfl
    cases t <;> try rfl
    cases r with
    | mref r => cases u <;> simp only [CmpOperand.rename, h.2.2 r (List.mem_singleton_self r)]
    | _ => cases u <;> rfl
  case binaryLogic d s =>
    cases s <;> simp only [BinOperand.names, List.forall_mem_cons] at h <;>
      simp only [Instr.rename, BinOperand.rename, checkInstr, checkBinaryLogic, checkBinaryLogicRef, h]
  case unaryLogic op x =>
    simp only [Instr.rename, checkInstr, checkUnaryLogic, h]
  case move d s =>
    simp only [Instr.rename, checkInstr, checkMove, h.1]
    rcases Γ.get d with _ | t <;> try rfl
    cases s with
    | mref s => cases t <;> simp only [ArithOperand.rename, h.2 s (List.mem_singleton_self s)]
    | _ => cases t <;> rfl
  case exchange l r =>
    simp only [Instr.rename, checkInstr, checkExchange, h]
  case load d s o =>
    simp only [Instr.rename, checkInstr, checkLoad, h]
  case store d o s =>
    simp only [Instr.rename, checkInstr, checkStore, h.1, h.2.1]
    rcases Γ.get d with _ | t <;> rcases Γ.get o with _ | u <;> try rfl
    cases s with
    | mref s => cases t <;> simp only [ArithOperand.rename, h.2.2 s (List.mem_singleton_self s)]
    | _ => cases t <;> rfl

/-- The hypothesis the induction needs: `f` does not identify a region the body mentions with a *different*
declared region (two undeclared names, or two declared ones the body does not mention, may collapse). -/
theorem typeCheck_rename_of_names_keys (imBig : K → Bool) (f : String → String) (Γ : Decls)
    (body : List (Instr K)) (h : ∀ n ∈ body.flatMap Instr.names, ∀ m ∈ Γ.keys, f n = f m → n = m) :
    typeCheck imBig (Γ.rename f) (body.map (Instr.rename f)) = typeCheck imBig Γ body := by
  unfold typeCheck
  generalize 0 = k
  induction body generalizing k with
  | nil => rfl
  | cons i rest ih =>
    simp only [List.flatMap_cons, List.mem_append] at h
    simp only [List.map_cons, typeCheckFrom, ih fun n hn => h n (.inr hn),
      checkInstr_congr imBig f Γ (Γ.rename f) i fun n hn => get_rename_on f Γ n (h n (.inl hn))]

end QV.C30
